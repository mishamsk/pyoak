/-
C18 — acyclicity of the child graph: the two notions the theorems are stated with (cf. AUDIT.md, C18).

`Inv` (Props/LegacyBase.lean) does not exclude cycles of the child graph: with a colliding content
digest the inadmissible call `leaf.replace_with(root of its own tree)` returns and leaves a cyclic,
attached, `Inv`-satisfying state (see `cyclic_reachable` in Props/C18Acyclic.lean).  The property
text restricts the histories to those "that never put one node object at two positions"; putting a
node below one of its own descendants is the case that matters for the upward walks and for the
content id.  This file states

  Ranked s        the child graph of the existing objects is acyclic (a rank function that strictly
                  decreases along every child link);
  Admissible s op the side condition on one operation, a predicate of the state and the request
                  only: `replace_with(new)` / `replace(**changes)` on a receiver that has a parent
                  `p` must not insert a node from which `p` can be reached along child links.

The theorems are in Props/C18Acyclic.lean (preservation, existence of the independently built tree
for `cid_eq_spec`) and Props/C18Queries.lean (`ancestors` / `get_depth` / `is_ancestor`).
-/
import PyOak.Props.C18
namespace PyOak.Legacy.C18
open PyOak PyOak.Legacy LState

/-- the child graph of the existing objects is acyclic: some rank strictly decreases along every
child link (the objects beyond `size` are junk, nothing is claimed about them) -/
def Ranked (s : LState) : Prop :=
  ∃ r : Nat → Nat, ∀ x, x < s.size → ∀ c ∈ (s.obj x).kidList, r c < r x

/-- **admissibility of one operation** ("never puts a node below itself"): the only operations that
add a child link between two *pre-existing* parts of the heap are `replace_with(new)` and
`replace(**changes)` on a receiver that has a parent `p` (the parent's field then stores `new`, resp.
the re-created node whose children are the given ones).  They are admissible when `p` is not
reachable along child links from the node(s) put below it.  Every other operation is admissible:
construction / duplication only add links from a new object to older ones, attach / detach add none. -/
def Admissible (s : LState) : LOp → Prop
  | .rwith u (some n) => ∀ p, s.parent u = some p → ¬ Desc s n p
  | .replace u ch => ∀ p, s.parent u = some p → ∀ c ∈ ch.fields.flatMap (·.2), ¬ Desc s c p
  | _ => True

/-- a decidable certificate for `¬ Desc s n p` on a concrete state: a list that contains `n`, is closed
under child links and does not contain `p` -/
theorem not_desc_of_closed {s : LState} {n p : Nat} (S : List Nat) (hn : n ∈ S)
    (hcl : ∀ x ∈ S, ∀ c ∈ (s.obj x).kidList, c ∈ S) (hp : p ∉ S) : ¬ Desc s n p := by
  intro hd
  apply hp
  clear hp
  induction hd with
  | refl => exact hn
  | step _ hk ih => exact hcl _ ih _ hk

end PyOak.Legacy.C18
