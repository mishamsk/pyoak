/-
C05, complements — the clauses of the C05 statement that `Props/C05.lean` proves only for the
top-down depth-first stream, for **all three** traversals, every prune `P` and every filter `F`:

 (a) the filter never affects descent: the stream is the unfiltered stream, filtered;
 (b) the three orders enumerate the same positions (`List.Perm`), for every `P`, `F`;
 (c) position soundness / start node never yielded for `dfs(bottom_up=True)` and `bfs`;
 (d) prune semantics: a pruned position is offered to the filter, nothing is produced below it;
     membership in any of the three streams = reachable through not-pruned positions ∧ `F`;
 (e) exactly once: the positions yielded are pairwise distinct as (parent uid, field, index).
-/
import PyOak.Props.C05
import PyOak.Spec.Tree
import PyOak.Lemmas.Framing
namespace PyOak
namespace C05X
open C05

variable (P F : Item → Bool)

theorem preItems_nil : preItems P F [] = [] := rfl
theorem postItems_nil : postItems P F [] = [] := rfl

/-! ### (a) the filter does not affect descent -/

theorem preItems_filter (its : List Item) :
    preItems P F its = (preItems P (fun _ => true) its).filter F := by
  induction its using items_induction P with
  | nil => rfl
  | cons it st ih1 ih2 =>
    rw [preItems_cons, preItems_cons, ih1, ih2]
    cases hF : F it <;> simp [hF]

theorem postItems_filter (its : List Item) :
    postItems P F its = (postItems P (fun _ => true) its).filter F := by
  induction its using items_induction P with
  | nil => rfl
  | cons it st ih1 ih2 =>
    rw [postItems_cons, postItems_cons, ih1, ih2]
    cases hF : F it <;> simp [hF]

/-- `dfs(prune, filter)` = `filter` applied to `dfs(prune)` -/
theorem pre_filter (n : Node) : pre P F n = (pre P (fun _ => true) n).filter F := by
  rw [pre_eq_preItems, pre_eq_preItems]; exact preItems_filter P F _

/-- `dfs(prune, filter, bottom_up=True)` = `filter` applied to `dfs(prune, bottom_up=True)` -/
theorem post_filter (n : Node) : post P F n = (post P (fun _ => true) n).filter F := by
  rw [post_eq_postItems, post_eq_postItems]; exact postItems_filter P F _

/-- `bfs(prune, filter)` = `filter` applied to `bfs(prune)` -/
theorem bfs_filter (n : Node) : bfs P F n = (bfs P (fun _ => true) n).filter F := by
  simp [bfs]

theorem dfsImpl_filter (b : Bool) (n : Node) :
    dfsImpl P F b n = (dfsImpl P (fun _ => true) b n).filter F := by
  cases b
  · rw [dfs_top_down, dfs_top_down]; exact pre_filter P F n
  · rw [dfs_bottom_up, dfs_bottom_up]; exact post_filter P F n

theorem bfsImpl_filter (n : Node) : bfsImpl P F n = (bfsImpl P (fun _ => true) n).filter F := by
  rw [bfs_levels, bfs_levels]; exact bfs_filter P F n

/-! ### (b) the three orders enumerate the same positions -/

/-- **post-order is a permutation of pre-order**, for every prune and filter: pruning cuts the
same subtrees in both directions -/
theorem post_perm_pre (n : Node) : (post P F n).Perm (pre P F n) := by
  rw [post_eq_postItems, pre_eq_preItems]; exact postItems_perm_preItems P F _

/-- the fuel-free queue loop started on `q` enumerates the pre-order positions below `q` -/
theorem bfsFrom_perm_preItems (q : List Item) : (bfsFrom P q).Perm (preItems P (fun _ => true) q) := by
  generalize hk : weight q = k
  induction k using Nat.strongRecOn generalizing q with
  | _ k ih =>
    cases q with
    | nil => exact .refl _
    | cons it st =>
      have hko := weight_kidsOf P it
      rw [weight_cons] at hk
      rw [bfsFrom_cons, preItems_cons, if_pos rfl, List.append_assoc]
      refine .cons it ((ih _ (by rw [weight_append]; omega) _ rfl).trans ?_)
      rw [preItems_append]
      exact List.perm_append_comm

/-- **level order is a permutation of pre-order**, for every prune and filter -/
theorem bfs_perm_pre (n : Node) : (bfs P F n).Perm (pre P F n) := by
  rw [← bfs_levels, bfsImpl_eq_bfsFrom, pre_filter, pre_eq_preItems]
  exact (bfsFrom_perm_preItems P n.items).filter F

theorem bfs_perm_post (n : Node) : (bfs P F n).Perm (post P F n) :=
  (bfs_perm_pre P F n).trans (post_perm_pre P F n).symm

/-- the `P = ⊥` instances: every order enumerates all proper-descendant positions -/
theorem post_perm_pre_noprune (n : Node) :
    (post (fun _ => false) F n).Perm (pre (fun _ => false) F n) := post_perm_pre _ F n
theorem bfs_perm_pre_noprune (n : Node) :
    (bfs (fun _ => false) F n).Perm (pre (fun _ => false) F n) := bfs_perm_pre _ F n

theorem dfsImpl_perm_pre (b : Bool) (n : Node) : (dfsImpl P F b n).Perm (pre P F n) := by
  cases b
  · rw [dfs_top_down]
  · rw [dfs_bottom_up]; exact post_perm_pre P F n
theorem bfsImpl_perm_pre (n : Node) : (bfsImpl P F n).Perm (pre P F n) := by
  rw [bfs_levels]; exact bfs_perm_pre P F n

theorem dfsImpl_bottom_up_perm (n : Node) : (dfsImpl P F true n).Perm (dfsImpl P F false n) :=
  (dfsImpl_perm_pre P F true n).trans (dfsImpl_perm_pre P F false n).symm
theorem bfsImpl_perm (n : Node) : (bfsImpl P F n).Perm (dfsImpl P F false n) :=
  (bfsImpl_perm_pre P F n).trans (dfsImpl_perm_pre P F false n).symm

/-! ### (c) position soundness and start-node exclusion, all traversals -/

/-- every `(node, parent, field, index)` yielded by `dfs(bottom_up=True)` is a real position -/
theorem dfs_bottom_up_yield_sound (n : Node) (x : Item) (hx : x ∈ dfsImpl P F true n) :
    (x.node, x.edge) ∈ x.parent.edges :=
  dfs_yield_sound P F n x ((dfsImpl_bottom_up_perm P F n).mem_iff.mp hx)

/-- every `(node, parent, field, index)` yielded by `bfs` is a real position -/
theorem bfs_yield_sound (n : Node) (x : Item) (hx : x ∈ bfsImpl P F n) :
    (x.node, x.edge) ∈ x.parent.edges :=
  dfs_yield_sound P F n x ((bfsImpl_perm P F n).mem_iff.mp hx)

/-- `dfs(bottom_up=True)` never yields the start node -/
theorem dfs_bottom_up_never_yields_start (n : Node) (x : Item) (hx : x ∈ dfsImpl P F true n) :
    x.node.size < n.size :=
  dfs_never_yields_start P F n x ((dfsImpl_bottom_up_perm P F n).mem_iff.mp hx)

/-- `bfs` never yields the start node -/
theorem bfs_never_yields_start (n : Node) (x : Item) (hx : x ∈ bfsImpl P F n) :
    x.node.size < n.size :=
  dfs_never_yields_start P F n x ((bfsImpl_perm P F n).mem_iff.mp hx)

/-! ### (d) prune semantics -/

/-- a pruned position is still offered to the filter; nothing below it is produced (pre-order) -/
theorem preN_pruned (it : Item) (h : P it = true) :
    preN P F it.parent it.edge it.node = if F it then [it] else [] := by
  rw [preN_unfold, if_pos h, List.append_nil]

theorem postN_pruned (it : Item) (h : P it = true) :
    postN P F it.parent it.edge it.node = if F it then [it] else [] := by
  rw [postN_unfold, if_pos h, List.nil_append]

/-- level order: a pruned position contributes nothing to the next level -/
theorem kidsOf_pruned (it : Item) (h : P it = true) : kidsOf P it = [] := if_pos h

theorem nextLevel_pruned (lvl : List Item) (h : ∀ it ∈ lvl, P it = true) : nextLevel P lvl = [] := by
  induction lvl with
  | nil => rfl
  | cons it r ih =>
    rw [nextLevel_cons, kidsOf_pruned P it (h it List.mem_cons_self),
      ih (fun x hx => h x (List.mem_cons_of_mem _ hx))]
    rfl

/-- the queue loop of `bfs` on a pruned head: yield it (if the filter accepts), enqueue nothing -/
theorem bfsLoop_pruned (fuel : Nat) (it : Item) (q : List Item) (h : P it = true) :
    bfsLoop P F (fuel + 1) (it :: q) = (if F it then [it] else []) ++ bfsLoop P F fuel q := by
  rw [bfsLoop_cons, kidsOf_pruned P it h, List.append_nil]

/-- a not-pruned position: itself (if the filter accepts), then everything below it -/
theorem preN_not_pruned (it : Item) (h : P it = false) :
    preN P F it.parent it.edge it.node = (if F it then [it] else []) ++ preItems P F it.node.items := by
  rw [preN_unfold, h]; rfl

/-- a filtered-out position is skipped, descent is unaffected -/
theorem preN_filtered_out (it : Item) (h : F it = false) :
    preN P F it.parent it.edge it.node = if P it then [] else preItems P F it.node.items := by
  rw [preN_unfold, h]; rfl

/-- `Reach P its x`: the position `x` is a member of `its` or is stored in a position that is
reachable and **not pruned** -/
inductive Reach (its : List Item) : Item → Prop where
  | top {x : Item} : x ∈ its → Reach its x
  | down {y x : Item} : Reach its y → P y = false → x ∈ y.node.items → Reach its x

theorem Reach.mono {a b : List Item} (hab : ∀ x ∈ a, x ∈ b) {x : Item} (h : Reach P a x) :
    Reach P b x := by
  induction h with
  | top hx => exact .top (hab _ hx)
  | down _ hp hx ih => exact .down ih hp hx

theorem Reach.through {its : List Item} {it x : Item} (hit : Reach P its it) (hp : P it = false)
    (h : Reach P it.node.items x) : Reach P its x := by
  induction h with
  | top hx => exact .down hit hp hx
  | down _ hp' hx ih => exact .down ih hp' hx

theorem mem_preItems_self (its : List Item) (x : Item) (hx : x ∈ its) :
    x ∈ preItems P (fun _ => true) its :=
  List.mem_flatMap.mpr ⟨x, hx, by rw [preN_unfold]; exact List.mem_append_left _ (List.mem_singleton.mpr rfl)⟩

theorem preItems_closed (its : List Item) (y x : Item) (hy : y ∈ preItems P (fun _ => true) its)
    (hp : P y = false) (hx : x ∈ y.node.items) : x ∈ preItems P (fun _ => true) its := by
  induction its using items_induction P with
  | nil => cases hy
  | cons it st ih1 ih2 =>
    rw [preItems_cons, if_pos rfl, List.mem_append, List.mem_append] at hy ⊢
    rcases hy with (hy | hy) | hy
    · rw [List.mem_singleton.mp hy] at hp hx
      exact .inl (.inr (mem_preItems_self P _ x ((mem_kidsOf P).mpr ⟨hp, hx⟩)))
    · exact .inl (.inr (ih1 hy))
    · exact .inr (ih2 hy)

theorem reach_of_mem_preItems (its : List Item) (x : Item) (hx : x ∈ preItems P F its) :
    Reach P its x :=
  preItems_forall P F (fun _ hit hp _ hc => .down hit hp hc) its (fun _ h => .top h) x hx

theorem mem_preItems_of_reach (its : List Item) (x : Item) (hr : Reach P its x) :
    x ∈ preItems P (fun _ => true) its := by
  induction hr with
  | top hx => exact mem_preItems_self P its _ hx
  | down _ hp hx ih => exact preItems_closed P its _ _ ih hp hx

/-- **membership in the pre-order stream**: reachable through not-pruned positions, and accepted
by the filter (the position itself may be pruned; the filter plays no role in reachability) -/
theorem mem_preItems_iff (its : List Item) (x : Item) :
    x ∈ preItems P F its ↔ Reach P its x ∧ F x = true := by
  rw [preItems_filter, List.mem_filter]
  exact and_congr_left fun _ => ⟨reach_of_mem_preItems P _ its x, mem_preItems_of_reach P its x⟩

/-- `x` is yielded by `dfs(prune, filter)` iff it is reachable from the children of the start node
through not-pruned positions and the filter accepts it -/
theorem mem_pre_iff (n : Node) (x : Item) : x ∈ pre P F n ↔ Reach P n.items x ∧ F x = true := by
  rw [pre_eq_preItems]; exact mem_preItems_iff P F _ x

/-- the three implementation-shaped loops yield exactly the reachable, accepted positions -/
theorem mem_dfsImpl_iff (b : Bool) (n : Node) (x : Item) :
    x ∈ dfsImpl P F b n ↔ Reach P n.items x ∧ F x = true := by
  rw [(dfsImpl_perm_pre P F b n).mem_iff]; exact mem_pre_iff P F n x

theorem mem_bfsImpl_iff (n : Node) (x : Item) :
    x ∈ bfsImpl P F n ↔ Reach P n.items x ∧ F x = true := by
  rw [(bfsImpl_perm_pre P F n).mem_iff]; exact mem_pre_iff P F n x

/-- nothing is reachable *through* a pruned position: from a pruned `it` only `it` itself -/
theorem reach_pruned (it x : Item) (h : P it = true) : Reach P [it] x ↔ x = it := by
  constructor
  · intro hr
    induction hr with
    | top hx => exact List.mem_singleton.mp hx
    | down _ hp _ ih => rw [ih, h] at hp; cases hp
  · rintro rfl; exact .top (List.mem_singleton.mpr rfl)

/-- whole-stream form: the stream below a pruned position is that position alone (if accepted) -/
theorem preItems_pruned (it : Item) (h : P it = true) :
    preItems P F [it] = if F it then [it] else [] := by
  rw [preItems_cons, kidsOf_pruned P it h]; simp [preItems_nil]

/-- pruning more yields less: a stronger prune predicate yields a sub-stream's worth of positions -/
theorem reach_antitone (P' : Item → Bool) (hPP : ∀ it, P it = true → P' it = true)
    {its : List Item} {x : Item} (h : Reach P' its x) : Reach P its x := by
  induction h with
  | top hx => exact .top hx
  | @down y _ _ hp hx ih =>
    refine .down ih ?_ hx
    cases hy : P y
    · rfl
    · rw [hPP y hy] at hp; cases hp

theorem kidsOf_antitone (P' : Item → Bool) (hPP : ∀ it, P it = true → P' it = true) (it : Item) :
    kidsOf P' it = [] ∨ kidsOf P' it = kidsOf P it := by
  unfold kidsOf
  cases hP' : P' it
  · cases hP : P it
    · exact .inr rfl
    · rw [hPP it hP] at hP'; cases hP'
  · exact .inl rfl

/-- pruning more only removes positions, the order of the rest is unchanged (pre-order) -/
theorem preItems_sublist (P' : Item → Bool) (hPP : ∀ it, P it = true → P' it = true)
    (its : List Item) : (preItems P' F its).Sublist (preItems P F its) := by
  induction its using items_induction P with
  | nil => exact .refl _
  | cons it st ih1 ih2 =>
    rw [preItems_cons, preItems_cons]
    refine ((List.Sublist.refl _).append ?_).append ih2
    rcases kidsOf_antitone P P' hPP it with h | h <;> rw [h]
    · exact List.nil_sublist _
    · exact ih1

/-- `dfs(prune=P)` is a subsequence of `dfs()` (same filter): pruning cuts, never reorders or adds -/
theorem pre_sublist_noprune (n : Node) : (pre P F n).Sublist (pre (fun _ => false) F n) := by
  rw [pre_eq_preItems, pre_eq_preItems]
  exact preItems_sublist (fun _ => false) F P (fun _ h => nomatch h) _

theorem postItems_sublist (P' : Item → Bool) (hPP : ∀ it, P it = true → P' it = true)
    (its : List Item) : (postItems P' F its).Sublist (postItems P F its) := by
  induction its using items_induction P with
  | nil => exact .refl _
  | cons it st ih1 ih2 =>
    rw [postItems_cons, postItems_cons]
    refine (List.Sublist.append ?_ (.refl _)).append ih2
    rcases kidsOf_antitone P P' hPP it with h | h <;> rw [h]
    · exact List.nil_sublist _
    · exact ih1

theorem post_sublist_noprune (n : Node) : (post P F n).Sublist (post (fun _ => false) F n) := by
  rw [post_eq_postItems, post_eq_postItems]
  exact postItems_sublist (fun _ => false) F P (fun _ h => nomatch h) _

/-! ### (e) exactly once -/

/-- the identity of a position: the parent *object*, the field and the index -/
def Item.key (it : Item) : Nat × Str × Option Nat := (it.parent.uid, it.edge.field, it.edge.idx)

theorem key_eq_iff (a b : Item) :
    Item.key a = Item.key b ↔ a.parent.uid = b.parent.uid ∧ a.edge = b.edge := by
  obtain ⟨_, _, ⟨_, _⟩⟩ := a
  obtain ⟨_, _, ⟨_, _⟩⟩ := b
  simp only [Item.key, Prod.mk.injEq, Edge.mk.injEq]

/-- inside the node no two children are stored under the same (field, index) -/
def EdgesNodup (n : Node) : Prop := (n.edges.map (·.2)).Nodup

/-- … for every node of the tree -/
def WellKeyed (root : Node) : Prop := ∀ m ∈ allNodes root, EdgesNodup m

/-- all proper-descendant positions, pre-order (no prune, no filter) -/
def desc (n : Node) : List Item := pre (fun _ => false) (fun _ => true) n

theorem allNodes_eq (n : Node) : allNodes n = n :: (desc n).map (·.node) := by
  rw [allNodes, dfs_top_down]; rfl

theorem pre_rec (n : Node) : pre P (fun _ => true) n =
    n.items.flatMap fun it => it :: (if P it then [] else pre P (fun _ => true) it.node) := by
  rw [pre_eq_preItems]
  unfold preItems
  congr 1
  funext it
  rw [preN_unfold, pre_eq_preItems]
  rfl

theorem desc_eq (n : Node) : desc n = n.items.flatMap (fun it => it :: desc it.node) :=
  pre_rec (fun _ => false) n

theorem allNodes_rec (n : Node) : allNodes n = n :: n.items.flatMap (fun it => allNodes it.node) := by
  rw [allNodes_eq, desc_eq, List.map_flatMap]
  congr 2
  funext it
  rw [allNodes_eq]; rfl

/-- induction on the size of the start node -/
theorem node_induction {motive : Node → Prop}
    (step : ∀ n, (∀ it ∈ n.items, motive it.node) → motive n) : ∀ n, motive n := by
  intro n
  generalize hk : n.size = k
  induction k using Nat.strongRecOn generalizing n with
  | _ k ih =>
    exact step n (fun it hit => ih it.node.size (by have := items_size n it hit; omega) it.node rfl)

theorem allNodes_child_sub (n : Node) (it : Item) (h : it ∈ n.items) (m : Node)
    (hm : m ∈ allNodes it.node) : m ∈ allNodes n := by
  rw [allNodes_rec]
  exact List.mem_cons_of_mem _ (List.mem_flatMap.mpr ⟨it, h, hm⟩)

/-- the parent recorded in a yielded position is the start node or a yielded node -/
theorem desc_parent_mem (n : Node) (x : Item) (hx : x ∈ desc n) : x.parent ∈ allNodes n := by
  induction n using node_induction with
  | step n ih =>
    rw [desc_eq] at hx
    obtain ⟨it, hit, hx⟩ := List.mem_flatMap.mp hx
    rcases List.mem_cons.mp hx with rfl | hx
    · rw [items_parent n x hit, allNodes_rec]; exact List.mem_cons_self
    · exact allNodes_child_sub n it hit _ (ih it hit hx)

theorem noRepeat_iff (n : Node) : NoRepeat n ↔
    (∀ it ∈ n.items, ∀ m ∈ allNodes it.node, m.uid ≠ n.uid) ∧
    (∀ it ∈ n.items, NoRepeat it.node) ∧
    n.items.Pairwise fun a b => ∀ m ∈ allNodes a.node, ∀ m' ∈ allNodes b.node, m.uid ≠ m'.uid := by
  unfold NoRepeat
  rw [allNodes_rec, List.map_cons, List.nodup_cons, List.map_flatMap, List.Nodup,
    List.pairwise_flatMap]
  simp only [List.mem_map, List.mem_flatMap, not_exists, not_and, forall_exists_index, and_imp,
    forall_apply_eq_imp_iff₂]

theorem wellKeyed_child (n : Node) (hW : WellKeyed n) (it : Item) (h : it ∈ n.items) :
    WellKeyed it.node := fun m hm => hW m (allNodes_child_sub n it h m hm)

/-- **exactly once**: in a tree without repeated objects whose nodes store at most one child per
(field, index), the positions yielded by an unpruned, unfiltered traversal are pairwise distinct
as (parent object, field, index) triples -/
theorem desc_keys_nodup (n : Node) (hR : NoRepeat n) (hW : WellKeyed n) :
    ((desc n).map Item.key).Nodup := by
  induction n using node_induction with
  | step n ih =>
    obtain ⟨hroot, hkids, hdisj⟩ := (noRepeat_iff n).mp hR
    have hedge : n.items.Pairwise (fun a b => a.edge ≠ b.edge) := by
      have : (n.edges.map (·.2)).Nodup := hW n (by rw [allNodes_rec]; exact List.mem_cons_self)
      rw [List.Nodup, List.pairwise_map] at this
      exact List.pairwise_map.mpr this
    -- a position in the block of the child position `it` is `it` itself, stored in `n`, or is
    -- stored in a node below `it`
    have hblock : ∀ it ∈ n.items, ∀ x ∈ it :: desc it.node,
        (x = it ∧ x.parent = n) ∨ x.parent ∈ allNodes it.node := by
      intro it hit x hx
      rcases List.mem_cons.mp hx with rfl | hx
      · exact .inl ⟨rfl, items_parent n x hit⟩
      · exact .inr (desc_parent_mem it.node x hx)
    rw [desc_eq, List.map_flatMap]
    refine List.pairwise_flatMap.mpr ⟨fun it hit => ?_, ?_⟩
    · refine List.nodup_cons.mpr
        ⟨fun hmem => ?_, ih it hit (hkids it hit) (wellKeyed_child n hW it hit)⟩
      obtain ⟨x, hx, hkx⟩ := List.mem_map.mp hmem
      have h1 := ((key_eq_iff x it).mp hkx).1
      rw [items_parent n it hit] at h1
      exact hroot it hit _ (desc_parent_mem it.node x hx) h1
    · refine List.Pairwise.imp_of_mem ?_ (hedge.and hdisj)
      rintro a b ha hb ⟨hab, hd⟩ _ hkx _ hky heq
      obtain ⟨x, hx, rfl⟩ := List.mem_map.mp hkx
      obtain ⟨y, hy, rfl⟩ := List.mem_map.mp hky
      obtain ⟨hu, he⟩ := (key_eq_iff x y).mp heq
      rcases hblock a ha x hx with ⟨rfl, hxp⟩ | hxp <;> rcases hblock b hb y hy with ⟨rfl, hyp⟩ | hyp
      · exact hab he
      · rw [hxp] at hu; exact hroot _ hb _ hyp hu.symm
      · rw [hyp] at hu; exact hroot _ ha _ hxp hu
      · exact hd _ hxp _ hyp hu

/-- hence the positions themselves are pairwise distinct -/
theorem desc_nodup_positions (n : Node) (hR : NoRepeat n) (hW : WellKeyed n) :
    (desc n).Pairwise (fun a b => Item.key a ≠ Item.key b) :=
  List.pairwise_map.mp (desc_keys_nodup n hR hW)

theorem pre_sublist_desc (n : Node) : (pre P F n).Sublist (desc n) := by
  rw [pre_filter]
  exact List.filter_sublist.trans (pre_sublist_noprune P _ n)

/-- with any prune and filter every order yields each position at most once … -/
theorem pre_keys_nodup (n : Node) (hR : NoRepeat n) (hW : WellKeyed n) :
    ((pre P F n).map Item.key).Nodup :=
  (desc_keys_nodup n hR hW).sublist ((pre_sublist_desc P F n).map _)

theorem dfsImpl_length_lt (b : Bool) (n : Node) : (dfsImpl P F b n).length < n.size := by
  have h := (pre_sublist_desc P F n).length_le
  have := dfs_all_positions n
  rw [dfs_top_down] at this
  rw [(dfsImpl_perm_pre P F b n).length_eq]
  unfold desc at h
  omega

/-- … on the implementation-shaped loops: no position is yielded twice, by any traversal -/
theorem dfsImpl_keys_nodup (b : Bool) (n : Node) (hR : NoRepeat n) (hW : WellKeyed n) :
    ((dfsImpl P F b n).map Item.key).Nodup :=
  (((dfsImpl_perm_pre P F b n).map Item.key).nodup_iff).mpr (pre_keys_nodup P F n hR hW)

theorem bfsImpl_keys_nodup (n : Node) (hR : NoRepeat n) (hW : WellKeyed n) :
    ((bfsImpl P F n).map Item.key).Nodup :=
  (((bfsImpl_perm_pre P F n).map Item.key).nodup_iff).mpr (pre_keys_nodup P F n hR hW)

/-- … and, unpruned and unfiltered, every order yields `size - 1` positions: together with
`mem_…_iff` (each reachable position is yielded) this is "each proper-descendant position
exactly once" -/
theorem all_orders_length (n : Node) :
    (dfsImpl (fun _ => false) (fun _ => true) true n).length + 1 = n.size ∧
    (bfsImpl (fun _ => false) (fun _ => true) n).length + 1 = n.size := by
  have h := dfs_all_positions n
  exact ⟨by rw [(dfsImpl_bottom_up_perm _ _ n).length_eq]; exact h,
         by rw [(bfsImpl_perm _ _ n).length_eq]; exact h⟩

/-! #### (d), whole-stream form: nothing below a pruned position is visited -/

/-- `x` is a position strictly below the position `it` -/
def Below (it x : Item) : Prop := Reach (fun _ => false) it.node.items x

/-- a position no not-pruned path leads to is yielded by no traversal -/
theorem unreachable_not_yielded (n : Node) (x : Item) (h : ¬ Reach P n.items x) (b : Bool) :
    x ∉ dfsImpl P F b n ∧ x ∉ bfsImpl P F n :=
  ⟨fun hx => h ((mem_dfsImpl_iff P F b n x).mp hx).1, fun hx => h ((mem_bfsImpl_iff P F n x).mp hx).1⟩

theorem mem_desc_iff (n : Node) (x : Item) : x ∈ desc n ↔ Reach (fun _ => false) n.items x := by
  rw [desc, mem_pre_iff, and_iff_left rfl]

theorem mem_desc_of_reach (n : Node) (x : Item) (h : Reach P n.items x) : x ∈ desc n :=
  (mem_desc_iff n x).mpr (reach_antitone (fun _ => false) P (fun _ h => nomatch h) h)

theorem desc_eq_of_node (n : Node) (hR : NoRepeat n) {y z : Item} (hy : y ∈ desc n)
    (hz : z ∈ desc n) (h : y.node = z.node) : y = z := by
  unfold NoRepeat at hR
  rw [allNodes_eq, List.map_cons, List.map_map] at hR
  exact Framing.eq_of_nodup_map _ _ (List.nodup_cons.mp hR).2 y hy z hz (congrArg Node.uid h)

theorem mem_desc_of_below (n : Node) (it z : Item) (hit : it ∈ desc n) (hz : Below it z) :
    z ∈ desc n :=
  (mem_desc_iff n z).mpr (Reach.through _ ((mem_desc_iff n it).mp hit) rfl hz)

/-- in a tree without repeated objects every position has one way up, so no not-pruned path leads
below a pruned position -/
theorem not_reach_below_pruned (n : Node) (hR : NoRepeat n) (it x : Item) (hit : it ∈ desc n)
    (hP : P it = true) (hx : Below it x) : ¬ Reach P n.items x := by
  -- a position reached through not-pruned positions and stored in the node of `z` is reached
  -- through `z`
  have up : ∀ z x, z ∈ desc n → x ∈ z.node.items → Reach P n.items x →
      Reach P n.items z ∧ P z = false := by
    intro z x hz hxz hr
    cases hr with
    | top hx =>
      have h1 := (items_parent n x hx).symm.trans (items_parent z.node x hxz)
      have := dfs_never_yields_start _ _ n z (by rw [dfs_top_down]; exact hz)
      rw [← h1] at this
      exact absurd this (Nat.lt_irrefl _)
    | @down y _ hy hp hxy =>
      have : y = z := desc_eq_of_node n hR (mem_desc_of_reach P n y hy) hz
        ((items_parent _ x hxy).symm.trans (items_parent _ x hxz))
      exact this ▸ ⟨hy, hp⟩
  induction hx with
  | top hx => intro hr; have := (up it _ hit hx hr).2; rw [hP] at this; cases this
  | down hz _ hxz ih => intro hr; exact ih (up _ _ (mem_desc_of_below n it _ hit hz) hxz hr).1

/-- **a pruned position is offered to the filter, none of its descendants is visited** — by any of
the three traversals: in a tree without repeated objects (positions pairwise distinct), if the
traversal reaches `it` and `P it` holds, no position below `it` is yielded -/
theorem pruned_descendants_not_visited_impl (n : Node) (hR : NoRepeat n) (hW : WellKeyed n)
    (it x : Item) (hit : it ∈ dfsImpl P (fun _ => true) false n) (hP : P it = true) (hx : Below it x)
    (b : Bool) :
    Item.key x ∉ (dfsImpl P F b n).map Item.key ∧ Item.key x ∉ (bfsImpl P F n).map Item.key := by
  have hit' := mem_desc_of_reach P n it ((mem_dfsImpl_iff P _ false n it).mp hit).1
  have hx' := mem_desc_of_below n it x hit' hx
  -- the keys of `desc n` are pairwise distinct: a yielded position with the key of `x` is `x`
  have key : ∀ y, Reach P n.items y → Item.key y ≠ Item.key x := fun y hy he =>
    not_reach_below_pruned P n hR it x hit' hP hx
      (Framing.eq_of_nodup_map _ _ (desc_keys_nodup n hR hW) y (mem_desc_of_reach P n y hy) x hx' he ▸ hy)
  constructor
  · intro hm
    obtain ⟨y, hy, he⟩ := List.mem_map.mp hm
    exact key y ((mem_dfsImpl_iff P F b n y).mp hy).1 he
  · intro hm
    obtain ⟨y, hy, he⟩ := List.mem_map.mp hm
    exact key y ((mem_bfsImpl_iff P F n y).mp hy).1 he

/-! #### a sufficient condition for `WellKeyed`: class-table consistency -/

/-- child-field names pairwise distinct, a single (non-collection) field holds at most one node -/
structure KidsOK (n : Node) : Prop where
  nodup : (n.kids.map Kid.name).Nodup
  single : ∀ k ∈ n.kids, k.coll = false → k.nodes.length ≤ 1

theorem kid_edges_field (k : Kid) (c : Node) (e : Edge) (h : (c, e) ∈ k.edges) : e.field = k.name := by
  cases k with
  | mk name coll ns =>
    rw [kid_edges_eq] at h
    obtain ⟨p, _, hp⟩ := List.mem_map.mp h
    rw [← (Prod.mk.inj hp).2]; rfl

theorem edgesNodup_of_kidsOK (n : Node) (h : KidsOK n) : EdgesNodup n := by
  unfold EdgesNodup Node.edges
  rw [List.map_flatMap]
  refine List.pairwise_flatMap.mpr ⟨?_, ?_⟩
  · intro k hk
    have hs := h.single k hk
    cases k with
    | mk name coll ns =>
      cases coll
      · have := hs rfl
        simp only [Kid.nodes] at this
        match ns, this with
        | [], _ => simp [Kid.edges]
        | [a], _ => simp [Kid.edges]
      · simp only [Kid.edges, List.map_map]
        exact enumFrom_edges_nodup name 0 ns
  · have := h.nodup
    rw [List.Nodup, List.pairwise_map] at this
    refine this.imp ?_
    intro k1 k2 hne x hx y hy heq
    obtain ⟨⟨c1, e1⟩, h1, rfl⟩ := List.mem_map.mp hx
    obtain ⟨⟨c2, e2⟩, h2, rfl⟩ := List.mem_map.mp hy
    have f1 := kid_edges_field k1 c1 e1 h1
    have f2 := kid_edges_field k2 c2 e2 h2
    simp only at heq
    subst heq
    exact hne (f1.symm.trans f2)

theorem wellKeyed_of_kidsOK (root : Node) (h : ∀ m ∈ allNodes root, KidsOK m) : WellKeyed root :=
  fun m hm => edgesNodup_of_kidsOK m (h m hm)

private def hd (u : Nat) (c : Str) : Head :=
  { uid := u, cls := c, mro := [c], org := ⟨0, []⟩, props := [], truthy := true }
private def leaf (u : Nat) : Node := .mk (hd u ['L']) []
private def mid : Node := .mk (hd 2 ['M']) [.mk ['x'] false [leaf 3], .mk ['y'] true [leaf 5, leaf 6]]
private def tree : Node := .mk (hd 0 ['R']) [.mk ['a'] true [leaf 1, mid], .mk ['b'] false [leaf 4]]

private def noP : Item → Bool := fun _ => false
private def allF : Item → Bool := fun _ => true
private def pr2 : Item → Bool := fun it => it.node.uid == 2
private def odd : Item → Bool := fun it => it.node.uid % 2 == 1

-- the three orders, same positions
example : (dfsImpl noP allF false tree).map (·.node.uid) = [1, 2, 3, 5, 6, 4] := by decide
example : (dfsImpl noP allF true tree).map (·.node.uid) = [1, 3, 5, 6, 2, 4] := by decide
example : (bfsImpl noP allF tree).map (·.node.uid) = [1, 2, 4, 3, 5, 6] := by decide
-- pruned at uid 2: the pruned node is yielded, nothing below it, in every order
example : (dfsImpl pr2 allF false tree).map (·.node.uid) = [1, 2, 4] := by decide
example : (dfsImpl pr2 allF true tree).map (·.node.uid) = [1, 2, 4] := by decide
example : (bfsImpl pr2 allF tree).map (·.node.uid) = [1, 2, 4] := by decide
-- filtered: uid 2 is skipped, its children are still visited
example : (dfsImpl noP odd false tree).map (·.node.uid) = [1, 3, 5] := by decide
example : (dfsImpl noP odd true tree).map (·.node.uid) = [1, 3, 5] := by decide
example : (bfsImpl noP odd tree).map (·.node.uid) = [1, 3, 5] := by decide
-- pruned and filtered out: neither the node nor anything below it
example : (dfsImpl pr2 odd false tree).map (·.node.uid) = [1] := by decide
-- the keys of the positions
example : (desc tree).map Item.key =
    [(0, ['a'], some 0), (0, ['a'], some 1), (2, ['x'], none), (2, ['y'], some 0),
     (2, ['y'], some 1), (0, ['b'], none)] := by decide
example : NoRepeat tree := by unfold NoRepeat; decide
example : ∀ m ∈ allNodes tree, (m.edges.map (·.2)).Nodup := by decide +kernel

-- the hypotheses of `pruned_descendants_not_visited_impl` are satisfiable: prune at `mid` (uid 2),
-- which is reached; the position of `leaf 3` is below it
private def midPos : Item := ⟨mid, tree, ⟨['a'], some 1⟩⟩
private def leaf3Pos : Item := ⟨leaf 3, mid, ⟨['x'], none⟩⟩
example : Reach pr2 tree.items midPos := .top (List.Mem.tail _ (List.Mem.head _))
example : pr2 midPos = true := by decide
example : Below midPos leaf3Pos := .top (List.Mem.head _)
example : Item.key leaf3Pos ∉ (dfsImpl pr2 allF false tree).map Item.key := by decide
example : Item.key leaf3Pos ∈ (dfsImpl noP allF false tree).map Item.key := by decide

/-- `WellKeyed` is needed: two nodes in one single field share (parent, field, index) -/
private def twoInSingle : Node := .mk (hd 0 ['R']) [.mk ['x'] false [leaf 1, leaf 2]]
example : NoRepeat twoInSingle ∧ ¬ ((desc twoInSingle).map Item.key).Nodup := by
  unfold NoRepeat; decide

/-- `NoRepeat` is needed: the same object stored twice has its child position yielded twice -/
private def shared : Node := .mk (hd 0 ['R']) [.mk ['a'] true [mid, mid]]
example : (∀ m ∈ allNodes shared, (m.edges.map (·.2)).Nodup) ∧ ¬ ((desc shared).map Item.key).Nodup := by
  decide +kernel

#print axioms dfs_bottom_up_yield_sound
#print axioms bfs_yield_sound
#print axioms dfs_bottom_up_never_yields_start
#print axioms bfs_never_yields_start
#print axioms post_perm_pre
#print axioms bfs_perm_pre
#print axioms bfs_perm_post
#print axioms post_perm_pre_noprune
#print axioms bfs_perm_pre_noprune
#print axioms dfsImpl_bottom_up_perm
#print axioms bfsImpl_perm
#print axioms pre_filter
#print axioms post_filter
#print axioms bfs_filter
#print axioms dfsImpl_filter
#print axioms bfsImpl_filter
#print axioms preN_pruned
#print axioms postN_pruned
#print axioms bfsLoop_pruned
#print axioms nextLevel_pruned
#print axioms preItems_pruned
#print axioms reach_pruned
#print axioms mem_pre_iff
#print axioms mem_dfsImpl_iff
#print axioms mem_bfsImpl_iff
#print axioms pre_sublist_noprune
#print axioms post_sublist_noprune
#print axioms pruned_descendants_not_visited_impl
#print axioms unreachable_not_yielded
#print axioms desc_keys_nodup
#print axioms dfsImpl_keys_nodup
#print axioms bfsImpl_keys_nodup
#print axioms all_orders_length
#print axioms wellKeyed_of_kidsOK

end C05X
end PyOak
