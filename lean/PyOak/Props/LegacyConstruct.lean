/-
`__post_init__` (construction over existing children) preserves the invariant; a rejected construction
leaves every pre-existing record and the registry untouched.  The fields of a `replace` and the shape
lemmas of `duplicate` (whose invariant proof is in LegacyDupFrame).
-/
import PyOak.Props.LegacyAttach
namespace PyOak.Legacy
open LState

section
variable (H Hc : Str → Str)

/-! ### changing a node that is not in the registry -/

/-- Rewriting an object that the registry does not mention (under any key) is invisible to the
invariant, as long as no parent link is stored and the child fields stay (or the object is
beyond `size`, where nothing is claimed about child fields). -/
theorem inv_modify_unregistered {X : Nat → (Nat × Str × Option Nat) → Prop} {Y : Nat → Prop} {s : LState} {u : Nat} (hI : InvX Hc X Y s)
    (hreg : ∀ k, s.lookup k ≠ some u)
    (f : LObj → LObj) (hf : s.size ≤ u ∨ (f (s.obj u)).fields = (s.obj u).fields)
    (hp : (f (s.obj u)).pid = none) (hwf : (f (s.obj u)).wf) (hXu : ∀ q e, X q e → e.1 ≠ u) :
    InvX Hc X Y (s.modify u f) := by
  have hobj : ∀ v, v ≠ u → (s.modify u f).obj v = s.obj v := fun v hv => modify_obj_ne s u f v hv
  have hid : ∀ v, v ≠ u → (s.modify u f).idOf v = s.idOf v := by
    intro v hv; unfold LState.idOf; rw [hobj v hv]
  have hnatt' : ¬ Att (s.modify u f) u := by unfold Att; rw [modify_lookup]; exact hreg _
  have hatt : ∀ v, Att (s.modify u f) v ↔ Att s v ∧ v ≠ u := by
    intro v
    by_cases hv : v = u
    · subst hv; simp [hnatt']
    · unfold Att; rw [modify_lookup, hid v hv]; simp [hv]
  -- children of attached nodes are attached, hence not u
  have kid_ne : ∀ w, Att s w → ∀ e ∈ (s.obj w).kidsPos, e.1 ≠ u := by
    intro w hw e he h
    by_cases hx : X w e
    · exact hXu w e hx h
    · have := (hI.down w hw e he hx).1
      rw [h] at this
      exact hreg _ this
  refine ⟨?_, ?_, ?_, ?_, ?_, ?_, ?_, ?_⟩
  · intro k v hk
    rw [modify_lookup] at hk
    have hv : v ≠ u := fun h => hreg k (h ▸ hk)
    rw [modify_size, hid v hv]
    exact hI.regSound k v hk
  · intro w hw e he hx
    obtain ⟨hws, hwu⟩ := (hatt w).mp hw
    rw [hobj w hwu] at he
    have hne := kid_ne w hws e he
    obtain ⟨a, b, c, d⟩ := hI.down w hws e he hx
    exact ⟨(hatt _).mpr ⟨a, hne⟩, by rw [hobj _ hne, hid w hwu]; exact b, by rw [hobj _ hne]; exact c,
      by rw [hobj _ hne]; exact d⟩
  · intro x hx p hpp
    obtain ⟨hxs, hxu⟩ := (hatt x).mp hx
    obtain ⟨k, hk, hl⟩ := parent_eq_some.mp hpp
    rw [hobj x hxu] at hk ⊢
    rw [hobj p (fun h => hreg k (h ▸ hl))]
    exact hI.up x hxs p (parent_eq_some.mpr ⟨k, hk, hl⟩)
  · intro x hx hy
    obtain ⟨hxs, hxu⟩ := (hatt x).mp hx
    have hk : ∀ c ∈ (s.obj x).kidList, ((s.modify u f).obj c).cid = (s.obj c).cid := by
      intro c hc
      obtain ⟨e, he, he1⟩ := (mem_kidList_iff _ _).mp hc
      rw [hobj c (he1 ▸ kid_ne x hxs e he)]
    have ho := hobj x hxu
    exact hI.cid_kept hxs hy (by rw [ho]) hk (by rw [ho]) (by rw [ho]) (by rw [ho])
  · intro x k hk
    by_cases hxu : x = u
    · subst hxu; rw [modify_obj_same, hp] at hk; cases hk
    · rw [hobj x hxu] at hk
      obtain ⟨a, b⟩ := hI.noDangling x k hk
      exact ⟨(hatt x).mpr ⟨a, hxu⟩, by rw [modify_lookup]; exact b⟩
  · intro v hv c hc
    rw [modify_size] at hv ⊢
    by_cases hvu : v = u
    · subst hvu
      rcases hf with h | h
      · omega
      · unfold LObj.kidList at hc; rw [modify_obj_same, h] at hc
        exact hI.closed v hv c hc
    · rw [hobj v hvu] at hc
      exact hI.closed v hv c hc
  · intro x hx
    unfold LState.parent at hx
    by_cases hxu : x = u
    · subst hxu; rw [modify_obj_same, hp] at hx; cases hx
    · rw [hobj x hxu] at hx
      exact hI.noSelf x (by unfold LState.parent; exact hx)
  · intro v
    by_cases hvu : v = u
    · subst hvu; rw [modify_obj_same]; exact hwf
    · rw [hobj v hvu]; exact hI.wf v

/-- nothing beyond `size` is registered -/
theorem not_registered_of_ge {X : Nat → (Nat × Str × Option Nat) → Prop} {Y : Nat → Prop} {s : LState} (hI : InvX Hc X Y s) {u : Nat} (hu : s.size ≤ u) : ∀ k, s.lookup k ≠ some u := by
  intro k h
  have := (hI.regSound k u h).1
  omega

/-- one more object counts as existing -/
theorem inv_grow {X : Nat → (Nat × Str × Option Nat) → Prop} {Y : Nat → Prop} {t : LState} (hI : InvX Hc X Y t) (hk : ∀ c ∈ (t.obj t.size).kidList, c < t.size) :
    InvX Hc X Y { t with size := t.size + 1 } := by
  refine ⟨?_, hI.down, hI.up, hI.cid, hI.noDangling, ?_, hI.noSelf, hI.wf⟩
  · intro k u hu
    obtain ⟨a, b⟩ := hI.regSound k u hu
    exact ⟨Nat.lt_succ_of_lt a, b⟩
  · intro v hv c hc
    have hv' : v < t.size + 1 := hv
    show c < t.size + 1
    by_cases h : v = t.size
    · subst h; exact Nat.lt_succ_of_lt (hk c hc)
    · exact Nat.lt_succ_of_lt (hI.closed v (by omega) c hc)

theorem alloc_eq (s : LState) (o : LObj) :
    (s.alloc o).1 = { s.modify s.size (fun _ => o) with size := s.size + 1 } ∧ (s.alloc o).2 = s.size := by
  unfold LState.alloc LState.modify; exact ⟨rfl, rfl⟩

/-- allocating a fresh, unlinked object -/
theorem alloc_inv {X : Nat → (Nat × Str × Option Nat) → Prop} {Y : Nat → Prop} {s : LState} (hI : InvX Hc X Y s) (o : LObj) (hp : o.pid = none)
    (hk : ∀ c ∈ o.kidList, c < s.size) (hwf : o.wf) (hXs : ∀ q e, X q e → e.1 ≠ s.size) :
    InvX Hc X Y (s.alloc o).1 := by
  rw [(alloc_eq s o).1]
  have h0 := inv_modify_unregistered Hc hI (not_registered_of_ge Hc hI (Nat.le_refl _)) (fun _ => o)
    (.inl (Nat.le_refl _)) hp hwf hXs
  have := inv_grow Hc h0 (by rw [modify_size, modify_obj_same]; exact hk)
  simpa using this

/-- recomputing a content id that is already right changes nothing -/
theorem setContentId_noop (s : LState) (u : Nat) (h : (s.obj u).cid = Hc (cidPre s (s.obj u))) :
    s.setContentId Hc u = s := by
  unfold LState.setContentId LState.modify
  cases s with
  | mk heap size reg =>
    simp only [LState.mk.injEq, and_true]
    funext v
    split
    · next hv =>
      subst hv
      have h' : (heap v).cid = Hc (cidPre ⟨heap, size, reg⟩ (heap v)) := h
      rw [← h']
    · rfl

/-- how `__init__` + `__post_init__` end: rejected before an id is assigned, in the state right after the
allocation; or the id is assigned and the rest is `finishConstruct` -/
theorem construct_cases {fuel : Nat} {s s' : LState} {n : NewSpec} {r : Except Err Nat}
    (h : construct H Hc fuel s n = (s', r)) :
    (s' = (s.alloc (newObj n)).1 ∧ ∃ e, r = .error e) ∨
    ∃ nid coll orig, chooseId H (s.alloc (newObj n)).1 s.size n = .ok (nid, coll, orig) ∧
      finishConstruct Hc fuel ((s.alloc (newObj n)).1.modify s.size (setIds nid coll orig)) s.size
        n.createDetached = (s', r) := by
  unfold construct at h
  simp only at h
  split at h
  · cases h; exact .inl ⟨rfl, _, rfl⟩
  · split at h
    · cases h; exact .inl ⟨rfl, _, rfl⟩
    · next nid coll orig hch => exact .inr ⟨nid, coll, orig, hch, h⟩

/-- the tail of `__post_init__`: a detached node only gets its content id; otherwise `_attach` is rejected
(and nothing else happens) or succeeds and the content id is set -/
theorem finishConstruct_cases {fuel : Nat} {s1 s' : LState} {u : Nat} {det : Bool} {r : Except Err Nat}
    (h : finishConstruct Hc fuel s1 u det = (s', r)) :
    (det = true ∧ s' = s1.setContentId Hc u ∧ r = .ok u) ∨
    (det = false ∧ ((∃ e, attach Hc fuel s1 u = (s', .error e) ∧ r = .error e) ∨
      ∃ s2, attach Hc fuel s1 u = (s2, .ok ()) ∧ s' = s2.setContentId Hc u ∧ r = .ok u)) := by
  unfold finishConstruct at h
  cases det with
  | true => cases h; exact .inl ⟨rfl, rfl, rfl⟩
  | false =>
    simp only [Bool.false_eq_true, if_false] at h
    cases ha : attach Hc fuel s1 u with
    | mk s2 res =>
      rw [ha] at h
      cases res with
      | error e => cases h; exact .inr ⟨rfl, .inl ⟨e, rfl, rfl⟩⟩
      | ok x => cases x; cases h; exact .inr ⟨rfl, .inr ⟨s2, rfl, rfl, rfl⟩⟩

theorem finishConstruct_inv {X : Nat → (Nat × Str × Option Nat) → Prop} {Y : Nat → Prop} {s1 s' : LState} {u r fuel : Nat} {det : Bool} (hI : InvX Hc X Y s1)
    (hu : u < s1.size) (hreg : ∀ k, s1.lookup k ≠ some u)
    (hXu : ∀ q e, X q e → e.1 ≠ u ∧ s1.idOf e.1 = s1.idOf u) (hYu : ¬ Y u)
    (h : finishConstruct Hc fuel s1 u det = (s', .ok r)) :
    InvX Hc X Y s' ∧ r = u ∧ s'.size = s1.size ∧ (det = false → Att s' u) ∧ Grows s1 s' := by
  rcases finishConstruct_cases Hc h with ⟨rfl, rfl, hr⟩ | ⟨rfl, ⟨e, _, hr⟩ | ⟨s2, ha, rfl, hr⟩⟩
  · cases hr
    refine ⟨?_, rfl, rfl, (fun h => nomatch h),
      ⟨Nat.le_refl _, fun x _ => ⟨setContentId_idOf Hc s1 u x, modify_proj (·.fields) s1 u _ rfl x⟩, fun _ _ h => h⟩⟩
    exact inv_modify_unregistered Hc hI hreg _ (.inr rfl) (hI.pid_none (hreg _)) (hI.wf u)
      (fun q e hx => (hXu q e hx).1)
  · cases hr
  · cases hr
    obtain ⟨hI2, hatt, hsz, hg, _⟩ := attach_invX Hc hI hu hXu ha
    rw [setContentId_noop Hc s2 u (hI2.cid u hatt hYu)]
    exact ⟨hI2, rfl, hsz, fun _ => hatt, hg⟩

/-- construction over existing children preserves the invariant; with a hole `X` the hole child
must carry the id the new node is going to get (it is the node being replaced) -/
theorem construct_invX {X : Nat → (Nat × Str × Option Nat) → Prop} {Y : Nat → Prop} {s s' : LState} {n : NewSpec} {fuel u : Nat} (hI : InvX Hc X Y s)
    (hk : ∀ c ∈ n.fields.flatMap (·.kids), c < s.size) (hwf : (newObj n).wf)
    (hXc : ∀ q e, X q e → e.1 < s.size ∧
      ∀ nid coll orig, chooseId H (s.alloc (newObj n)).1 s.size n = .ok (nid, coll, orig) → s.idOf e.1 = nid)
    (hYn : ¬ Y s.size)
    (h : construct H Hc fuel s n = (s', .ok u)) :
    InvX Hc X Y s' ∧ u = s.size ∧ s'.size = s.size + 1 ∧ (n.createDetached = false → Att s' u) ∧ Grows s s' ∧
      (∀ nid coll orig, chooseId H (s.alloc (newObj n)).1 s.size n = .ok (nid, coll, orig) → s'.idOf s.size = nid) := by
  have hI0 : InvX Hc X Y (s.alloc (newObj n)).1 :=
    alloc_inv Hc hI (newObj n) rfl hk hwf (fun q e hx => Nat.ne_of_lt (hXc q e hx).1)
  have hsz0 := alloc_size s (newObj n)
  have hreg0 : ∀ k, (s.alloc (newObj n)).1.lookup k ≠ some s.size :=
    fun k => not_registered_of_ge Hc hI (Nat.le_refl _) k
  have hid0 : ∀ v, v ≠ s.size → (s.alloc (newObj n)).1.idOf v = s.idOf v := fun v => alloc_idOf_ne s _
  have hobj0 : ∀ v, v ≠ s.size → (s.alloc (newObj n)).1.obj v = s.obj v := fun v => alloc_obj_ne s _
  have hlk0 := alloc_lookup s (newObj n)
  rcases construct_cases H Hc h with ⟨_, e, he⟩ | ⟨nid, coll, orig, hch, h⟩
  · cases he
  generalize (s.alloc (newObj n)).1 = s0 at h hch hI0 hsz0 hreg0 hXc hid0 hobj0 hlk0 ⊢
  have hI1 : InvX Hc X Y (s0.modify s.size (setIds nid coll orig)) :=
    inv_modify_unregistered Hc hI0 hreg0 _ (.inr rfl) rfl (hI0.wf _)
      (fun q e hx => Nat.ne_of_lt (hXc q e hx).1)
  obtain ⟨a, b, c, d, g⟩ := finishConstruct_inv Hc hI1 (by rw [modify_size, hsz0]; omega)
    (by intro k; rw [modify_lookup]; exact hreg0 k)
    (by
      intro q e hx
      obtain ⟨hlt, hid⟩ := hXc q e hx
      have hne : e.1 ≠ s.size := Nat.ne_of_lt hlt
      refine ⟨hne, ?_⟩
      unfold LState.idOf
      rw [modify_obj_ne _ _ _ _ hne, modify_obj_same]
      show s0.idOf e.1 = nid
      rw [hid0 e.1 hne]; exact hid nid coll orig hch) hYn h
  refine ⟨a, b, by rw [c, modify_size, hsz0], by rw [b]; exact d, ?_⟩
  have g0 : Grows s (s0.modify s.size (setIds nid coll orig)) := by
    refine ⟨by rw [modify_size, hsz0]; omega, fun x hx => ?_, fun k v hk => by rw [modify_lookup, hlk0]; exact hk⟩
    have hne : x ≠ s.size := Nat.ne_of_lt hx
    unfold LState.idOf
    rw [modify_obj_ne _ _ _ _ hne, hobj0 x hne]
    exact ⟨rfl, rfl⟩
  refine ⟨g0.trans g, ?_⟩
  intro nid' coll' orig' hch'
  rw [hch] at hch'
  simp only [Except.ok.injEq, Prod.mk.injEq] at hch'
  rw [← hch'.1]
  have := (g.same s.size (by rw [modify_size, hsz0]; omega)).1
  rw [this]
  unfold LState.idOf; rw [modify_obj_same]; rfl

theorem construct_inv {s s' : LState} {n : NewSpec} {fuel u : Nat} (hI : Inv Hc s)
    (hk : ∀ c ∈ n.fields.flatMap (·.kids), c < s.size) (hwf : (newObj n).wf)
    (h : construct H Hc fuel s n = (s', .ok u)) : Inv Hc s' ∧ u = s.size ∧ s'.size = s.size + 1 := by
  obtain ⟨a, b, c, _, _, _⟩ := construct_invX H Hc hI hk hwf (fun _ _ hx => hx.elim) (fun h => h) h
  exact ⟨a, b, c⟩

/-- a successful construction went through the id assignment -/
theorem construct_ok_chooseId {s s' : LState} {n : NewSpec} {fuel u : Nat}
    (h : construct H Hc fuel s n = (s', .ok u)) :
    ∃ nid coll orig, chooseId H (s.alloc (newObj n)).1 s.size n = .ok (nid, coll, orig) := by
  rcases construct_cases H Hc h with ⟨_, e, he⟩ | ⟨nid, coll, orig, hch, _⟩
  · cases he
  · exact ⟨nid, coll, orig, hch⟩

/-- a rejected construction leaves every pre-existing record and the registry untouched (C19) -/
theorem construct_fail_frame {s s' : LState} {n : NewSpec} {fuel : Nat} {e : Err}
    (h : construct H Hc fuel s n = (s', .error e)) :
    s'.reg = s.reg ∧ ∀ v, v ≠ s.size → s'.obj v = s.obj v := by
  have hobj0 : ∀ v, v ≠ s.size → (s.alloc (newObj n)).1.obj v = s.obj v := fun v => alloc_obj_ne s _
  rcases construct_cases H Hc h with ⟨rfl, _⟩ | ⟨nid, coll, orig, _, hfin⟩
  · exact ⟨rfl, hobj0⟩
  · rcases finishConstruct_cases Hc hfin with ⟨_, _, hr⟩ | ⟨_, ⟨e', ha, _⟩ | ⟨_, _, _, hr⟩⟩
    · cases hr
    · rw [attach_fail_frame Hc _ _ _ _ _ ha]
      exact ⟨rfl, fun v hv => by rw [modify_obj_ne _ _ _ _ hv]; exact hobj0 v hv⟩
    · cases hr

/-! ### the fields of a replacement -/

theorem applyFields_names (fs : List LField) (ch : List (Str × List Nat)) :
    (applyFields fs ch).map (·.name) = fs.map (·.name) := by
  unfold applyFields
  rw [List.map_map]
  apply List.map_congr_left
  intro f _
  simp only [Function.comp]
  split <;> rfl

/-- the changes of a `replace` keep single fields single -/
def Changes.wfFor (o : LObj) (ch : Changes) : Prop := ∀ f ∈ applyFields o.fields ch.fields, f.wf

instance (o : LObj) (ch : Changes) : Decidable (ch.wfFor o) := by unfold Changes.wfFor; infer_instance

theorem applyFields_wf {o : LObj} {ch : Changes} (ho : o.wf) (hc : ch.wfFor o) (sp : NewSpec)
    (hsp : sp.fields = applyFields o.fields ch.fields) : (newObj sp).wf := by
  unfold LObj.wf
  show ((sp.fields).map (·.name)).Nodup ∧ ∀ f ∈ sp.fields, f.wf
  rw [hsp, applyFields_names]
  exact ⟨ho.1, hc⟩

/-! ### duplicate -/

/-- `original_id` / `id_collision_with` are not mentioned by the invariant -/
theorem inv_modify_meta {X : Nat → (Nat × Str × Option Nat) → Prop} {Y : Nat → Prop} {s : LState} (hI : InvX Hc X Y s) (n : Nat) (a b : LObj → Option Str) :
    InvX Hc X Y (s.modify n fun x => { x with collWith := a x, origId := b x }) := by
  have hp : ∀ {α : Type} (g : LObj → α), (∀ (o : LObj) c d, g { o with collWith := c, origId := d } = g o) →
      ∀ v, g ((s.modify n fun x => { x with collWith := a x, origId := b x }).obj v) = g (s.obj v) := by
    intro α g hg v
    refine modify_proj g s n _ ?_ v
    exact hg _ _ _
  exact hI.of_sameKids rfl (fun _ => rfl)
    (fun v => ⟨hp (·.id) (fun _ _ _ => rfl) v, hp (·.fields) (fun _ _ _ => rfl) v⟩)
    (fun v => .inl (hp slots (fun _ _ _ => rfl) v))
    (fun w e _ _ hx => ⟨hx, hp slots (fun _ _ _ => rfl) e.1⟩)
    (fun x hx hy => hI.cid_kept hx hy (hp (·.cid) (fun _ _ _ => rfl) x)
      (fun c _ => hp (·.cid) (fun _ _ _ => rfl) c) (hp (·.cls) (fun _ _ _ => rfl) x)
      (hp (·.props) (fun _ _ _ => rfl) x) (hp (·.fields) (fun _ _ _ => rfl) x))

/-- what a successful `duplicate` guarantees (`duplicate_ok` in LegacyDupFrame): the invariant, the result
exists, the heap only grows -/
def DupOk (s s' : LState) (r : Nat) : Prop := Inv Hc s' ∧ r < s'.size ∧ s.size ≤ s'.size

theorem dupList_length (rec : LState → Nat → LState × Except Err Nat) : ∀ (ks : List Nat) (s s' : LState)
    (rs : List Nat), dupList rec s ks = (s', .ok rs) → rs.length = ks.length := by
  intro ks
  induction ks with
  | nil => intro s s' rs h; simp only [dupList, Prod.mk.injEq, Except.ok.injEq] at h; rw [← h.2]
  | cons c cs ih =>
    intro s s' rs h
    unfold dupList at h
    cases h1 : rec s c with
    | mk s1 res1 =>
      rw [h1] at h
      cases res1 with
      | error e => simp at h
      | ok c' =>
        simp only at h
        cases h2 : dupList rec s1 cs with
        | mk s2 res2 =>
          rw [h2] at h
          cases res2 with
          | error e => simp at h
          | ok cs' =>
            simp only [Prod.mk.injEq, Except.ok.injEq] at h
            rw [← h.2]; simp [ih s1 s2 cs' h2]

/-- the shape of a child field: name, kind, number of children -/
def LField.shape (f : LField) : Str × FKind × Nat := (f.name, f.kind, f.kids.length)

theorem dupFields_shape (rec : LState → Nat → LState × Except Err Nat) : ∀ (fs : List LField) (s s' : LState)
    (fs' : List LField), dupFields rec s fs = (s', .ok fs') → fs'.map LField.shape = fs.map LField.shape := by
  intro fs
  induction fs with
  | nil => intro s s' fs' h; simp only [dupFields, Prod.mk.injEq, Except.ok.injEq] at h; rw [← h.2]
  | cons f fr ih =>
    intro s s' fs' h
    unfold dupFields at h
    cases h1 : dupList rec s f.kids with
    | mk s1 res1 =>
      rw [h1] at h
      cases res1 with
      | error e => simp at h
      | ok ks =>
        simp only at h
        cases h2 : dupFields rec s1 fr with
        | mk s2 res2 =>
          rw [h2] at h
          cases res2 with
          | error e => simp at h
          | ok fr' =>
            simp only [Prod.mk.injEq, Except.ok.injEq] at h
            rw [← h.2]
            simp only [List.map_cons, ih s1 s2 fr' h2]
            congr 1
            simp [LField.shape, dupList_length rec f.kids s s1 ks h1]

theorem wf_of_shape {fs fs' : List LField} (h : fs'.map LField.shape = fs.map LField.shape) (o o' : LObj)
    (ho : o.fields = fs) (ho' : o'.fields = fs') (hw : o.wf) : o'.wf := by
  unfold LObj.wf at hw ⊢
  rw [ho] at hw; rw [ho']
  have hn : fs'.map (·.name) = fs.map (·.name) := by
    have := congrArg (List.map (·.1)) h
    simpa [List.map_map, Function.comp_def, LField.shape] using this
  refine ⟨by rw [hn]; exact hw.1, ?_⟩
  intro f' hf'
  have hm : f'.shape ∈ fs.map LField.shape := by rw [← h]; exact List.mem_map.mpr ⟨f', hf', rfl⟩
  obtain ⟨f, hf, hsh⟩ := List.mem_map.mp hm
  have := hw.2 f hf
  unfold LField.wf at this ⊢
  simp only [LField.shape, Prod.mk.injEq] at hsh
  rw [← hsh.2.1, ← hsh.2.2]; exact this

end

end PyOak.Legacy
