/-
C06 — string-level facts about `get_xpath`.

`C06.xpath_chain` shows that `get_xpath(n)` is the spelling `spellChain` of the root-first chain
of `n`.  Here:
 * `parseSpell_spell`  : the spelling can be parsed back, step by step, into the
                         `(field, index-or-0, class)` triples of the chain;
 * `spellChain_injective` : two chains of the same root with the same spelling are the same chain
                         (same nodes, same positions) — no two positions of a tree share an xpath;
 * `xpath_injective`   : hence (trees without repeated objects) `get_xpath` is injective on the
                         nodes of the tree;
 * `follow_spell` / `follow_getXpath` : following the xpath from the root — parse a step, take the
                         child stored under that field and index, check its class — arrives at the
                         node.
Hypotheses (each shown necessary by a `decide`d counterexample at the end):
 * names: a child-field name contains no `[` (needed for injectivity and for parsing), a class name
   no `/` (needed only for parsing the text back / `follow`; `spellChain_injective_sharp` does
   without it) — both follow from `IdentLike`;
 * class-table consistency: inside one node the child-field names are pairwise distinct and a
   single (non-collection) field holds at most one node (so `[0]` of a single child and index 0 of
   a tuple cannot both occur under one field name of one parent).
-/
import PyOak.Spec.Tree
import PyOak.Spec.Content
import PyOak.Lemmas.Framing
import PyOak.Props.C01
import PyOak.Props.C06
import PyOak.Props.C07
import PyOak.Props.C20
namespace PyOak
namespace C06X

def rootField : Str := ['r', 'o', 'o', 't']

/-- `(field, index or 0, class)` of a chain member -/
def stepOf (x : Node × Option Edge) : Str × Nat × Str :=
  match x.2 with
  | none => (rootField, 0, x.1.cls)
  | some e => (e.field, e.idx.getD 0, x.1.cls)

/-- `/@{field}[{index}]{Class}` -/
def stepText (t : Str × Nat × Str) : Str :=
  ['/', '@'] ++ t.1 ++ ['['] ++ natStr t.2.1 ++ [']'] ++ t.2.2

theorem xpathStep_eq (f : Str) (i : Option Nat) (c : Str) : xpathStep f i c = stepText (f, i.getD 0, c) := rfl

theorem spellChain_cons (x : Node × Option Edge) (r : Chain) :
    spellChain (x :: r) = stepText (stepOf x) ++ spellChain r := by
  obtain ⟨n, _ | e⟩ := x <;> rfl

theorem spellChain_eq (c : Chain) : spellChain c = (c.map stepOf).flatMap stepText := by
  induction c with
  | nil => rfl
  | cons x r ih => rw [spellChain_cons, ih, List.map_cons, List.flatMap_cons]

/-- split one step off the front: expects `/@`, the field up to `[`, the digits up to `]`, the
class up to the next `/` (or the end) -/
def splitStep : Str → Option ((Str × Nat × Str) × Str)
  | '/' :: '@' :: t =>
    match t.dropWhile (· != '[') with
    | '[' :: t2 =>
      match t2.dropWhile (· != ']') with
      | ']' :: t3 =>
        some ((t.takeWhile (· != '['), digitsVal (t2.takeWhile (· != ']')), t3.takeWhile (· != '/')),
          t3.dropWhile (· != '/'))
      | _ => none
    | _ => none
  | _ => none

/-- all steps of a spelling (fuel: one unit per step) -/
def parseSpell : Nat → Str → Option (List (Str × Nat × Str))
  | _, [] => some []
  | 0, _ :: _ => none
  | fuel + 1, c :: s =>
    match splitStep (c :: s) with
    | none => none
    | some (t, rest) => (parseSpell fuel rest).map (t :: ·)

/-- names the spelling can frame: no `[` in a field name, no `/` in a class name -/
def StepNamesOK (t : Str × Nat × Str) : Prop := (∀ c ∈ t.1, c ≠ '[') ∧ (∀ c ∈ t.2.2, c ≠ '/')

theorem stepText_append (t : Str × Nat × Str) (r : Str) :
    stepText t ++ r = '/' :: '@' :: (t.1 ++ '[' :: (natStr t.2.1 ++ ']' :: (t.2.2 ++ r))) := by
  simp [stepText]

theorem splitStep_stepText (t : Str × Nat × Str) (ht : StepNamesOK t) (rest : Str)
    (hr : Framing.Stops (· != '/') rest) : splitStep (stepText t ++ rest) = some (t, rest) := by
  have s1 := Framing.takeWhile_stops (· != '[') t.1 (fun x hx => bne_iff_ne.mpr (ht.1 x hx))
    ('[' :: (natStr t.2.1 ++ ']' :: (t.2.2 ++ rest))) (Or.inr ⟨_, _, rfl, rfl⟩)
  have s2 := Framing.takeWhile_stops (· != ']') (natStr t.2.1) (fun x hx => bne_iff_ne.mpr (Framing.natStr_no_rsqb _ x hx))
    (']' :: (t.2.2 ++ rest)) (Or.inr ⟨_, _, rfl, rfl⟩)
  have s3 := Framing.takeWhile_stops (· != '/') t.2.2 (fun x hx => bne_iff_ne.mpr (ht.2 x hx)) rest hr
  rw [stepText_append]
  simp only [splitStep, s1.1, s1.2, s2.1, s2.2, s3.1, s3.2, C20.digitsVal_natStr]

theorem stepText_head (t : Str × Nat × Str) (r : Str) : ∃ tl, stepText t ++ r = '/' :: tl :=
  ⟨_, stepText_append t r⟩

theorem flatMap_stepText_stops (ts : List (Str × Nat × Str)) : Framing.Stops (· != '/') (ts.flatMap stepText) := by
  cases ts with
  | nil => exact Or.inl rfl
  | cons t r =>
    obtain ⟨tl, h⟩ := stepText_head t (r.flatMap stepText)
    exact Or.inr ⟨'/', tl, by simpa using h, by simp⟩

theorem parseSpell_steps (ts : List (Str × Nat × Str)) (hts : ∀ t ∈ ts, StepNamesOK t) (fuel : Nat)
    (hf : ts.length ≤ fuel) : parseSpell fuel (ts.flatMap stepText) = some ts := by
  induction ts generalizing fuel with
  | nil => cases fuel <;> simp [parseSpell]
  | cons t r ih =>
    obtain ⟨tl, h⟩ := stepText_head t (r.flatMap stepText)
    have hs := splitStep_stepText t (hts t (by simp)) (r.flatMap stepText) (flatMap_stepText_stops r)
    cases fuel with
    | zero => simp at hf
    | succ f =>
      simp only [List.flatMap_cons]
      rw [h] at hs ⊢
      simp only [parseSpell, hs, ih (fun u hu => hts u (by simp [hu])) f (by simp at hf; omega),
        Option.map_some]

theorem stepText_length_pos (t : Str × Nat × Str) : 0 < (stepText t).length := by
  simp [stepText]

theorem length_le_flatMap_stepText (ts : List (Str × Nat × Str)) :
    ts.length ≤ (ts.flatMap stepText).length := by
  induction ts with
  | nil => simp
  | cons t r ih =>
    have := stepText_length_pos t
    simp only [List.flatMap_cons, List.length_append, List.length_cons]
    omega

/-- a chain whose names can be framed -/
def ChainNamesOK (c : Chain) : Prop := ∀ x ∈ c, StepNamesOK (stepOf x)

/-- **the spelling of a chain is parsed back into its steps** -/
theorem parseSpell_spell (c : Chain) (hc : ChainNamesOK c) :
    parseSpell (spellChain c).length (spellChain c) = some (c.map stepOf) := by
  rw [spellChain_eq]
  apply parseSpell_steps
  · intro t ht
    obtain ⟨x, hx, rfl⟩ := List.mem_map.mp ht
    exact hc x hx
  · exact length_le_flatMap_stepText _

/-! ## inside one node: (field, index-or-0) determines the child -/

/-- class-table consistency of one node -/
structure NodeFieldsOK (n : Node) : Prop where
  nodup : (n.kids.map Kid.name).Nodup
  single : ∀ k ∈ n.kids, k.coll = false → k.nodes.length ≤ 1

theorem mem_kid_edges (k : Kid) (n : Node) (e : Edge) (h : (n, e) ∈ k.edges) :
    e.field = k.name ∧ n ∈ k.nodes ∧
      (k.coll = true → ∃ i, e.idx = some i ∧ k.nodes[i]? = some n) ∧ (k.coll = false → e.idx = none) := by
  cases k with
  | mk name coll ns =>
    cases coll with
    | true =>
      simp only [Kid.edges, List.mem_map, Prod.mk.injEq] at h
      obtain ⟨⟨i, m⟩, hm, rfl, rfl⟩ := h
      obtain ⟨j, rfl, hj⟩ := Framing.mem_enumFrom ns 0 i m hm
      rw [Nat.zero_add]
      refine ⟨rfl, List.mem_of_getElem? hj, fun _ => ⟨j, rfl, hj⟩, by simp [Kid.coll]⟩
    | false =>
      simp only [Kid.edges, List.mem_map, Prod.mk.injEq] at h
      obtain ⟨m, hm, rfl, rfl⟩ := h
      exact ⟨rfl, hm, by simp [Kid.coll], fun _ => rfl⟩

/-- under class-table consistency a child of `p` is determined by its field name and its index
(an absent index counting as 0, as `get_xpath` prints it) -/
theorem edge_unique (p : Node) (hp : NodeFieldsOK p) (n1 n2 : Node) (e1 e2 : Edge)
    (h1 : (n1, e1) ∈ p.edges) (h2 : (n2, e2) ∈ p.edges) (hf : e1.field = e2.field)
    (hi : e1.idx.getD 0 = e2.idx.getD 0) : n1 = n2 ∧ e1 = e2 := by
  simp only [Node.edges, List.mem_flatMap] at h1 h2
  obtain ⟨k1, hk1, h1⟩ := h1
  obtain ⟨k2, hk2, h2⟩ := h2
  obtain ⟨f1, m1, c1, s1⟩ := mem_kid_edges k1 n1 e1 h1
  obtain ⟨f2, m2, c2, s2⟩ := mem_kid_edges k2 n2 e2 h2
  have hk : k1 = k2 := Framing.eq_of_nodup_map Kid.name p.kids hp.nodup k1 hk1 k2 hk2 (by rw [← f1, ← f2, hf])
  subst hk
  obtain ⟨ef1, ei1⟩ := e1
  obtain ⟨ef2, ei2⟩ := e2
  simp only at hf hi f1 f2 c1 c2 s1 s2
  subst hf
  cases hc : k1.coll with
  | true =>
    obtain ⟨i1, rfl, g1⟩ := c1 hc
    obtain ⟨i2, rfl, g2⟩ := c2 hc
    simp only [Option.getD_some] at hi
    subst hi
    rw [g1] at g2
    exact ⟨Option.some.inj g2, rfl⟩
  | false =>
    have l := hp.single k1 hk1 hc
    rw [s1 hc, s2 hc]
    obtain ⟨i1, b1, rfl⟩ := List.mem_iff_getElem.mp m1
    obtain ⟨i2, b2, rfl⟩ := List.mem_iff_getElem.mp m2
    have : i1 = i2 := (Nat.lt_one_iff.mp (Nat.lt_of_lt_of_le b1 l)).trans (Nat.lt_one_iff.mp (Nat.lt_of_lt_of_le b2 l)).symm
    subst this
    exact ⟨rfl, rfl⟩

/-! ## injectivity

Class names need no hypothesis: both chains start at the same root, and by induction the next
members are the same node, so the class texts to be cancelled are equal.  (Class names without `/`
are needed to *parse* a spelling back, see `parseSpell_spell` and the examples at the end.) -/

/-- no storage field name of the chain contains `[` -/
def ChainFieldsOK (c : Chain) : Prop := ∀ x ∈ c, ∀ e, x.2 = some e → ∀ ch ∈ e.field, ch ≠ '['

theorem chainFieldsOK_of_names (c : Chain) (h : ChainNamesOK c) : ChainFieldsOK c := by
  intro x hx e he
  have := (h x hx).1
  rwa [stepOf, he] at this

/-- two step texts with field names free of `[`, each followed by anything: the field names and the
indices are equal, and so is what follows the `]` -/
theorem stepText_cancel (t1 t2 : Str × Nat × Str) (r1 r2 : Str) (h1 : ∀ c ∈ t1.1, c ≠ '[')
    (h2 : ∀ c ∈ t2.1, c ≠ '[') (h : stepText t1 ++ r1 = stepText t2 ++ r2) :
    t1.1 = t2.1 ∧ t1.2.1 = t2.2.1 ∧ t1.2.2 ++ r1 = t2.2.2 ++ r2 := by
  rw [stepText_append, stepText_append] at h
  have h := List.tail_eq_of_cons_eq (List.tail_eq_of_cons_eq h)
  obtain ⟨hf, _, h⟩ := Framing.split_unique (· == '[') _ _ _ _ _ _
    (fun x hx => beq_false_of_ne (h1 x hx)) (fun x hx => beq_false_of_ne (h2 x hx)) rfl rfl h
  obtain ⟨hi, _, h⟩ := Framing.split_unique (· == ']') _ _ _ _ _ _
    (fun x hx => beq_false_of_ne (Framing.natStr_no_rsqb _ x hx)) (fun x hx => beq_false_of_ne (Framing.natStr_no_rsqb _ x hx)) rfl rfl h
  exact ⟨hf, Framing.natStr_injective hi, h⟩

theorem path_eq_of_spell (n : Node) (p1 p2 : Chain) (h1 : C07.Path n p1) (h2 : C07.Path n p2)
    (hn : NodeFieldsOK n) (hF : ∀ x ∈ p1, NodeFieldsOK x.1)
    (g1 : ChainFieldsOK p1) (g2 : ChainFieldsOK p2)
    (hs : spellChain p1 = spellChain p2) : p1 = p2 := by
  induction p1 generalizing n p2 with
  | nil =>
    cases p2 with
    | nil => rfl
    | cons b r =>
      obtain ⟨tl, h⟩ := stepText_head (stepOf b) (spellChain r)
      rw [spellChain_cons, h] at hs
      cases hs
  | cons a r1 ih =>
    cases p2 with
    | nil =>
      obtain ⟨tl, h⟩ := stepText_head (stepOf a) (spellChain r1)
      rw [spellChain_cons, h] at hs
      cases hs
    | cons b r2 =>
      obtain ⟨a, oa⟩ := a
      obtain ⟨b, ob⟩ := b
      obtain ⟨⟨e1, rfl, m1⟩, q1⟩ := h1
      obtain ⟨⟨e2, rfl, m2⟩, q2⟩ := h2
      rw [spellChain_cons, spellChain_cons] at hs
      obtain ⟨hf, hi, hs⟩ := stepText_cancel _ _ _ _ (g1 _ List.mem_cons_self e1 rfl) (g2 _ List.mem_cons_self e2 rfl) hs
      obtain ⟨rfl, rfl⟩ := edge_unique n hn a b e1 e2 m1 m2 hf hi
      rw [ih a r2 q1 q2 (hF _ List.mem_cons_self) (fun x hx => hF x (List.mem_cons_of_mem _ hx))
        (fun x hx => g1 x (List.mem_cons_of_mem _ hx)) (fun x hx => g2 x (List.mem_cons_of_mem _ hx))
        (List.append_cancel_left hs)]

/-- **string-level injectivity, minimal chain-local hypotheses**: field names without `[` and
class-table consistency of the members of one of the chains -/
theorem spellChain_injective_sharp (root : Node) (c1 c2 : Chain)
    (h1 : IsChain root c1) (h2 : IsChain root c2)
    (g1 : ChainFieldsOK c1) (g2 : ChainFieldsOK c2) (hF : ∀ x ∈ c1, NodeFieldsOK x.1)
    (h : spellChain c1 = spellChain c2) : c1 = c2 := by
  obtain ⟨p1, rfl, q1⟩ := (C07.isChain_iff root c1).1 h1
  obtain ⟨p2, rfl, q2⟩ := (C07.isChain_iff root c2).1 h2
  simp only [spellChain] at h
  rw [path_eq_of_spell root p1 p2 q1 q2 (hF (root, none) (by simp)) (fun x hx => hF x (by simp [hx]))
    (fun x hx => g1 x (by simp [hx])) (fun x hx => g2 x (by simp [hx])) (List.append_cancel_left h)]

/-- **string-level injectivity, chain-local hypotheses**: two chains of the same root with the same
spelling are equal — same nodes at the same positions. -/
theorem spellChain_injective_local (root : Node) (c1 c2 : Chain)
    (h1 : IsChain root c1) (h2 : IsChain root c2)
    (n1 : ChainNamesOK c1) (n2 : ChainNamesOK c2) (hF : ∀ x ∈ c1, NodeFieldsOK x.1)
    (h : spellChain c1 = spellChain c2) : c1 = c2 :=
  spellChain_injective_sharp root c1 c2 h1 h2 (chainFieldsOK_of_names c1 n1) (chainFieldsOK_of_names c2 n2) hF h

/-- every class name and every child-field name of the tree is `IdentLike` -/
def NamesOK (root : Node) : Prop :=
  ∀ n ∈ allNodes root, IdentLike n.cls ∧ ∀ k ∈ n.kids, IdentLike k.name

/-- class-table consistency of every node of the tree -/
def FieldsOK (root : Node) : Prop := ∀ n ∈ allNodes root, NodeFieldsOK n

theorem edge_field_mem (p n : Node) (e : Edge) (h : (n, e) ∈ p.edges) : ∃ k ∈ p.kids, k.name = e.field := by
  simp only [Node.edges, List.mem_flatMap] at h
  obtain ⟨k, hk, h⟩ := h
  exact ⟨k, hk, (mem_kid_edges k n e h).1.symm⟩

theorem chainNamesOK_of_tree (root : Node) (hN : NamesOK root) (c : Chain) (hc : IsChain root c) :
    ChainNamesOK c := by
  intro x hx
  refine (C06.chain_forall root (Q := fun n oe => StepNamesOK (stepOf (n, oe))) ?_ ?_ c hc x hx).2
  · exact ⟨show ∀ c ∈ rootField, c ≠ '[' by decide,
      fun ch hch => (Framing.identLike_no_special (hN root (by simp [allNodes])).1 ch hch).1⟩
  · intro p n e hp hn h2
    obtain ⟨k, hk, hke⟩ := edge_field_mem p n e h2
    exact ⟨fun ch hch => (Framing.identLike_no_special ((hN p hp).2 k hk) ch (hke ▸ hch)).2.2.1,
      fun ch hch => (Framing.identLike_no_special (hN n hn).1 ch hch).1⟩

/-- **string-level injectivity of `get_xpath`'s spelling**: in a tree whose names are `IdentLike`
and whose nodes are class-table consistent, two chains with the same spelling are the same chain. -/
theorem spellChain_injective (root : Node) (hN : NamesOK root) (hF : FieldsOK root) (c1 c2 : Chain)
    (h1 : IsChain root c1) (h2 : IsChain root c2) (h : spellChain c1 = spellChain c2) : c1 = c2 :=
  spellChain_injective_local root c1 c2 h1 h2 (chainNamesOK_of_tree root hN c1 h1)
    (chainNamesOK_of_tree root hN c2 h2) (fun x hx => hF x.1 (C06.chain_mem root c1 h1 x hx)) h

/-- the positions (object identity and storage edge of every member) coincide -/
theorem spellChain_positions (root : Node) (hN : NamesOK root) (hF : FieldsOK root) (c1 c2 : Chain)
    (h1 : IsChain root c1) (h2 : IsChain root c2) (h : spellChain c1 = spellChain c2) :
    c1.map (fun x => (x.1.uid, x.2)) = c2.map (fun x => (x.1.uid, x.2)) := by
  rw [spellChain_injective root hN hF c1 c2 h1 h2 h]

/-- **no two nodes of a tree share an xpath** -/
theorem xpath_injective (root : Node) (hR : NoRepeat root) (hN : NamesOK root) (hF : FieldsOK root)
    (n1 n2 : Node) (m1 : n1 ∈ allNodes root) (m2 : n2 ∈ allNodes root)
    (h : (TreeT.build root).getXpath n1 = (TreeT.build root).getXpath n2) : n1 = n2 := by
  obtain ⟨c1, o1, h1⟩ := C06.exists_chain root n1 m1
  obtain ⟨c2, o2, h2⟩ := C06.exists_chain root n2 m2
  rw [C06.xpath_chain root hR c1 n1 o1 h1, C06.xpath_chain root hR c2 n2 o2 h2] at h
  have := spellChain_injective root hN hF _ _ h1 h2 (Except.ok.inj h)
  have := List.append_inj' this rfl
  simp only [List.cons.injEq, Prod.mk.injEq, and_true] at this
  exact this.2.1

/-! ## following an xpath from the root -/

/-- walk down: per step take the child stored under that field and index (an absent index reads
as 0), and check its class -/
def walkDown : Node → List (Str × Nat × Str) → Option Node
  | n, [] => some n
  | n, (f, i, c) :: r =>
    match n.edges.find? (fun ce => ce.2.field == f && ce.2.idx.getD 0 == i) with
    | some (ch, _) => if ch.cls == c then walkDown ch r else none
    | none => none

/-- follow a `get_xpath` text from `root`: parse it step by step (field, index, class); the first
step must be `/@root[0]{class of root}`, every further step walks to a child -/
def follow (root : Node) (s : Str) : Option Node :=
  match parseSpell s.length s with
  | some ((f, i, c) :: r) => if f == rootField && i == 0 && c == root.cls then walkDown root r else none
  | _ => none

theorem walkDown_path (n : Node) (p : Chain) (hp : C07.Path n p) (hn : NodeFieldsOK n)
    (hF : ∀ x ∈ p, NodeFieldsOK x.1) : walkDown n (p.map stepOf) = some (C07.lastNode n p) := by
  induction p generalizing n with
  | nil => rfl
  | cons a r ih =>
    obtain ⟨a, oa⟩ := a
    obtain ⟨⟨e, rfl, m⟩, q⟩ := hp
    simp only [List.map_cons, stepOf, walkDown, C07.lastNode_cons]
    cases hfind : n.edges.find? (fun ce => ce.2.field == e.field && ce.2.idx.getD 0 == e.idx.getD 0) with
    | none =>
      have := List.find?_eq_none.mp hfind (a, e) m
      simp at this
    | some x =>
      obtain ⟨b, e'⟩ := x
      have hmem := List.mem_of_find?_eq_some hfind
      have hpred := List.find?_some hfind
      simp only [Bool.and_eq_true, beq_iff_eq] at hpred
      obtain ⟨rfl, rfl⟩ := edge_unique n hn b a e' e hmem m hpred.1 hpred.2
      simp only [beq_self_eq_true, if_true]
      exact ih b q (hF (b, some e') (by simp)) (fun x hx => hF x (by simp [hx]))

/-- **following the spelling of a chain from the root reaches the chain's last node**
(chain-local hypotheses) -/
theorem follow_spell_local (root : Node) (chain : Chain) (hc : IsChain root chain)
    (hN : ChainNamesOK chain) (hF : ∀ x ∈ chain, NodeFieldsOK x.1) :
    follow root (spellChain chain) = chain.getLast?.map (·.1) := by
  obtain ⟨p, rfl, q⟩ := (C07.isChain_iff root chain).1 hc
  unfold follow
  rw [parseSpell_spell _ hN, C07.getLast?_cons_lastNode]
  simp only [List.map_cons, stepOf, beq_self_eq_true, Bool.and_self, if_true]
  exact walkDown_path root p q (hF (root, none) (by simp)) (fun x hx => hF x (by simp [hx]))

/-- **following the xpath from the root reaches the node** -/
theorem follow_spell (root : Node) (hN : NamesOK root) (hF : FieldsOK root) (c : Chain) (n : Node)
    (oe : Option Edge) (hc : IsChain root (c ++ [(n, oe)])) :
    follow root (spellChain (c ++ [(n, oe)])) = some n := by
  rw [follow_spell_local root _ hc (chainNamesOK_of_tree root hN _ hc)
    (fun x hx => hF x.1 (C06.chain_mem root _ hc x hx))]
  simp

/-- … stated on `get_xpath` itself: `follow root (tree.get_xpath(n)) = n` for every node of a tree
without repeated objects -/
theorem follow_getXpath (root : Node) (hR : NoRepeat root) (hN : NamesOK root) (hF : FieldsOK root)
    (n : Node) (m : n ∈ allNodes root) :
    ∃ s, (TreeT.build root).getXpath n = .ok s ∧ follow root s = some n := by
  obtain ⟨c, oe, hc⟩ := C06.exists_chain root n m
  exact ⟨_, C06.xpath_chain root hR c n oe hc, follow_spell root hN hF c n oe hc⟩

/-! ## the hypotheses follow from the well-formedness predicate `WFN` of C01 -/

theorem wfn_node (n : Node) (h : WFN n) :
    IdentLike n.cls ∧ (∀ k ∈ n.kids, IdentLike k.name) ∧ NodeFieldsOK n ∧
      ∀ c e, (c, e) ∈ n.edges → WFN c := by
  obtain ⟨hd, ks⟩ := n
  obtain ⟨h1, -, -, hk, h5⟩ := (C01.WFN_iff hd ks).mp h
  refine ⟨h1, fun k hk' => ((C01.WFKid_iff k).mp (hk k hk')).1,
    ⟨h5, fun k hk' => ((C01.WFKid_iff k).mp (hk k hk')).2.1⟩, fun c e hce => ?_⟩
  obtain ⟨k, hk', hce⟩ := List.mem_flatMap.mp hce
  exact C01.WFN_child h hk' (mem_kid_edges k c e hce).2.1

theorem wfn_allNodes (root : Node) (h : WFN root) : ∀ n ∈ allNodes root, WFN n := by
  intro n hn
  obtain ⟨c, oe, hc⟩ := C06.exists_chain root n hn
  revert c n oe
  have := C06.chain_rec root (motive := fun _ n _ => WFN n) h
    (fun c p pe n e _ hm ih => (wfn_node p ih).2.2.2 n e hm)
  intro n _ c oe hc
  exact this c n oe hc

theorem namesOK_of_wfn (root : Node) (h : WFN root) : NamesOK root :=
  fun n hn => ⟨(wfn_node n (wfn_allNodes root h n hn)).1, (wfn_node n (wfn_allNodes root h n hn)).2.1⟩

theorem fieldsOK_of_wfn (root : Node) (h : WFN root) : FieldsOK root :=
  fun n hn => (wfn_node n (wfn_allNodes root h n hn)).2.2.1

/-! ## a tree that satisfies the hypotheses, and a counterexample for each hypothesis dropped -/

private def nd (u : Nat) (c : Str) (ks : List Kid) : Node :=
  .mk { uid := u, cls := c, mro := [c], org := ⟨0, []⟩, props := [], truthy := true } ks
private def leaf (u : Nat) : Node := nd u ['L'] []
private def mid : Node := nd 2 ['M'] [.mk ['x'] false [leaf 3]]
/-- `R(a=[L1, M2(x=L3), L4])` -/
private def tree : Node := nd 0 ['R'] [.mk ['a'] true [leaf 1, mid, leaf 4]]

private def chain3 : Chain := [(tree, none), (mid, some ⟨['a'], some 1⟩), (leaf 3, some ⟨['x'], none⟩)]

example : String.ofList (spellChain chain3) = "/@root[0]R/@a[1]M/@x[0]L" := by decide +kernel
example : parseSpell 24 "/@root[0]R/@a[1]M/@x[0]L".toList =
    some [(rootField, 0, ['R']), (['a'], 1, ['M']), (['x'], 0, ['L'])] := by decide +kernel
example : (follow tree "/@root[0]R/@a[1]M/@x[0]L".toList).map (·.uid) = some 3 := by decide +kernel
example : (follow tree "/@root[0]R/@a[2]L".toList).map (·.uid) = some 4 := by decide +kernel
example : (follow tree "/@root[0]R".toList).map (·.uid) = some 0 := by decide +kernel
-- wrong class, missing child, malformed text
example : (follow tree "/@root[0]R/@a[1]L".toList).map (·.uid) = none := by decide +kernel
example : (follow tree "/@root[0]R/@a[3]L".toList).map (·.uid) = none := by decide +kernel
example : (follow tree "/@root[0]R/@a[1M".toList).map (·.uid) = none := by decide +kernel
example : (follow tree "/@a[0]R".toList).map (·.uid) = none := by decide +kernel
private theorem tree_wf : WFN tree := by decide
private theorem tree_noRepeat : NoRepeat tree := by
  unfold NoRepeat
  decide
-- the theorems apply to the concrete tree
example : ∀ n ∈ allNodes tree, ∃ s, (TreeT.build tree).getXpath n = .ok s ∧ follow tree s = some n :=
  fun n hn => follow_getXpath tree tree_noRepeat (namesOK_of_wfn tree tree_wf) (fieldsOK_of_wfn tree tree_wf) n hn

-- necessity 1: a single field holding two nodes — two positions, one spelling
private def twoInSingle : Node := nd 0 ['R'] [.mk ['x'] false [leaf 1, leaf 2]]
example : spellChain [(twoInSingle, none), (leaf 1, some ⟨['x'], none⟩)] =
    spellChain [(twoInSingle, none), (leaf 2, some ⟨['x'], none⟩)] := by decide +kernel
example : twoInSingle.edges.map (fun p => (p.1.uid, p.2)) = [(1, ⟨['x'], none⟩), (2, ⟨['x'], none⟩)] := by decide
example : ¬ (∀ k ∈ twoInSingle.kids, k.coll = false → k.nodes.length ≤ 1) := by decide

-- necessity 2: the same field name twice in one node (once single, once a tuple):
-- `[0]` of the single child and index 0 of the tuple collide
private def dupField : Node := nd 0 ['R'] [.mk ['x'] false [leaf 1], .mk ['x'] true [leaf 2]]
example : spellChain [(dupField, none), (leaf 1, some ⟨['x'], none⟩)] =
    spellChain [(dupField, none), (leaf 2, some ⟨['x'], some 0⟩)] := by decide +kernel
example : dupField.edges.map (fun p => (p.1.uid, p.2)) = [(1, ⟨['x'], none⟩), (2, ⟨['x'], some 0⟩)] := by decide
example : ¬ (dupField.kids.map Kid.name).Nodup := by decide

-- necessity 3: a field name containing `[`: `R -(a[0]M/@y)-> L` and `R -a-> M -y-> L`
private def inner : Node := nd 2 ['M'] [.mk ['y'] false [leaf 3]]
private def fakeF : Node := nd 0 ['R'] [.mk "a[0]M/@y".toList false [leaf 3], .mk ['a'] false [inner]]
example : spellChain [(fakeF, none), (leaf 3, some ⟨"a[0]M/@y".toList, none⟩)] =
    spellChain [(fakeF, none), (inner, some ⟨['a'], none⟩), (leaf 3, some ⟨['y'], none⟩)] := by decide +kernel
example : fakeF.edges.map (fun p => (p.1.uid, p.2)) = [(3, ⟨"a[0]M/@y".toList, none⟩), (2, ⟨['a'], none⟩)] ∧
    inner.edges.map (fun p => (p.1.uid, p.2)) = [(3, ⟨['y'], none⟩)] := by decide +kernel
example : (fakeF.kids.map Kid.name).Nodup ∧ ∀ k ∈ fakeF.kids, k.coll = false → k.nodes.length ≤ 1 := by decide

-- class names: not needed for injectivity (`spellChain_injective_sharp`), but needed to parse the
-- text back: with a `/` in a class name the steps are not recovered and `follow` fails
private def slashCls : Node := nd 0 ['R'] [.mk ['a'] true [nd 1 "M/x".toList []]]
private def slashChain : Chain := [(slashCls, none), (nd 1 "M/x".toList [], some ⟨['a'], some 0⟩)]
example : String.ofList (spellChain slashChain) = "/@root[0]R/@a[0]M/x" := by decide +kernel
example : parseSpell (spellChain slashChain).length (spellChain slashChain) = none := by decide +kernel
example : (follow slashCls (spellChain slashChain)).map (·.uid) = none := by decide +kernel

end C06X
end PyOak

#print axioms PyOak.C06X.parseSpell_spell
#print axioms PyOak.C06X.spellChain_injective_local
#print axioms PyOak.C06X.spellChain_injective_sharp
#print axioms PyOak.C06X.spellChain_injective
#print axioms PyOak.C06X.spellChain_positions
#print axioms PyOak.C06X.xpath_injective
#print axioms PyOak.C06X.follow_spell_local
#print axioms PyOak.C06X.follow_spell
#print axioms PyOak.C06X.follow_getXpath
#print axioms PyOak.C06X.namesOK_of_wfn
#print axioms PyOak.C06X.fieldsOK_of_wfn
