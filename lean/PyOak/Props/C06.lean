/-
C06 — The upward queries of `Tree` (parent info, ancestors, depth, xpath), answered from the two
tables filled by one `dfs()` pass, agree with the downward structure (root-first chains).

`isInTree_iff`, `parentInfo_root`,
`parentInfo_foreign`, `exists_chain`, `chain_mem` hold for every tree; the others assume
`NoRepeat root` (the documented precondition of `Tree`), and the hypothesis is necessary: see
the `shared` example at the end (an object stored twice gets the position written last).
Proof plan: (1) `dictGet?`/`dictSet` is a functional update, and a fold of updates with pairwise
distinct keys stores for each key the value computed when its item was processed
(`fold_untouched`, `fold_last`, `fold_isSome`); (2) the dfs stream `PI root.items` is the unpruned
pre-order of C05, hence exactly the closure of `root.items` under "children positions"
(`C05X.mem_preItems_self`, `C05X.preItems_closed`, `C05.preItems_forall`), and it lists every position
after the position of its parent (`PI_parentsBefore`); (3) chains are inverted/inducted on by their last member (`chain_inv`,
`chain_rec`), each step is a dfs position (`chain_item`), node sizes strictly decrease along a
chain, so a chain is shorter than `root.size` (the fuel of the upward walks) and, under
`NoRepeat`, its members have pairwise distinct uids (`chain_uid_ne`); (4) on any tables `Walk t n l`
says that the parent pointers lead from `n` through `l` to a node without parent: with fuel to spare
`ancestorsAux` returns `l` and `depthAux` counts it (`Walk.ancestorsAux`, `Walk.depthAux`, `depthIn`),
and on the tables of `Tree(root)` the walk from a node is its chain, reversed (`walk_chain`).
-/
import PyOak.Spec.Tree
import PyOak.Lemmas.Framing
import PyOak.Props.C05Extra
namespace PyOak
namespace C06
open C05

section Dict
variable {β : Type}

@[simp] theorem dictGet?_nil (u : Nat) : dictGet? ([] : List (Nat × β)) u = none := rfl

theorem dictGet?_cons (kv : Nat × β) (d : List (Nat × β)) (u : Nat) :
    dictGet? (kv :: d) u = if u = kv.1 then some kv.2 else dictGet? d u := by
  unfold dictGet?
  rw [List.find?_cons]
  by_cases h : u = kv.1
  · simp [h]
  · have : (kv.1 == u) = false := by simpa using fun e => h e.symm
    simp [h, this]

theorem dictSet_cons (kv : Nat × β) (d : List (Nat × β)) (k : Nat) (v : β) :
    dictSet (kv :: d) k v =
      if kv.1 = k then (k, v) :: d.map (fun kv => if kv.1 == k then (k, v) else kv) else kv :: dictSet d k v := by
  unfold dictSet
  rw [List.any_cons, List.map_cons]
  by_cases h : kv.1 = k
  · rw [if_pos h, beq_iff_eq.mpr h]
    rfl
  · rw [if_neg h, beq_false_of_ne h]
    simp only [Bool.false_or, Bool.false_eq_true, if_false]
    split <;> rfl

theorem dictGet?_map_ne (d : List (Nat × β)) (k : Nat) (v : β) (u : Nat) (hu : u ≠ k) :
    dictGet? (d.map (fun kv => if kv.1 == k then (k, v) else kv)) u = dictGet? d u := by
  induction d with
  | nil => rfl
  | cons kv r ih =>
    rw [List.map_cons, dictGet?_cons, dictGet?_cons, ih]
    by_cases h : kv.1 = k
    · simp [h, hu]
    · have : (kv.1 == k) = false := by simpa using h
      simp only [this, Bool.false_eq_true, if_false]

/-- `dict[k] = v` followed by `dict.get(u)`: a functional update -/
theorem dictGet?_dictSet (d : List (Nat × β)) (k : Nat) (v : β) (u : Nat) :
    dictGet? (dictSet d k v) u = if u = k then some v else dictGet? d u := by
  induction d with
  | nil => exact dictGet?_cons (k, v) [] u
  | cons kv r ih =>
    rw [dictSet_cons, dictGet?_cons]
    by_cases h : kv.1 = k
    · rw [if_pos h, dictGet?_cons, h]
      by_cases hu : u = k
      · simp [hu]
      · simp only [hu, if_false, dictGet?_map_ne r k v u hu]
    · rw [if_neg h, dictGet?_cons, ih]
      by_cases hu : u = k
      · have hne : ¬ u = kv.1 := fun e => h (e.symm.trans hu)
        simp only [hu, if_true, hu ▸ hne, if_false]
      · simp only [hu, if_false]

/-- `k in dict` -/
theorem any_key_eq (d : List (Nat × β)) (u : Nat) :
    d.any (·.1 == u) = (dictGet? d u).isSome := by
  induction d with
  | nil => rfl
  | cons kv r ih =>
    rw [List.any_cons, ih, dictGet?_cons]
    by_cases h : u = kv.1
    · simp [h]
    · have : (kv.1 == u) = false := by simpa using fun e => h e.symm
      simp [h, this]

/-! ### folding `dict[key x] = val dict x` over a list -/

variable {α : Type} (key : α → Nat) (val : List (Nat × β) → α → β)

def putStep (d : List (Nat × β)) (x : α) : List (Nat × β) := dictSet d (key x) (val d x)

theorem fold_untouched (L : List α) (d : List (Nat × β)) (u : Nat) (h : ∀ x ∈ L, key x ≠ u) :
    dictGet? (L.foldl (putStep key val) d) u = dictGet? d u := by
  induction L generalizing d with
  | nil => rfl
  | cons x r ih =>
    simp only [List.foldl_cons]
    rw [ih _ (fun y hy => h y (by simp [hy]))]
    have := h x (by simp)
    simp only [putStep, dictGet?_dictSet]
    rw [if_neg (fun e => this e.symm)]

theorem fold_last (L1 L2 : List α) (x : α) (d : List (Nat × β)) (h : ∀ y ∈ L2, key y ≠ key x) :
    dictGet? ((L1 ++ x :: L2).foldl (putStep key val) d) (key x)
      = some (val (L1.foldl (putStep key val) d) x) := by
  rw [List.foldl_append, List.foldl_cons, fold_untouched key val L2 _ _ h]
  simp [putStep, dictGet?_dictSet]

theorem fold_isSome (L : List α) (d : List (Nat × β)) (u : Nat) :
    (dictGet? (L.foldl (putStep key val) d) u).isSome = true ↔
      ((dictGet? d u).isSome = true ∨ ∃ x ∈ L, key x = u) := by
  induction L generalizing d with
  | nil => simp
  | cons x r ih =>
    simp only [List.foldl_cons]
    rw [ih]
    simp only [putStep, dictGet?_dictSet]
    by_cases hu : u = key x
    · simp [hu]
    · have : ¬ key x = u := fun e => hu e.symm
      simp [hu, this]

end Dict

/-! ### the dfs item list `PI its` (pre-order below the positions `its`) -/

def PI (its : List Item) : List Item := preItems (fun _ => false) (fun _ => true) its

@[simp] theorem PI_nil : PI [] = [] := rfl

theorem PI_cons (it : Item) (st : List Item) : PI (it :: st) = it :: (PI it.node.items ++ PI st) :=
  preItems_cons (fun _ => false) (fun _ => true) it st

theorem dfs_eq (root : Node) :
    dfsImpl (fun _ => false) (fun _ => true) false root = PI root.items := by
  rw [dfs_top_down, pre_eq_preItems]; rfl

theorem mem_items {p : Node} {x : Item} (h : x ∈ p.items) : x.parent = p ∧ (x.node, x.edge) ∈ p.edges :=
  ⟨C05.items_parent p x h, C05.items_parent p x h ▸ items_sound p x h⟩

/-- every position is yielded after the position of its parent -/
def ParentsBefore : (Node → Prop) → List Item → Prop
  | _, [] => True
  | seen, x :: r => seen x.parent ∧ ParentsBefore (fun m => seen m ∨ m = x.node) r

theorem ParentsBefore.mono {s1 s2 : Node → Prop} (h : ∀ m, s1 m → s2 m) (l : List Item) :
    ParentsBefore s1 l → ParentsBefore s2 l := by
  induction l generalizing s1 s2 with
  | nil => intro _; trivial
  | cons x r ih =>
    intro ⟨h1, h2⟩
    exact ⟨h _ h1, ih (fun m hm => hm.imp (h m) id) h2⟩

theorem ParentsBefore.append (s : Node → Prop) (a b : List Item) :
    ParentsBefore s a → ParentsBefore (fun m => s m ∨ ∃ y ∈ a, m = y.node) b →
    ParentsBefore s (a ++ b) := by
  induction a generalizing s with
  | nil =>
    intro _ hb
    exact ParentsBefore.mono (fun m hm => by simpa using hm) b hb
  | cons x r ih =>
    intro ⟨h1, h2⟩ hb
    refine ⟨h1, ih _ h2 (ParentsBefore.mono ?_ b hb)⟩
    intro m hm
    rcases hm with hm | ⟨y, hy, rfl⟩
    · exact Or.inl (Or.inl hm)
    · rcases List.mem_cons.mp hy with rfl | hy
      · exact Or.inl (Or.inr rfl)
      · exact Or.inr ⟨y, hy, rfl⟩

theorem PI_parentsBefore (its : List Item) :
    ∀ s : Node → Prop, (∀ x ∈ its, s x.parent) → ParentsBefore s (PI its) := by
  induction its using items_induction (fun _ => false) with
  | nil => intro _ _; trivial
  | cons it st ih1 ih2 =>
    intro s hs
    rw [PI_cons]
    refine ⟨hs it (by simp), ParentsBefore.append _ _ _ (ih1 _ ?_) (ih2 _ ?_)⟩
    · exact fun x hx => Or.inr (mem_items hx).1
    · intro x hx
      exact Or.inl (Or.inl (hs x (by simp [hx])))

theorem ParentsBefore.split (s : Node → Prop) (l1 l2 : List Item) (x : Item) :
    ParentsBefore s (l1 ++ x :: l2) → s x.parent ∨ ∃ y ∈ l1, y.node = x.parent := by
  induction l1 generalizing s with
  | nil => intro ⟨h, _⟩; exact Or.inl h
  | cons a r ih =>
    intro ⟨_, h2⟩
    rcases ih _ h2 with (h | h) | ⟨y, hy, h⟩
    · exact Or.inl h
    · exact Or.inr ⟨a, by simp, h.symm⟩
    · exact Or.inr ⟨y, by simp [hy], h⟩

theorem allNodes_eq (root : Node) : allNodes root = root :: (PI root.items).map (·.node) := by
  rw [C05X.allNodes_eq, C05X.desc, pre_eq_preItems]; rfl

theorem edges_items {p n : Node} {e : Edge} (h : (n, e) ∈ p.edges) : (⟨n, p, e⟩ : Item) ∈ p.items := by
  simp only [Node.items, List.mem_map]
  exact ⟨(n, e), h, rfl⟩

section Chains
variable (root : Node)

theorem chain_rec {motive : Chain → Node → Option Edge → Prop}
    (hroot : motive [] root none)
    (hstep : ∀ c p pe n e, IsChain root (c ++ [(p, pe)]) → (n, e) ∈ p.edges →
      motive c p pe → motive (c ++ [(p, pe)]) n (some e)) :
    ∀ c n oe, IsChain root (c ++ [(n, oe)]) → motive c n oe := by
  intro c n oe hc
  generalize hch : c ++ [(n, oe)] = ch at hc
  induction hc generalizing c n oe with
  | root =>
    obtain ⟨rfl, hx⟩ := (List.append_singleton_inj (bs := [])).mp hch
    cases hx
    exact hroot
  | snoc c' p pe n' e h1 h2 ih =>
    obtain ⟨rfl, hx⟩ := List.append_singleton_inj.mp hch
    cases hx
    exact hstep c' p pe n' e h1 h2 (ih c' p pe rfl)

theorem chain_inv (c : Chain) (n : Node) (oe : Option Edge) (hc : IsChain root (c ++ [(n, oe)])) :
    (c = [] ∧ n = root ∧ oe = none) ∨
    ∃ c' p pe e, c = c' ++ [(p, pe)] ∧ oe = some e ∧ IsChain root (c' ++ [(p, pe)]) ∧ (n, e) ∈ p.edges := by
  revert c n oe
  apply chain_rec
  · exact Or.inl ⟨rfl, rfl, rfl⟩
  · exact fun c p pe _ e h1 h2 _ => Or.inr ⟨c, p, pe, e, rfl, rfl, h1, h2⟩

theorem chain_inv2 (c : Chain) (p : Node) (pe : Option Edge) (n : Node) (e : Edge)
    (hc : IsChain root (c ++ [(p, pe)] ++ [(n, some e)])) :
    IsChain root (c ++ [(p, pe)]) ∧ (n, e) ∈ p.edges := by
  rcases chain_inv root _ _ _ hc with ⟨h, _, _⟩ | ⟨c', p', pe', e', h1, h2, h3, h4⟩
  · simp at h
  · obtain ⟨rfl, hx⟩ := List.append_singleton_inj.mp h1
    cases hx
    cases h2
    exact ⟨h3, h4⟩

def IsTreeNode (n : Node) : Prop := n = root ∨ ∃ it ∈ PI root.items, it.node = n

theorem isTreeNode_iff (n : Node) : IsTreeNode root n ↔ n ∈ allNodes root := by
  simp only [IsTreeNode, allNodes_eq, List.mem_cons, List.mem_map]

theorem item_of_parent {p n : Node} {e : Edge} (hp : IsTreeNode root p) (h : (n, e) ∈ p.edges) :
    (⟨n, p, e⟩ : Item) ∈ PI root.items := by
  rcases hp with rfl | ⟨it, hit, rfl⟩
  · exact C05X.mem_preItems_self _ _ _ (edges_items h)
  · exact C05X.preItems_closed _ _ it _ hit rfl (edges_items h)

/-- what holds of the root, and of every node stored in a node of the tree, holds of every chain member -/
theorem chain_forall {Q : Node → Option Edge → Prop} (hroot : Q root none)
    (hstep : ∀ p n e, p ∈ allNodes root → n ∈ allNodes root → (n, e) ∈ p.edges → Q n (some e))
    (c : Chain) (hc : IsChain root c) : ∀ x ∈ c, x.1 ∈ allNodes root ∧ Q x.1 x.2 := by
  induction hc with
  | root =>
    intro x hx
    rw [List.mem_singleton.mp hx]
    exact ⟨(isTreeNode_iff root root).mp (Or.inl rfl), hroot⟩
  | snoc c p pe n e _ h2 ih =>
    intro x hx
    rcases List.mem_append.mp hx with hx | hx
    · exact ih x hx
    · rw [List.mem_singleton.mp hx]
      have hp := (ih (p, pe) (List.mem_append_right _ (List.mem_singleton_self _))).1
      have hn := (isTreeNode_iff root n).mp (Or.inr ⟨_, item_of_parent root ((isTreeNode_iff root p).mpr hp) h2, rfl⟩)
      exact ⟨hn, hstep p n e hp hn h2⟩

/-- chain members are tree nodes -/
theorem chain_mem (c : Chain) (hc : IsChain root c) : ∀ x ∈ c, x.1 ∈ allNodes root := fun x hx =>
  (chain_forall root (Q := fun _ _ => True) trivial (fun _ _ _ _ _ _ => trivial) c hc x hx).1

theorem chain_last_node (c : Chain) (n : Node) (oe : Option Edge)
    (hc : IsChain root (c ++ [(n, oe)])) : IsTreeNode root n :=
  (isTreeNode_iff root n).mpr (chain_mem root _ hc (n, oe) (List.mem_append_right _ (List.mem_singleton_self _)))

theorem chain_item (c : Chain) (p : Node) (pe : Option Edge) (n : Node) (e : Edge)
    (hc : IsChain root (c ++ [(p, pe)] ++ [(n, some e)])) : (⟨n, p, e⟩ : Item) ∈ PI root.items := by
  obtain ⟨h1, h2⟩ := chain_inv2 root c p pe n e hc
  exact item_of_parent root (chain_last_node root _ _ _ h1) h2

theorem chain_sizes (c : Chain) (n : Node) (oe : Option Edge)
    (hc : IsChain root (c ++ [(n, oe)])) :
    c.length + n.size ≤ root.size ∧ ∀ x ∈ c, n.size < x.1.size := by
  revert c n oe
  apply chain_rec
  · simp
  · intro c p pe n e _ h2 ⟨ih1, ih2⟩
    have : n.size < p.size := C05.items_size p _ (edges_items h2)
    refine ⟨by simp; omega, ?_⟩
    intro x hx
    rcases List.mem_append.mp hx with hx | hx
    · have := ih2 x hx; omega
    · simp only [List.mem_singleton] at hx; subst hx; exact this

theorem chain_length_lt (c : Chain) (n : Node) (oe : Option Edge)
    (hc : IsChain root (c ++ [(n, oe)])) : c.length < root.size := by
  have := (chain_sizes root c n oe hc).1
  have := n.size_pos
  omega

end Chains

def ikey (it : Item) : Nat := it.node.uid
def pinfoVal : List (Nat × PInfo) → Item → PInfo := fun _ it => ⟨it.parent, it.edge⟩
def xpathVal : List (Nat × Str) → Item → Str := fun d it =>
  (dictGet? d it.parent.uid).getD [] ++ xpathStep it.edge.field it.edge.idx it.node.cls

def rootStep (root : Node) : Str := xpathStep ['r','o','o','t'] none root.cls

/-- one iteration of the loop of `TreeT.build` -/
def buildStep (t : TreeT) (it : Item) : TreeT :=
  let px := (dictGet? t.xpath it.parent.uid).getD []
  { t with pinfo := dictSet t.pinfo it.node.uid ⟨it.parent, it.edge⟩,
           xpath := dictSet t.xpath it.node.uid (px ++ xpathStep it.edge.field it.edge.idx it.node.cls) }

def buildInit (root : Node) : TreeT := { root := root, pinfo := [], xpath := [(root.uid, rootStep root)] }

theorem build_eq_fold (root : Node) :
    TreeT.build root = (dfsImpl (fun _ => false) (fun _ => true) false root).foldl buildStep (buildInit root) := rfl

/-- the loop fills the two tables independently of each other -/
theorem build_fold (L : List Item) (init : TreeT) :
    L.foldl buildStep init =
      { root := init.root, pinfo := L.foldl (putStep ikey pinfoVal) init.pinfo,
        xpath := L.foldl (putStep ikey xpathVal) init.xpath } := by
  induction L generalizing init with
  | nil => rfl
  | cons x r ih =>
    simp only [List.foldl_cons]
    rw [ih]
    rfl

section Tables
variable (root : Node)

theorem build_eq : TreeT.build root =
    { root := root, pinfo := (PI root.items).foldl (putStep ikey pinfoVal) [],
      xpath := (PI root.items).foldl (putStep ikey xpathVal) [(root.uid, rootStep root)] } := by
  rw [build_eq_fold, dfs_eq]
  exact build_fold _ _

theorem build_root : (TreeT.build root).root = root := by rw [build_eq]

theorem dictGet?_single {β : Type} (k : Nat) (v : β) (u : Nat) :
    dictGet? [(k, v)] u = if u = k then some v else none :=
  dictGet?_cons (k, v) [] u

theorem nodup_split {α : Type} (f : α → Nat) (l1 l2 : List α) (x : α)
    (h : ((l1 ++ x :: l2).map f).Nodup) :
    (∀ y ∈ l2, f y ≠ f x) ∧ (∀ y ∈ l1, ∀ z ∈ x :: l2, f z ≠ f y) := by
  have hp := List.pairwise_append.mp (List.pairwise_map.mp h)
  exact ⟨fun y hy e => (List.pairwise_cons.mp hp.2.1).1 y hy e.symm, fun y hy z hz e => hp.2.2 y hy z hz e.symm⟩

theorem noRepeat_keys (h : NoRepeat root) :
    (∀ it ∈ PI root.items, ikey it ≠ root.uid) ∧ ((PI root.items).map ikey).Nodup := by
  unfold NoRepeat at h
  rw [allNodes_eq] at h
  simp only [List.map_cons, List.map_map, List.nodup_cons, List.mem_map, not_exists, not_and,
    Function.comp_def] at h
  exact ⟨fun it hit e => h.1 it hit e, h.2⟩

theorem uid_inj (h : NoRepeat root) (x y : Node) (hx : x ∈ allNodes root) (hy : y ∈ allNodes root)
    (e : x.uid = y.uid) : x = y :=
  Framing.eq_of_nodup_map (fun m : Node => m.uid) (allNodes root) h x hx y hy e

theorem pinfo_isSome (u : Nat) :
    (dictGet? (TreeT.build root).pinfo u).isSome = true ↔ ∃ it ∈ PI root.items, ikey it = u := by
  rw [build_eq]
  simp only
  rw [fold_isSome]
  simp [dictGet?]

theorem xpath_isSome (u : Nat) :
    (dictGet? (TreeT.build root).xpath u).isSome = true ↔ ∃ m ∈ allNodes root, m.uid = u := by
  rw [build_eq]
  simp only
  rw [fold_isSome, dictGet?_single, allNodes_eq]
  by_cases h : u = root.uid
  · simp [h]
  · simp only [h, if_false, Option.isSome_none, Bool.false_eq_true, false_or, List.mem_cons, List.mem_map,
      exists_eq_or_imp, Ne.symm h, ikey]
    exact ⟨fun ⟨x, hx, e⟩ => ⟨_, ⟨x, hx, rfl⟩, e⟩, fun ⟨_, ⟨x, hx, rfl⟩, e⟩ => ⟨x, hx, e⟩⟩

theorem pinfo_item (h : NoRepeat root) (x : Item) (hx : x ∈ PI root.items) :
    dictGet? (TreeT.build root).pinfo (ikey x) = some ⟨x.parent, x.edge⟩ := by
  obtain ⟨l1, l2, hl⟩ := List.append_of_mem hx
  have hk := (noRepeat_keys root h).2
  rw [build_eq]
  simp only
  rw [hl] at hk ⊢
  rw [fold_last ikey pinfoVal l1 l2 x [] (nodup_split ikey l1 l2 x hk).1]
  rfl

end Tables

/-! ### the upward walks, on any tables -/

/-- the parent pointers of `t` lead from `n` through `l` (nearest first) to a node without a parent -/
inductive Walk (t : TreeT) : Node → List Node → Prop where
  | top {n : Node} : t.getParent n = .ok none → Walk t n []
  | up {n p : Node} {r : List Node} : t.getParent n = .ok (some p) → Walk t p r → Walk t n (p :: r)

/-- what `get_depth` counts on the ancestors `l`: up to and including `rel`, all of them without `rel` -/
def depthIn (rel : Option Node) : List Node → Nat
  | [] => 0
  | p :: r => if rel.any (p.uid == ·.uid) then 1 else depthIn rel r + 1

theorem ancestorsAux_error {t : TreeT} {n : Node} {e : TErr} (h : t.getParent n = .error e) {f : Nat} (hf : 0 < f) :
    t.ancestorsAux f n = .error e := by
  obtain ⟨f, rfl⟩ := Nat.exists_eq_add_one_of_ne_zero (Nat.ne_of_gt hf)
  simp only [TreeT.ancestorsAux, h]

theorem depthAux_error {t : TreeT} {n : Node} {e : TErr} (h : t.getParent n = .error e) (rel : Option Node) {f : Nat}
    (hf : 0 < f) : t.depthAux rel f n = .error e := by
  obtain ⟨f, rfl⟩ := Nat.exists_eq_add_one_of_ne_zero (Nat.ne_of_gt hf)
  simp only [TreeT.depthAux, h]

theorem Walk.ancestorsAux {t : TreeT} {n : Node} {l : List Node} (w : Walk t n l) :
    ∀ f, l.length < f → t.ancestorsAux f n = .ok l := by
  induction w with
  | top h =>
    intro f hf
    obtain ⟨f, rfl⟩ := Nat.exists_eq_add_one_of_ne_zero (Nat.ne_of_gt hf)
    simp only [TreeT.ancestorsAux, h]
  | up h _ ih =>
    intro f hf
    obtain ⟨f, rfl⟩ := Nat.exists_eq_add_one_of_ne_zero (Nat.ne_of_gt (Nat.zero_lt_of_lt hf))
    simp only [TreeT.ancestorsAux, h, ih f (Nat.lt_of_succ_lt_succ hf)]

theorem walk_of_ancestorsAux (t : TreeT) : ∀ (f : Nat) (n : Node) (l : List Node),
    t.ancestorsAux f n = .ok l → l.length < f → Walk t n l := by
  intro f
  induction f with
  | zero => intro n l _ hl; omega
  | succ f ih =>
    intro n l h hl
    unfold TreeT.ancestorsAux at h
    cases hp : t.getParent n with
    | error e => simp [hp] at h
    | ok op =>
      cases op with
      | none =>
        simp only [hp, Except.ok.injEq] at h
        subst h
        exact .top hp
      | some p =>
        simp only [hp] at h
        cases hr : t.ancestorsAux f p with
        | error e => simp [hr] at h
        | ok r =>
          simp only [hr, Except.ok.injEq] at h
          subst h
          exact .up hp (ih p r hr (Nat.lt_of_succ_lt_succ hl))

theorem Walk.depthAux {t : TreeT} {n : Node} {l : List Node} (w : Walk t n l) (rel : Option Node) :
    ∀ f, l.length < f → t.depthAux rel f n = .ok (depthIn rel l) := by
  induction w with
  | top h =>
    intro f hf
    obtain ⟨f, rfl⟩ := Nat.exists_eq_add_one_of_ne_zero (Nat.ne_of_gt hf)
    simp only [TreeT.depthAux, h, depthIn]
  | @up n p r h _ ih =>
    intro f hf
    obtain ⟨f, rfl⟩ := Nat.exists_eq_add_one_of_ne_zero (Nat.ne_of_gt (Nat.zero_lt_of_lt hf))
    have := ih f (Nat.lt_of_succ_lt_succ hf)
    cases rel with
    | none => simp [TreeT.depthAux, h, this, depthIn, Except.map]
    | some a => by_cases ha : p.uid = a.uid <;> simp [TreeT.depthAux, h, this, depthIn, Except.map, ha]

theorem depthIn_none (l : List Node) : depthIn none l = l.length := by
  induction l with
  | nil => rfl
  | cons p r ih => simp [depthIn, ih]

theorem depthIn_hit (a : Node) (l₁ l₂ : List Node) (h : ∀ x ∈ l₁, x.uid ≠ a.uid) :
    depthIn (some a) (l₁ ++ a :: l₂) = l₁.length + 1 := by
  induction l₁ with
  | nil => simp [depthIn]
  | cons p r ih =>
    have := h p (by simp)
    simp [depthIn, this, ih (fun x hx => h x (by simp [hx]))]

section Main
variable (root : Node)

/-- membership: `node in tree` iff the object is the root or a proper descendant -/
theorem isInTree_iff (n : Node) :
    (TreeT.build root).isInTree n = true ↔ ∃ m ∈ allNodes root, m.uid = n.uid := by
  unfold TreeT.isInTree
  rw [any_key_eq, xpath_isSome]

theorem parentInfo_root : (TreeT.build root).getParentInfo root = .ok none := by
  simp [TreeT.getParentInfo, TreeT.isRoot, build_root]

/-- the table stores the actual storage position -/
theorem parentInfo_chain (h : NoRepeat root) (c : Chain) (p : Node) (pe : Option Edge) (n : Node) (e : Edge)
    (hc : IsChain root (c ++ [(p, pe)] ++ [(n, some e)])) :
    (TreeT.build root).getParentInfo n = .ok (some ⟨p, e⟩) := by
  have hx := chain_item root c p pe n e hc
  have hne : root.uid ≠ n.uid := fun e' => (noRepeat_keys root h).1 _ hx e'.symm
  have hr : ((TreeT.build root).isRoot n) = false := by
    simp [TreeT.isRoot, build_root, hne]
  have := pinfo_item root h _ hx
  simp only [ikey] at this
  simp only [TreeT.getParentInfo, hr, Bool.false_eq_true, if_false, this]

theorem parentInfo_error_iff (t : TreeT) (n : Node) :
    t.getParentInfo n = .error .keyError ↔ t.isRoot n = false ∧ dictGet? t.pinfo n.uid = none := by
  unfold TreeT.getParentInfo
  cases t.isRoot n <;> cases dictGet? t.pinfo n.uid <;> simp

/-- KeyError exactly for the nodes that are not objects of the tree (no `NoRepeat` needed) -/
theorem parentInfo_keyError (n : Node) :
    (TreeT.build root).getParentInfo n = .error .keyError ↔ ∀ m ∈ allNodes root, m.uid ≠ n.uid := by
  have hp : dictGet? (TreeT.build root).pinfo n.uid = none ↔ ∀ it ∈ PI root.items, it.node.uid ≠ n.uid := by
    rw [← Option.not_isSome_iff_eq_none, pinfo_isSome]
    simp only [ikey, not_exists, not_and]
  rw [parentInfo_error_iff, hp, allNodes_eq]
  simp only [TreeT.isRoot, build_root, beq_eq_false_iff_ne, List.forall_mem_cons, List.forall_mem_map]

theorem parentInfo_foreign (n : Node) (hn : ∀ m ∈ allNodes root, m.uid ≠ n.uid) :
    (TreeT.build root).getParentInfo n = .error .keyError :=
  (parentInfo_keyError root n).mpr hn

theorem getParent_root : (TreeT.build root).getParent root = .ok none := by
  simp [TreeT.getParent, parentInfo_root, Except.map]

theorem getParent_chain (h : NoRepeat root) (c : Chain) (p : Node) (pe : Option Edge) (n : Node) (e : Edge)
    (hc : IsChain root (c ++ [(p, pe)] ++ [(n, some e)])) :
    (TreeT.build root).getParent n = .ok (some p) := by
  simp [TreeT.getParent, parentInfo_chain root h c p pe n e hc, Except.map]

theorem walk_chain (h : NoRepeat root) (c : Chain) (n : Node) (oe : Option Edge)
    (hc : IsChain root (c ++ [(n, oe)])) : Walk (TreeT.build root) n (c.reverse.map (·.1)) := by
  revert c n oe
  apply chain_rec
  · exact .top (getParent_root root)
  · intro c p pe n e h1 h2 ih
    rw [List.reverse_append, List.reverse_singleton, List.singleton_append, List.map_cons]
    exact .up (getParent_chain root h c p pe n e (IsChain.snoc c p pe n e h1 h2)) ih

theorem walk_fuel (c : Chain) (n : Node) (oe : Option Edge) (hc : IsChain root (c ++ [(n, oe)])) :
    (c.reverse.map (·.1)).length < root.size := by
  rw [List.length_map, List.length_reverse]
  exact chain_length_lt root c n oe hc

/-- ancestors are the parent chain up to the root (nearest first) -/
theorem ancestors_chain (h : NoRepeat root) (c : Chain) (n : Node) (oe : Option Edge)
    (hc : IsChain root (c ++ [(n, oe)])) :
    (TreeT.build root).getAncestors n = .ok (c.reverse.map (·.1)) := by
  unfold TreeT.getAncestors
  rw [build_root]
  exact (walk_chain root h c n oe hc).ancestorsAux _ (walk_fuel root c n oe hc)

theorem any_uid_false {c : Chain} {a : Node} (h : ∀ x ∈ c, x.1.uid ≠ a.uid) :
    c.any (·.1.uid == a.uid) = false :=
  List.any_eq_false.mpr fun x hx => by simpa using h x hx

/-- `is_ancestor` agrees with the chain -/
theorem isAncestor_chain (h : NoRepeat root) (c : Chain) (n a : Node) (oe : Option Edge)
    (hc : IsChain root (c ++ [(n, oe)])) :
    (TreeT.build root).isAncestor n a = .ok (c.any (·.1.uid == a.uid)) := by
  simp [TreeT.isAncestor, ancestors_chain root h c n oe hc, Except.map, List.any_reverse, List.any_map,
    Function.comp_def]

/-- first ancestor of type = first member of the reversed chain satisfying the class test -/
theorem firstAncestor_chain (h : NoRepeat root) (c : Chain) (n : Node) (oe : Option Edge)
    (hc : IsChain root (c ++ [(n, oe)])) (classes : List Str) (exact : Bool) :
    (TreeT.build root).firstAncestorOfType n classes exact =
      .ok ((c.reverse.map (·.1)).find? fun a => if exact then classes.contains a.cls else classes.any a.isInst) := by
  simp only [TreeT.firstAncestorOfType, ancestors_chain root h c n oe hc, Except.map]

/-- absolute depth = number of ancestors -/
theorem depth_chain (h : NoRepeat root) (c : Chain) (n : Node) (oe : Option Edge)
    (hc : IsChain root (c ++ [(n, oe)])) (chk : Bool) :
    (TreeT.build root).getDepth n none chk = .ok c.length := by
  simp only [TreeT.getDepth, build_root]
  rw [(walk_chain root h c n oe hc).depthAux none _ (walk_fuel root c n oe hc), depthIn_none]
  simp

/-- every node of the tree has a chain -/
theorem exists_chain (m : Node) (hm : m ∈ allNodes root) : ∃ c oe, IsChain root (c ++ [(m, oe)]) := by
  rcases (isTreeNode_iff root m).mpr hm with rfl | ⟨it, hit, rfl⟩
  · exact ⟨[], none, IsChain.root⟩
  · have key : ∀ y ∈ PI root.items,
        ∃ c pe, IsChain root (c ++ [(y.parent, pe)] ++ [(y.node, some y.edge)]) := by
      refine preItems_forall (fun _ => false) (fun _ => true) ?_ root.items ?_
      · intro y ⟨c, pe, hc⟩ _ x hx
        obtain ⟨hp, he⟩ := mem_items hx
        rw [hp]
        exact ⟨c ++ [(y.parent, pe)], some y.edge, IsChain.snoc _ _ _ _ _ hc he⟩
      · intro x hx
        obtain ⟨hp, he⟩ := mem_items hx
        rw [hp]
        exact ⟨[], none, IsChain.snoc [] root none _ _ IsChain.root he⟩
    obtain ⟨c, pe, hc⟩ := key it hit
    exact ⟨c ++ [(it.parent, pe)], some it.edge, hc⟩

theorem chain_uid_ne (h : NoRepeat root) (c : Chain) (n : Node) (oe : Option Edge)
    (hc : IsChain root (c ++ [(n, oe)])) : ∀ x ∈ c, x.1.uid ≠ n.uid := by
  intro x hx e
  have h1 := chain_mem root _ hc x (by simp [hx])
  have h2 := chain_mem root _ hc (n, oe) (by simp)
  have := uid_inj root h _ _ h1 h2 e
  have hs := (chain_sizes root c n oe hc).2 x hx
  rw [this] at hs
  simp at hs

theorem chain_pairwise (h : NoRepeat root) (c : Chain) (hc : IsChain root c) :
    c.Pairwise (fun x y => x.1.uid ≠ y.1.uid) := by
  induction hc with
  | root => simp
  | snoc c p pe n e h1 h2 ih =>
    rw [List.pairwise_append]
    refine ⟨ih, List.pairwise_singleton _ _, fun x hx y hy => ?_⟩
    rw [List.mem_singleton.mp hy]
    exact chain_uid_ne root h _ n (some e) (IsChain.snoc c p pe n e h1 h2) x hx

/-- relative depth to an ancestor -/
theorem depth_relative (h : NoRepeat root) (c₁ c₂ : Chain) (a n : Node) (ae oe : Option Edge)
    (hc : IsChain root (c₁ ++ [(a, ae)] ++ c₂ ++ [(n, oe)])) (chk : Bool) :
    (TreeT.build root).getDepth n (some a) chk = .ok (c₂.length + 1) := by
  have hl : (c₁ ++ [(a, ae)] ++ c₂).reverse.map (·.1) = c₂.reverse.map (·.1) ++ a :: c₁.reverse.map (·.1) := by
    simp only [List.reverse_append, List.reverse_singleton, List.map_append, List.map_cons, List.singleton_append]
  -- `a` is not met again between `n` and itself
  have hp := (List.pairwise_append.mp (List.pairwise_append.mp (chain_pairwise root h _ hc)).1).2.2 (a, ae)
    (List.mem_append_right _ (List.mem_singleton_self _))
  have hne : ∀ x ∈ c₂.reverse.map (·.1), x.uid ≠ a.uid := by
    intro x hx e
    obtain ⟨y, hy, rfl⟩ := List.mem_map.mp hx
    exact hp y (List.mem_reverse.mp hy) e.symm
  have hd : (TreeT.build root).depthAux (some a) root.size n = .ok (c₂.length + 1) := by
    rw [(walk_chain root h _ n oe hc).depthAux (some a) _ (walk_fuel root _ n oe hc), hl,
      depthIn_hit a _ _ hne, List.length_map, List.length_reverse]
  have ha : (TreeT.build root).isAncestor n a = .ok true := by
    rw [isAncestor_chain root h _ n a oe hc]
    simp
  cases chk <;> simp only [TreeT.getDepth, build_root, hd, ha, if_true, Bool.false_eq_true, if_false]

/-- ValueError for a non-ancestor when `check_ancestor=True` -/
theorem depth_non_ancestor (h : NoRepeat root) (c : Chain) (n r : Node) (oe : Option Edge)
    (hc : IsChain root (c ++ [(n, oe)])) (hr : ∀ x ∈ c, x.1.uid ≠ r.uid) :
    (TreeT.build root).getDepth n (some r) true = .error .valueError := by
  have ha := isAncestor_chain root h c n r oe hc
  rw [any_uid_false hr] at ha
  simp [TreeT.getDepth, ha]

theorem spellChain_append (a b : Chain) : spellChain (a ++ b) = spellChain a ++ spellChain b := by
  induction a with
  | nil => rfl
  | cons x r ih =>
    obtain ⟨n, oe⟩ := x
    cases oe <;> simp [spellChain, ih]

theorem xpath_table (h : NoRepeat root) :
    ∀ (c : Chain) (n : Node) (oe : Option Edge), IsChain root (c ++ [(n, oe)]) →
      dictGet? (TreeT.build root).xpath n.uid = some (spellChain (c ++ [(n, oe)])) := by
  have hk := noRepeat_keys root h
  apply chain_rec
  · rw [build_eq]
    simp only
    rw [fold_untouched ikey xpathVal _ _ _ hk.1, dictGet?_single]
    simp [spellChain, rootStep]
  · intro c p pe n e h1 h2 ih
    have hx := item_of_parent root (chain_last_node root _ _ _ h1) h2
    obtain ⟨l1, l2, hl⟩ := List.append_of_mem hx
    have hpb := PI_parentsBefore root.items (· = root) (fun x hx => (mem_items hx).1)
    rw [build_eq] at ih ⊢
    simp only at ih ⊢
    rw [hl] at ih hk hpb ⊢
    have hs := nodup_split ikey l1 l2 _ hk.2
    have hpu : ∀ y ∈ (⟨n, p, e⟩ : Item) :: l2, ikey y ≠ p.uid := by
      rcases ParentsBefore.split _ l1 l2 _ hpb with hp | ⟨y, hy, hyp⟩
      · intro y hy
        rw [show p = root from hp]
        exact hk.1 y (List.mem_append_right _ hy)
      · intro z hz
        rw [← show y.node = p from hyp]
        exact hs.2 y hy z hz
    rw [List.foldl_append, fold_untouched ikey xpathVal _ _ _ hpu] at ih
    have := fold_last ikey xpathVal l1 l2 ⟨n, p, e⟩ [(root.uid, rootStep root)] hs.1
    simp only [ikey] at this
    rw [this, spellChain_append (c ++ [(p, pe)])]
    simp [xpathVal, ih, spellChain]

/-- `get_xpath` spells the chain -/
theorem xpath_chain (h : NoRepeat root) (c : Chain) (n : Node) (oe : Option Edge)
    (hc : IsChain root (c ++ [(n, oe)])) :
    (TreeT.build root).getXpath n = .ok (spellChain (c ++ [(n, oe)])) := by
  simp only [TreeT.getXpath, xpath_table root h c n oe hc]

end Main

/-! A concrete five-node tree: the hypotheses hold on it, and the queries are run. -/

private def leaf (u : Nat) : Node :=
  .mk { uid := u, cls := ['L'], mro := [['L'], ['N']], org := ⟨0, []⟩, props := [], truthy := true } []
private def mid : Node :=
  .mk { uid := 2, cls := ['M'], mro := [['M'], ['N']], org := ⟨0, []⟩, props := [], truthy := false }
    [.mk ['x'] false [leaf 3]]
private def tree : Node :=
  .mk { uid := 0, cls := ['R'], mro := [['R'], ['N']], org := ⟨0, []⟩, props := [], truthy := true }
    [.mk ['a'] true [leaf 1, mid], .mk ['b'] false [leaf 4]]

private def okNat : Except TErr Nat → Option Nat | .ok n => some n | .error _ => none
private def okStr : Except TErr Str → Option Str | .ok n => some n | .error _ => none
private def okUids : Except TErr (List Node) → Option (List Nat)
  | .ok l => some (l.map (·.uid)) | .error _ => none
private def okPos : Except TErr (Option PInfo) → Option (Option (Nat × Edge))
  | .ok p => some (p.map fun i => (i.parent.uid, i.edge)) | .error _ => none
private def errOf {α : Type} : Except TErr α → Option TErr | .ok _ => none | .error e => some e

example : NoRepeat tree := by unfold NoRepeat; decide
example : (allNodes tree).map (·.uid) = [0, 1, 2, 3, 4] := by decide
example : IsChain tree ([] ++ [(tree, none)] ++ [(mid, some ⟨['a'], some 1⟩)] ++ [(leaf 3, some ⟨['x'], none⟩)]) :=
  IsChain.snoc _ _ _ _ _ (IsChain.snoc [] _ _ _ _ IsChain.root (List.Mem.tail _ (List.Mem.head _)))
    (List.Mem.head _)
example : okPos ((TreeT.build tree).getParentInfo (leaf 3)) = some (some (2, ⟨['x'], none⟩)) := by decide
example : okPos ((TreeT.build tree).getParentInfo tree) = some none := by decide
example : errOf ((TreeT.build tree).getParentInfo (leaf 9)) = some .keyError := by decide
example : okUids ((TreeT.build tree).getAncestors (leaf 3)) = some [2, 0] := by decide
example : okNat ((TreeT.build tree).getDepth (leaf 3) none true) = some 2 := by decide
example : okNat ((TreeT.build tree).getDepth (leaf 3) (some mid) true) = some 1 := by decide
example : errOf ((TreeT.build tree).getDepth (leaf 3) (some (leaf 4)) true) = some .valueError := by decide
example : okStr ((TreeT.build tree).getXpath (leaf 3)) = some "/@root[0]R/@a[1]M/@x[0]L".toList := by decide +kernel
example : (TreeT.build tree).isInTree (leaf 4) = true ∧ (TreeT.build tree).isInTree (leaf 9) = false := by decide

/-- `NoRepeat` is needed in `parentInfo_chain`: when the same object is stored twice (here `leaf 1`
at `a[0]` and `a[1]`), `[(shared, none), (leaf 1, a[0])]` is a chain but the table answers with the
position written last, `a[1]`. -/
private def shared : Node :=
  .mk { uid := 0, cls := ['R'], mro := [['R'], ['N']], org := ⟨0, []⟩, props := [], truthy := true }
    [.mk ['a'] true [leaf 1, leaf 1]]
example : ¬ NoRepeat shared := by unfold NoRepeat; decide
example : IsChain shared ([] ++ [(shared, none)] ++ [(leaf 1, some ⟨['a'], some 0⟩)]) :=
  IsChain.snoc [] _ _ _ _ IsChain.root (List.Mem.head _)
example : okPos ((TreeT.build shared).getParentInfo (leaf 1)) = some (some (0, ⟨['a'], some 1⟩)) := by decide

end C06
end PyOak

section Axioms
open PyOak.C06
#print axioms isInTree_iff
#print axioms parentInfo_root
#print axioms parentInfo_chain
#print axioms parentInfo_foreign
#print axioms ancestors_chain
#print axioms depth_chain
#print axioms depth_relative
#print axioms depth_non_ancestor
#print axioms isAncestor_chain
#print axioms firstAncestor_chain
#print axioms xpath_chain
#print axioms exists_chain
#print axioms chain_mem
end Axioms

