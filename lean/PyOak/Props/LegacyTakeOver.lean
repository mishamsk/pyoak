/-
`replace_with(new)` where `new` is an attached root, and `replace_with` for every receiver and argument
(`replaceWith_inv`).

The new node is popped from the registry under its own id, takes the id of the receiver and is attached
again ("replace").  Between the pop and the attach the parent ids stored by its children dangle (they name
an id nobody is registered under), so the intermediate state is outside the invariant.  `_attach` treats
those children as attached roots (their `parent` property is `None`), plans the new node only, and the
commit step gives every child its parent link again: the detour state is never observed.

A successful `_attach` of a node all of whose children are attached roots commits exactly that node
(`attach_roots`), and the commit step from the detour state equals the commit step from the state in which the
new node was first removed from the registry by `detach_self()`, children's parent links cleared, a state that
satisfies the invariant (`commitOne_takeOver`).  Hence pop, id swap and `_attach` preserve the invariant, also
with a hole elsewhere (`takeOver_attach_invX`).  If `new` is the receiver's own parent the attach is rejected
(two planned nodes with one id), so `replace_with` raises (`takeOver_parent_fails`).
-/
import PyOak.Props.LegacyCycle
import PyOak.Props.LegacyRollback
import PyOak.Props.LegacyRemove
import PyOak.Props.LegacyDupFrame
namespace PyOak.Legacy
open LState

theorem LState.ext' {a b : LState} (h1 : ∀ x, a.obj x = b.obj x) (h2 : a.size = b.size) (h3 : a.reg = b.reg) :
    a = b := by
  cases a; cases b
  simp only [LState.mk.injEq]
  exact ⟨funext h1, h2, h3⟩

theorem foldl_clearParent_reg : ∀ (ks : List Nat) (s : LState), (ks.foldl LState.clearParent s).reg = s.reg := by
  intro ks; induction ks with
  | nil => intro s; rfl
  | cons c r ih => intro s; simp only [List.foldl_cons]; rw [ih]; rfl

/-! ### planning over attached roots -/

theorem planKids_roots (s : LState) (rec : Nat → Plan → Except Err (Plan × Collision)) (u : Nat) :
    ∀ (ks : List Nat) (pl pl' : Plan), (∀ c ∈ ks, RootOk s c) → planKids s rec u ks pl = .ok (pl', none) →
      pl'.order = pl.order := by
  intro ks
  induction ks with
  | nil =>
    intro pl pl' _ h
    simp only [planKids, Except.ok.injEq, Prod.mk.injEq, and_true] at h
    rw [h]
  | cons c cs ih =>
    intro pl pl' hks h
    have hca := (hks c (List.mem_cons_self ..)).1
    rcases planKids_cons h with ⟨p, hp⟩ | ⟨pl1, rfl, _, ⟨hn, _⟩ | ⟨_, col, h1⟩ | ⟨_, h1⟩⟩
    · cases hp
    · exact absurd hca hn
    · cases h1
    · exact ih { pl with seen := (c, u) :: pl.seen } pl' (fun x hx => hks x (List.mem_cons_of_mem _ hx)) h1.symm

section
variable (Hc : Str → Str)

/-- a successful `_attach` of a node whose children are all attached roots commits that node only -/
theorem attach_roots {s s' : LState} {n fuel : Nat} (hks : ∀ c ∈ (s.obj n).kidList, RootOk s c)
    (h : attach Hc fuel s n = (s', .ok ())) :
    s' = commitOne Hc s n ∧ s.lookup (s.idOf n) = none ∧ (s.obj n).kidList.Nodup := by
  obtain ⟨seg, _, hnseg, _, hfree, _, hkids, _, _⟩ := attach_plan Hc h
  have hnd : (s.obj n).kidList.Nodup := by
    obtain ⟨l1, l2, hdec⟩ := List.append_of_mem hnseg
    rw [hdec, kidsOf_append] at hkids
    have := (List.nodup_append.mp hkids).2.1
    unfold kidsOf at this; simp only [List.flatMap_cons] at this
    exact (List.nodup_append.mp this).1
  refine ⟨?_, hfree n hnseg, hnd⟩
  -- the plan is the node alone
  unfold attach at h
  cases hp : attachPlan s fuel n {} with
  | error e => rw [hp] at h; simp at h
  | ok res =>
    obtain ⟨pl, col⟩ := res
    rw [hp] at h
    cases col with
    | some cc => simp at h
    | none =>
      simp only [Prod.mk.injEq, and_true] at h
      cases fuel with
      | zero => simp [attachPlan] at hp
      | succ fuel =>
        unfold attachPlan at hp
        simp only at hp
        by_cases hcol : ((s.lookup (s.idOf n)).isSome || (regGet ({} : Plan).pending (s.idOf n)).isSome) = true
        · simp [hcol] at hp
        · simp only [hcol, Bool.false_eq_true, if_false] at hp
          cases hr : planKids s (attachPlan s fuel) n (s.obj n).kidList
              { ({} : Plan) with pending := (s.idOf n, n) :: ({} : Plan).pending } with
          | error e => rw [hr] at hp; simp at hp
          | ok res =>
            obtain ⟨pl1, col1⟩ := res
            rw [hr] at hp
            cases col1 with
            | some cc => simp at hp
            | none =>
              simp only [Except.ok.injEq, Prod.mk.injEq, and_true] at hp
              have ho := planKids_roots s (attachPlan s fuel) n _ _ pl1 hks hr
              have : pl.order = [n] := by rw [← hp]; simp [ho]
              rw [this] at h
              simp only [List.foldl_cons, List.foldl_nil] at h
              exact h.symm

theorem commitOne_reg (s : LState) (n : Nat) : (commitOne Hc s n).reg = regSet s.reg (s.idOf n) n := by
  unfold commitOne LState.register
  simp only [setContentId_idOf, reparent_idOf]
  show regSet (reparent n s (s.obj n).kidsPos).reg (s.idOf n) n = _
  rw [reparent_reg]

/-- the id swap of `replace_with` -/
def swapId (k' : Str) (x : LObj) : LObj := { x with origId := some x.id, id := k' }

theorem takeOver_att {s : LState} {u n : Nat} (hn : Att s n) :
    takeOver s u n = ((s.unregister (s.idOf n)).modify n (swapId (s.idOf u)), true) := by
  unfold takeOver
  have hd : s.detached n = false := (detached_eq_false_iff _ _).mpr hn
  simp only [hd, Bool.not_false, if_true, unregister_idOf]
  rfl

theorem takeOver_det {s : LState} {u n : Nat} (hn : ¬ Att s n) :
    takeOver s u n = (s.modify n (swapId (s.idOf u)), false) := by
  unfold takeOver
  have hd : s.detached n = true := (detached_eq_true_iff _ _).mpr hn
  simp only [hd, Bool.not_true, Bool.false_eq_true, if_false]
  rfl

/-- the state in which the new node has been removed from the registry the regular way
(`detach_self()`: the children's parent links are cleared) and then carries the receiver's id -/
def viaDetachSelf (s : LState) (n : Nat) (k' : Str) : LState :=
  (((s.obj n).kidList.foldl LState.clearParent s).unregister (s.idOf n)).modify n (swapId k')

theorem popped_obj (s : LState) (n : Nat) (k' : Str) (x : Nat) :
    ((s.unregister (s.idOf n)).modify n (swapId k')).obj x = if x = n then swapId k' (s.obj n) else s.obj x := by
  rw [modify_obj]; rfl

theorem popped_lookup (s : LState) (n : Nat) (k' k : Str) :
    ((s.unregister (s.idOf n)).modify n (swapId k')).lookup k = if s.idOf n = k then none else s.lookup k := by
  rw [modify_lookup, unregister_lookup]

theorem viaDetachSelf_obj {s : LState} {n : Nat} (hnk : n ∉ (s.obj n).kidList) (k' : Str) (x : Nat) :
    (viaDetachSelf s n k').obj x =
      if x = n then swapId k' (s.obj n) else if x ∈ (s.obj n).kidList then clearP (s.obj x) else s.obj x := by
  unfold viaDetachSelf
  rw [modify_obj, unregister_obj, unregister_obj, foldl_clearParent_obj, foldl_clearParent_obj, if_neg hnk]

theorem viaDetachSelf_lookup (s : LState) (n : Nat) (k' k : Str) :
    (viaDetachSelf s n k').lookup k = if s.idOf n = k then none else s.lookup k := by
  unfold viaDetachSelf; rw [modify_lookup, unregister_lookup, foldl_clearParent_lookup]

theorem viaDetachSelf_size (s : LState) (n : Nat) (k' : Str) : (viaDetachSelf s n k').size = s.size := by
  unfold viaDetachSelf; rw [modify_size, unregister_size, foldl_clearParent_size]

theorem viaDetachSelf_same {s : LState} {n : Nat} (hnk : n ∉ (s.obj n).kidList) (k' : Str) {x : Nat} (hx : x ≠ n) :
    SameButParent ((viaDetachSelf s n k').obj x) (s.obj x) := by
  rw [viaDetachSelf_obj hnk, if_neg hx]
  by_cases h : x ∈ (s.obj n).kidList
  · rw [if_pos h]; exact sameButParent_clearP _
  · rw [if_neg h]; exact SameButParent.refl _

/-- `reparent` overwrites the parent slots of the listed children: two states that agree on the id of `n` and
everywhere but in those slots get the same records -/
theorem reparent_congr (n : Nat) : ∀ (l : List (Nat × Str × Option Nat)) (a b : LState), a.idOf n = b.idOf n →
    (∀ x, SameButParent (a.obj x) (b.obj x)) → (∀ x, x ∉ l.map (·.1) → a.obj x = b.obj x) →
    ∀ x, (reparent n a l).obj x = (reparent n b l).obj x := by
  intro l
  induction l with
  | nil => intro a b _ _ h x; exact h x (by simp)
  | cons e r ih =>
    intro a b hid hs h x
    obtain ⟨c, f, i⟩ := e
    have hc : (a.setParent c n f i).obj c = (b.setParent c n f i).obj c := by
      rw [setParent_obj, setParent_obj, if_pos rfl, if_pos rfl, hid]
      exact eq_of_sameButParent
        ((sameButParent_setSlots _ _ _ _).trans ((hs c).trans (sameButParent_setSlots _ _ _ _).symm)) rfl rfl rfl
    have hne : ∀ y, y ≠ c → (a.setParent c n f i).obj y = a.obj y ∧ (b.setParent c n f i).obj y = b.obj y :=
      fun y hy => ⟨by rw [setParent_obj, if_neg hy], by rw [setParent_obj, if_neg hy]⟩
    simp only [reparent]
    refine ih _ _ (by rw [setParent_idOf, setParent_idOf]; exact hid) (fun y => ?_) (fun y hy => ?_) x
    · by_cases hyc : y = c
      · rw [hyc, hc]; exact SameButParent.refl _
      · rw [(hne y hyc).1, (hne y hyc).2]; exact hs y
    · by_cases hyc : y = c
      · rw [hyc]; exact hc
      · rw [(hne y hyc).1, (hne y hyc).2]
        exact h y (fun hm => (List.mem_cons.mp hm).elim hyc hy)

/-- the commit step depends on the state only through what `reparent` makes of it -/
theorem commitOne_congr {a b : LState} {n : Nat} (hsz : a.size = b.size) (hreg : a.reg = b.reg)
    (hid : a.idOf n = b.idOf n)
    (hr : ∀ x, (reparent n a (a.obj n).kidsPos).obj x = (reparent n b (b.obj n).kidsPos).obj x) :
    commitOne Hc a n = commitOne Hc b n := by
  apply LState.ext'
  · intro x
    unfold commitOne
    rw [register_obj, register_obj, setContentId_obj, setContentId_obj, hr n, hr x,
      cidPre_congr (s' := reparent n a (a.obj n).kidsPos) (s := reparent n b (b.obj n).kidsPos)
        (o := (reparent n b (b.obj n).kidsPos).obj n) (o' := (reparent n b (b.obj n).kidsPos).obj n) rfl rfl rfl
        (fun c _ => congrArg LObj.cid (hr c))]
  · rw [commitOne_size, commitOne_size, hsz]
  · rw [commitOne_reg, commitOne_reg, hreg, hid]

/-- **the commit step does not see the dangling parent ids**: it overwrites the parent slots of every child -/
theorem commitOne_takeOver (s : LState) (n : Nat) (k' : Str) (hnk : n ∉ (s.obj n).kidList) :
    commitOne Hc ((s.unregister (s.idOf n)).modify n (swapId k')) n = commitOne Hc (viaDetachSelf s n k') n := by
  have ha := popped_obj s n k'
  have hb := viaDetachSelf_obj hnk k'
  have hAn := (ha n).trans (if_pos rfl)
  have hBn := (hb n).trans (if_pos rfl)
  refine commitOne_congr Hc (viaDetachSelf_size s n k').symm ?_ (congrArg LObj.id (hAn.trans hBn.symm)) ?_
  · unfold viaDetachSelf LState.unregister
    simp only [modify_reg, foldl_clearParent_reg]
  · rw [hAn, hBn]
    refine reparent_congr n _ _ _ (congrArg LObj.id (hAn.trans hBn.symm)) (fun x => ?_) (fun x hx => ?_)
    · rw [ha, hb]
      by_cases hx : x = n
      · rw [if_pos hx, if_pos hx]; exact SameButParent.refl _
      · rw [if_neg hx, if_neg hx]
        by_cases h : x ∈ (s.obj n).kidList
        · rw [if_pos h]; exact (sameButParent_clearP _).symm
        · rw [if_neg h]; exact SameButParent.refl _
    · have hxk : x ∉ (s.obj n).kidList := by rw [← kidsPos_map_fst]; exact hx
      rw [ha, hb]
      by_cases hxn : x = n
      · rw [if_pos hxn, if_pos hxn]
      · rw [if_neg hxn, if_neg hxn, if_neg hxk]

/-- **pop, id swap, `_attach`** of an attached root preserves the invariant (possibly with holes elsewhere) -/
theorem takeOver_attach_invX {X : Nat → (Nat × Str × Option Nat) → Prop} {Y : Nat → Prop}
    {s s3 : LState} {u n fuel : Nat} (hI : InvX Hc X Y s) (hn : Att s n) (hroot : s.parent n = none)
    (hXn : ∀ q e, X q e → q ≠ n ∧ e.1 ≠ n)
    (hat : attach Hc fuel (takeOver s u n).1 n = (s3, .ok ())) :
    InvX Hc X Y s3 ∧ Att s3 n ∧ s3.size = s.size ∧ (s3.obj n).pid = none ∧ s3.idOf n = s.idOf u ∧
      (∀ x, x ≠ n → s3.idOf x = s.idOf x) ∧ (∀ x, (s3.obj x).fields = (s.obj x).fields) ∧
      (∀ k v, s.lookup k = some v → v ≠ n → s3.lookup k = some v) := by
  rw [takeOver_att hn] at hat
  simp only at hat
  generalize hk' : s.idOf u = k' at hat ⊢
  have hpidn : (s.obj n).pid = none := hI.pid_none_of_root hroot
  have hkid : ∀ c ∈ (s.obj n).kidList, Att s c ∧ (s.obj c).pid = some (s.idOf n) ∧ c ≠ n := by
    intro c hc
    obtain ⟨a, b⟩ := hI.kid hn hc (fun e _ hx => (hXn n e hx).1 rfl)
    exact ⟨a, b, fun h => by rw [h, hpidn] at b; cases b⟩
  have hnk : n ∉ (s.obj n).kidList := fun h => (hkid n h).2.2 rfl
  -- in both intermediate states the children of `n` are still registered
  have hkidAtt : ∀ t : LState, (∀ x, x ≠ n → t.idOf x = s.idOf x) →
      (∀ k, t.lookup k = if s.idOf n = k then none else s.lookup k) → ∀ c ∈ (s.obj n).kidList, Att t c := by
    intro t hid hlk c hc
    obtain ⟨a, _, hcn⟩ := hkid c hc
    unfold Att
    rw [hid c hcn, hlk, if_neg (fun e => hcn (att_inj hn a e).symm)]; exact a
  -- the detour state: the parent ids of the children dangle, so they count as attached roots
  have hroots : ∀ c ∈ (((s.unregister (s.idOf n)).modify n (swapId k')).obj n).kidList,
      RootOk ((s.unregister (s.idOf n)).modify n (swapId k')) c := by
    intro c hc
    rw [popped_obj, if_pos rfl] at hc
    have hc' : c ∈ (s.obj n).kidList := hc
    obtain ⟨_, b, hcn⟩ := hkid c hc'
    refine ⟨hkidAtt _ (fun x hx => congrArg LObj.id ((popped_obj s n k' x).trans (if_neg hx))) (popped_lookup s n k') c hc', ?_⟩
    rw [parent_of_pid (by rw [popped_obj, if_neg hcn]; exact b), popped_lookup, if_pos rfl]
  obtain ⟨h3, hfree2, hnd2⟩ := attach_roots Hc hroots hat
  rw [popped_obj, if_pos rfl] at hnd2
  have hnd : (s.obj n).kidList.Nodup := hnd2
  have hidn2 : ((s.unregister (s.idOf n)).modify n (swapId k')).idOf n = k' :=
    congrArg LObj.id ((popped_obj s n k' n).trans (if_pos rfl))
  rw [hidn2, popped_lookup] at hfree2
  rw [commitOne_takeOver Hc s n k' hnk] at h3
  -- the regular way: `detach_self()`, id swap, commit
  have hvn : (viaDetachSelf s n k').obj n = swapId k' (s.obj n) := by rw [viaDetachSelf_obj hnk, if_pos rfl]
  have hidt : ∀ x, x ≠ n → (viaDetachSelf s n k').idOf x = s.idOf x := fun x hx => (viaDetachSelf_same hnk k' hx).id
  have hidtn : (viaDetachSelf s n k').idOf n = k' := by unfold LState.idOf; rw [hvn]; rfl
  have hflt : ∀ x, ((viaDetachSelf s n k').obj x).fields = (s.obj x).fields := by
    intro x
    by_cases hx : x = n
    · rw [hx, hvn]; rfl
    · exact (viaDetachSelf_same hnk k' hx).fields
  have hklt : ((viaDetachSelf s n k').obj n).kidList = (s.obj n).kidList := LObj.kidList_congr (hflt n)
  have hlkt := viaDetachSelf_lookup s n k'
  have hfreet : (viaDetachSelf s n k').lookup ((viaDetachSelf s n k').idOf n) = none := by
    rw [hidtn, hlkt]; exact hfree2
  have hI2 : InvX Hc X Y (viaDetachSelf s n k') := by
    have hlk1 : ∀ k, (((s.obj n).kidList.foldl LState.clearParent s).unregister (s.idOf n)).lookup k =
        if s.idOf n = k then none else s.lookup k := by
      intro k; rw [unregister_lookup, foldl_clearParent_lookup]
    have hI1 : InvX Hc X Y (((s.obj n).kidList.foldl LState.clearParent s).unregister (s.idOf n)) := by
      refine detachGo_invX Hc hI (detach_self_eq (fuel := 0) hn hroot) (fun q e hx hun => hun.2 ?_)
      unfold Att
      rw [unregister_idOf, foldl_clearParent_idOf, hlk1,
        if_neg (fun e' => (hXn q e hx).1 (att_inj hn hun.1 e').symm)]
      exact hun.1
    unfold viaDetachSelf
    refine inv_modify_unregistered Hc hI1 (fun k hk => ?_) (swapId k') (.inr rfl) ?_ (hI1.wf n)
      (fun q e hx => (hXn q e hx).2)
    · rw [hlk1] at hk
      by_cases h : s.idOf n = k
      · rw [if_pos h] at hk; cases hk
      · rw [if_neg h] at hk; exact h (hI.regSound k n hk).2
    · rw [unregister_obj, foldl_clearParent_obj, if_neg hnk]; exact hI.pid_none_of_root hroot
  have hI3 : InvX Hc X Y (commitOne Hc (viaDetachSelf s n k') n) := by
    refine commitOne_inv Hc hI2
      (by rw [viaDetachSelf_size]; exact att_lt hI hn) hfreet ?_ (by rw [hklt]; exact hnd)
      (fun q e hx => (hXn q e hx).2)
    intro c hc
    rw [hklt] at hc
    refine ⟨hkidAtt _ hidt hlkt c hc, ?_⟩
    rw [viaDetachSelf_obj hnk, if_neg (hkid c hc).2.2, if_pos hc]; rfl
  rw [← h3] at hI3
  have hsame3 := fun x => commitOne_same Hc (viaDetachSelf s n k') n x
  rw [← h3] at hsame3
  have hlk3 : ∀ k, s3.lookup k = if k' = k then some n else if s.idOf n = k then none else s.lookup k := by
    intro k; rw [h3, commitOne_lookup, hidtn, hlkt]
  have hid3 : ∀ x, s3.idOf x = (viaDetachSelf s n k').idOf x := fun x => (hsame3 x).1
  refine ⟨hI3, ?_, ?_, ?_, ?_, ?_, ?_, ?_⟩
  · unfold Att; rw [hid3, hidtn, hlk3, if_pos rfl]
  · rw [h3, commitOne_size, viaDetachSelf_size]
  · rw [h3, commitOne_pid Hc _ n n (by rw [hklt]; exact hnk), hvn]; exact hpidn
  · rw [hid3, hidtn]
  · intro x hx; rw [hid3, hidt x hx]
  · intro x; rw [(hsame3 x).2, hflt]
  · intro k v hk hv
    rw [hlk3]
    have h1 : s.idOf n ≠ k := by
      intro e; rw [← e] at hk
      unfold Att at hn; rw [hn] at hk; exact hv (Option.some.inj hk).symm
    have h2 : k' ≠ k := by
      intro e
      rw [e, if_neg h1, hk] at hfree2; cases hfree2
    rw [if_neg h2, if_neg h1]; exact hk

/-! ### the new node is the receiver's own parent -/

/-- `child.replace_with(parent)` for an attached-root parent: the `_attach` of the parent under the child's id
plans the (detached) child as well -- two planned nodes with one id -- and is rejected -/
theorem takeOver_parent_fails {s s2 s3 : LState} {u p fuel : Nat} {f : Str} (hO : Opened Hc s s2 u p f)
    (hat : attach Hc fuel (takeOver s2 u p).1 p = (s3, .ok ())) : False := by
  rw [takeOver_att hO.pa2] at hat
  simp only at hat
  generalize hs3 : (s2.unregister (s2.idOf p)).modify p (swapId (s2.idOf u)) = t at hat
  have hobj : ∀ x, t.obj x = if x = p then swapId (s2.idOf u) (s2.obj p) else s2.obj x := by
    intro x; rw [← hs3, modify_obj]; rfl
  have hup : u ≠ p := Ne.symm hO.pu
  have hidu : t.idOf u = s2.idOf u := by unfold LState.idOf; rw [hobj]; simp [hup]
  have hidp : t.idOf p = s2.idOf u := by
    show (t.obj p).id = s2.idOf u
    rw [hobj]; simp [swapId]
  have hlk : ∀ k, t.lookup k = if s2.idOf p = k then none else s2.lookup k := by
    intro k; rw [← hs3, modify_lookup, unregister_lookup]
  have hkl : (t.obj p).kidList = (s2.obj p).kidList := by
    rw [hobj]; simp only [if_true]; rfl
  have hukid : u ∈ (t.obj p).kidList := by
    rw [hkl]; exact (mem_kidList_iff _ _).mpr ⟨_, hO.mem2, rfl⟩
  have hnu : ¬ Att t u := by
    unfold Att; rw [hidu, hlk]
    split
    · simp
    · exact hO.nu2
  obtain ⟨seg, _, hpseg, _, _, hids, _, hord, _⟩ := attach_plan Hc hat
  rcases OrderOk.mem hord p hpseg u hukid with h | h
  · exact hup (eq_of_nodup_map t.idOf seg hids u h p hpseg (by rw [hidu, hidp]))
  · exact hnu h.1

/-! ### `replace_with(new)`, any admissible `new` -/

theorem root_of_not_subtree {s : LState} {n : Nat} (hsub : s.isAttachedSubtree n = false) (hn : Att s n) :
    s.parent n = none := by
  have hd : s.detached n = false := (detached_eq_false_iff _ _).mpr hn
  unfold LState.isAttachedSubtree at hsub
  cases hp : s.parent n with
  | none => rfl
  | some q => simp [hp, hd] at hsub

/-- renaming a node that is not attached -/
theorem swapId_inv {X : Nat → (Nat × Str × Option Nat) → Prop} {Y : Nat → Prop} {s : LState} {n : Nat}
    (hI : InvX Hc X Y s) (hn : ¬ Att s n) (hXn : ∀ q e, X q e → e.1 ≠ n) (k' : Str) :
    InvX Hc X Y (s.modify n (swapId k')) :=
  inv_modify_unregistered Hc hI (fun _ hk => hn (hI.att_of_lookup hk)) (swapId k') (.inr rfl) (hI.pid_none hn)
    (hI.wf n) hXn

/-- **`replace_with(new)` on a receiver without parent** (an attached root or a detached node), `new` being
`None`, a detached node or an attached root -/
theorem replaceWith_inv_root {s s' : LState} {u fuel : Nat} {new : Option Nat} (hI : Inv Hc s)
    (hnew : ∀ n, new = some n → n < s.size) (hroot : s.parent u = none)
    (h : replaceWith Hc fuel s u new = (s', .ok ())) : Inv Hc s' := by
  unfold replaceWith at h
  cases new with
  | none =>
    simp only [Bool.false_eq_true, if_false, hroot] at h
    cases hd : detachGo (fuel + 1) false s u with
    | mk s1 res =>
      rw [hd] at h
      cases res with
      | none => simp at h
      | some b =>
        simp only [Prod.mk.injEq, and_true] at h
        subst h
        exact detachGo_inv Hc hI hd
  | some n =>
    have hn : n < s.size := hnew n rfl
    by_cases hsub : s.isAttachedSubtree n = true
    · simp [hsub] at h
    · have hsub' : s.isAttachedSubtree n = false := by simpa using hsub
      simp only [hsub', Bool.false_eq_true, if_false, hroot] at h
      have hI1 : ∀ s1 b, (if (!s.detached u) = true then detachGo (fuel + 1) false s u else (s, some true))
          = (s1, some b) → Inv Hc s1 ∧ s1.size = s.size ∧ Shrinks s s1 := by
        intro s1 b hh
        split at hh
        · have hF := detachGo_facts (fuel + 1) false s u b (by rw [hh])
          rw [hh] at hF
          exact ⟨detachGo_inv Hc hI hh, hF.shr.size, hF.shr⟩
        · cases hh
          exact ⟨hI, rfl, Shrinks.refl _⟩
      cases hd : (if (!s.detached u) = true then detachGo (fuel + 1) false s u else (s, some true)) with
      | mk s1 res =>
        rw [hd] at h
        cases res with
        | none => simp at h
        | some b =>
          obtain ⟨hI1, hsz1, hS1⟩ := hI1 s1 b hd
          simp only at h
          cases hat : attach Hc fuel (takeOver s1 u n).1 n with
          | mk s3 r3 =>
            rw [hat] at h
            cases r3 with
            | error e =>
              exfalso
              simp only at h
              split at h <;> simp at h
            | ok x =>
              cases x
              simp only [Prod.mk.injEq, and_true] at h
              subst h
              by_cases hna : Att s1 n
              · -- an attached root
                have hroot1 : s1.parent n = none := by
                  refine parent_of_pid_none ?_
                  rcases hS1.obj n with e | e
                  · rw [e]; exact hI.pid_none_of_root (root_of_not_subtree hsub' (hS1.att hna))
                  · rw [e]; rfl
                exact (takeOver_attach_invX Hc hI1 hna hroot1 (fun _ _ hx => hx.elim) hat).1
              · -- a detached node: only its own record changes before the attach
                rw [takeOver_det hna] at hat
                simp only at hat
                have hI2 := swapId_inv Hc hI1 hna (fun _ _ hx => hx.elim) (s1.idOf u)
                exact (attach_inv Hc hI2 (by rw [modify_size, hsz1]; exact hn) hat).1

/-- `_replace_child` with a new node that is attached under the receiver's id and stores no parent id -/
theorem replaceChild_new_inv {s s' : LState} {p u n fuel : Nat} {f : Str} {idx : Option Nat}
    (hI : InvX Hc (Hole p (u, f, idx)) NoY s) (hp : Att s p) (he : (u, f, idx) ∈ (s.obj p).kidsPos)
    (hn : Att s n) (hpid : (s.obj n).pid = none) (hid : s.idOf u = s.idOf n) (hnu : n ≠ u) (hnp : n ≠ p)
    (h : replaceChild Hc fuel s p u f idx (some n) = (s', true)) : Inv Hc s' := by
  refine replaceChild_some_inv Hc hI hp he hn (fun q hq hmem => ?_) hnp
    (fun hu => hnu (att_inj hu hn hid).symm) h
  obtain ⟨_, b⟩ := hI.kid hq hmem (fun e he1 hx => hnu (by rw [← he1, hx.2]))
  rw [hpid] at b; cases b

/-- **`replace_with(new)` on a receiver that has a parent**, `new` a detached node or an attached root
(no acyclicity hypothesis: on a cyclic heap the `detach()` of the receiver does not return) -/
theorem replaceWith_inv_parent_any {s s' : LState} {u p n fuel : Nat} (hI : Inv Hc s) (hn : n < s.size)
    (hpar : s.parent u = some p) (h : replaceWith Hc fuel s u (some n) = (s', .ok ())) : Inv Hc s' := by
  have hua := (hI.of_parent hpar).1
  obtain ⟨f, hf, _⟩ := hI.up u hua p hpar
  unfold replaceWith at h
  by_cases hsub : s.isAttachedSubtree n = true
  · simp [hsub] at h
  · have hsub' : s.isAttachedSubtree n = false := by simpa using hsub
    have hnu : n ≠ u := by
      intro e; subst e
      have hd : s.detached n = false := (detached_eq_false_iff _ _).mpr hua
      simp [LState.isAttachedSubtree, hpar, hd] at hsub'
    simp only [hsub', Bool.false_eq_true, if_false, hpar, hf] at h
    split at h
    · simp at h
    · split at h
      · simp at h
      · cases hds : detachGo (fuel + 1) false (s.clearParent u) u with
        | mk s2 res =>
          rw [hds] at h
          cases res with
          | none => simp at h
          | some b =>
            simp only at h
            obtain ⟨f', hO⟩ := rwith_open Hc hI hpar hds
            have hff : f' = f := by have := hO.hf; rw [hf] at this; exact (Option.some.inj this).symm
            subst hff
            have hu : u < s.size := att_lt hI hua
            have hps : p < s.size := att_lt hI hO.pa
            cases hat : attach Hc fuel (takeOver s2 u n).1 n with
            | mk s4 r4 =>
              rw [hat] at h
              cases r4 with
              | error e =>
                exfalso
                simp only at h
                split at h <;> simp at h
              | ok x =>
                cases x
                simp only at h
                by_cases hna2 : Att s2 n
                · -- an attached root
                  have hna : Att s n := (att_clearParent_iff s u n).mp (hO.shr.att hna2)
                  have hroot2 := (hO.root2 Hc hna (root_of_not_subtree hsub' hna) hnu hI).2
                  have hnp : n ≠ p := by
                    intro e; subst e
                    exact takeOver_parent_fails Hc hO hat
                  obtain ⟨hI4, hn4, hsz4, hpid4, hidn4, hid4, hfl4, hlk4⟩ := takeOver_attach_invX Hc hO.inv2 hna2 hroot2
                    (fun q e hx => by rw [hx.1, hx.2]; exact ⟨Ne.symm hnp, Ne.symm hnu⟩) hat
                  have hpa4 : Att s4 p := by
                    unfold Att; rw [hid4 p (Ne.symm hnp)]; exact hlk4 _ _ hO.pa2 (Ne.symm hnp)
                  have hmem4 : (u, f', (s.obj u).pindex) ∈ (s4.obj p).kidsPos := by
                    unfold LObj.kidsPos; rw [hfl4]; exact hO.mem2
                  cases hrc : replaceChild Hc fuel s4 p u f' (s.obj u).pindex (some n) with
                  | mk s5 fin =>
                    rw [hrc] at h
                    cases fin with
                    | false => simp at h
                    | true =>
                      simp only [if_true, Prod.mk.injEq, and_true] at h
                      subst h
                      exact replaceChild_new_inv Hc hI4 hpa4 hmem4 hn4 hpid4
                        (by rw [hid4 u (Ne.symm hnu), hidn4]) hnu hnp hrc
                · -- a detached node
                  have hnp : n ≠ p := fun e => hna2 (e ▸ hO.pa2)
                  rw [takeOver_det hna2] at hat
                  simp only at hat
                  have hpid2 : (s2.obj n).pid = none := hO.inv2.pid_none hna2
                  have hI3 := swapId_inv Hc hO.inv2 hna2 (fun q e hx => by rw [hx.2]; exact fun e' => hnu e'.symm)
                    (s2.idOf u)
                  generalize hs3 : s2.modify n (swapId (s2.idOf u)) = s3 at hat hI3
                  have hobj3 : ∀ x, x ≠ n → s3.obj x = s2.obj x := by
                    intro x hx; rw [← hs3]; exact modify_obj_ne _ _ _ _ hx
                  have hidn3 : s3.idOf n = s2.idOf u := by
                    rw [← hs3]; show ((s2.modify n (swapId (s2.idOf u))).obj n).id = _
                    rw [modify_obj_same]; rfl
                  have hlk3 : ∀ k, s3.lookup k = s2.lookup k := by intro k; rw [← hs3]; rfl
                  have hsz3 : s3.size = s2.size := by rw [← hs3]; rfl
                  have hpid3 : (s3.obj n).pid = none := by rw [← hs3, modify_obj_same]; exact hpid2
                  have hidu3 : s3.idOf u = s2.idOf u := by
                    show (s3.obj u).id = _; rw [hobj3 u (Ne.symm hnu)]; rfl
                  obtain ⟨hI4, hn4, hsz4, hg4, hpid4⟩ := attach_invX Hc hI3 (by rw [hsz3, hO.sz2]; exact hn)
                    (fun q e hx => by rw [hx.2]; exact ⟨Ne.symm hnu, by rw [hidu3, hidn3]⟩) hat
                  have hups : u < s3.size := by rw [hsz3, hO.sz2]; exact hu
                  have hpps : p < s3.size := by rw [hsz3, hO.sz2]; exact hps
                  have hpa3 : Att s3 p := by
                    unfold Att
                    have : s3.idOf p = s2.idOf p := by show (s3.obj p).id = _; rw [hobj3 p (Ne.symm hnp)]; rfl
                    rw [this, hlk3]; exact hO.pa2
                  have hpa4 : Att s4 p := by unfold Att; rw [(hg4.same p hpps).1]; exact hg4.reg _ _ hpa3
                  have hmem4 : (u, f', (s.obj u).pindex) ∈ (s4.obj p).kidsPos := by
                    unfold LObj.kidsPos; rw [(hg4.same p hpps).2, hobj3 p (Ne.symm hnp), Opened.fl2 Hc hO p]; exact hO.mem
                  have hid : s4.idOf u = s4.idOf n := by
                    rw [(hg4.same u hups).1, (hg4.same n (by rw [hsz3, hO.sz2]; exact hn)).1, hidu3, hidn3]
                  cases hrc : replaceChild Hc fuel s4 p u f' (s.obj u).pindex (some n) with
                  | mk s5 fin =>
                    rw [hrc] at h
                    cases fin with
                    | false => simp at h
                    | true =>
                      simp only [if_true, Prod.mk.injEq, and_true] at h
                      subst h
                      exact replaceChild_new_inv Hc hI4 hpa4 hmem4 hn4 (hpid4.trans hpid3) hid hnu hnp hrc

/-- the case of a detached `new` on a heap without a cycle through the receiver -/
theorem replaceWith_inv_parent_some {s s' : LState} {u p n fuel : Nat} (hI : Inv Hc s) (hu : u < s.size)
    (hn : n < s.size) (hpar : s.parent u = some p) (hnd : s.detached n = true) (hacyc : ¬ Desc s u p)
    (h : replaceWith Hc fuel s u (some n) = (s', .ok ())) : Inv Hc s' :=
  replaceWith_inv_parent_any Hc hI hn hpar h

/-- **`replace_with(new)`**: every receiver, every argument -/
theorem replaceWith_inv {s s' : LState} {u fuel : Nat} {new : Option Nat} (hI : Inv Hc s)
    (hnew : ∀ n, new = some n → n < s.size) (h : replaceWith Hc fuel s u new = (s', .ok ())) : Inv Hc s' := by
  cases hpar : s.parent u with
  | none => exact replaceWith_inv_root Hc hI hnew hpar h
  | some p =>
    cases new with
    | none => exact replaceWith_inv_parent_none Hc hI hpar h
    | some n => exact replaceWith_inv_parent_any Hc hI (hnew n rfl) hpar h

end

end PyOak.Legacy
