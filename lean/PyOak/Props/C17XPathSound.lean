/-
C17, xpath grammar at the text level, the SOUNDNESS half and the resulting equivalence.

`XRenders known els s` — "the text `s` is a sentence of `xpath_grammar` denoting the elements `els`":
there are a written path (`List XStep`: per "/" an optional `@field`, an optional `[digits]` with ANY
digit string, an optional class; the last step with a class; every class a node class) and a spacing
of its tokens (`SpacedOK`: white space after any token, mandatory only between a name and a following
name) such that `s` is that rendering — or, for a text not starting with "/", "//" ++ `s` is
(`ASTXpath.__init__`) — and `els` is what the path denotes (`denote`, defined with the documented reading
`C20.pathOfRaw`, not with the model's reversed walk: an element is `anywhere` iff an empty step precedes
it, `[]` is "no index", an index is the decimal value of its digits, a missing class is `ASTNode`),
self first.

  `xparse_sound`    : `parseXPath known s = some els → XRenders known els s`
  `xparse_complete` : `XRenders known els s → parseXPath known s = some els`
  `parseXPath_iff`, `parseXPath_none_iff`, `xrenders_unique` (unambiguity of the meaning),
  `pathText_unique` (unambiguity of the written path); on the way `xlex_sound` (the lexer) and
  `digits_canonical` (an index text is its value with leading zeros).

This is the relation of `xpath_accepts_rendering` / `xpath_relative` (Props/C17.lean), with the meaning
conjunct replaced by the independent `denote`.
-/
import PyOak.Props.C17PatternSound
import PyOak.Props.C07Parse
namespace PyOak
namespace C17
open PM

/-- the elements a written path denotes, in text order -/
def denote (path : List XStep) : List XElem := C20.pathOfRaw (path.map rawOf) false

/-- `s` is a text of the written path `path`: the tokens of `path` (a derivation of `xpath: element* self`
over the node classes `known`) with an admissible spacing — as such, or without the leading "//" when the
text does not start with "/" (`if not xpath.startswith("/"): xpath = "//" + xpath`) -/
def PathText (known : Str → Bool) (path : List XStep) (s : Str) : Prop :=
  ∃ tws : List (XTok × Str),
    PathOK known path ∧ tws.map (·.1) = pathToks path ∧ SpacedOK tws
      ∧ (s = renderToks tws ∨ ((∀ r, s ≠ '/' :: r) ∧ '/' :: '/' :: s = renderToks tws))

/-- **the rendering relation of the xpath grammar**: `s` is a text of a written path that denotes `els`
(`_elements_reversed`: self first) -/
def XRenders (known : Str → Bool) (els : List XElem) (s : Str) : Prop :=
  ∃ path : List XStep, PathText known path s ∧ els = (denote path).reverse

/-- `denote`, with the pending-`//` flag explicit -/
def denoteFrom (path : List XStep) (pend : Bool) : List XElem := C20.pathOfRaw (path.map rawOf) pend

theorem denote_eq (path : List XStep) : denote path = denoteFrom path false := rfl
theorem denoteFrom_nil (pend : Bool) : denoteFrom [] pend = [] := rfl
/-- an empty step (the gap of a `//`) contributes no element and makes the next one `anywhere` -/
theorem denoteFrom_empty (path : List XStep) (pend : Bool) :
    denoteFrom (⟨none, none, none⟩ :: path) pend = denoteFrom path true := rfl
/-- a step that writes something is one element: its class (default `ASTNode`), its field, the decimal value
of its digits (`[]` = no index), `anywhere` iff an empty step precedes it -/
theorem denoteFrom_step (st : XStep) (path : List XStep) (pend : Bool)
    (h : st.field.isSome ∨ st.idx.isSome ∨ st.cls.isSome) :
    denoteFrom (st :: path) pend =
      ⟨st.cls.getD astNodeName, st.field, (st.idx.map idxVal).getD none, pend⟩ :: denoteFrom path false := by
  obtain ⟨f, i, c⟩ := st
  -- every shape of step but the empty one (excluded by `h`) evaluates
  cases f <;> cases i <;> cases c <;> first | rfl | simp at h

/-! ### the index: positional decimal value of ANY digit string -/

theorem digitsVal_nil : digitsVal [] = 0 := rfl

/-- the value of a digit string is positional decimal: appending a digit multiplies by ten and adds it -/
theorem digitsVal_snoc (ds : List Char) (c : Char) :
    digitsVal (ds ++ [c]) = digitsVal ds * 10 + (c.toNat - '0'.toNat) := by
  simp [digitsVal, List.foldl_append]

/-- leading zeros do not change the value: `[007]` is index 7 (several texts render one element) -/
theorem digitsVal_leading_zeros : ∀ (k : Nat) (ds : List Char), digitsVal (List.replicate k '0' ++ ds) = digitsVal ds
  | 0, ds => rfl
  | k + 1, ds => by
    rw [List.replicate_succ, List.cons_append, C20.digitsVal_zero_cons]
    exact digitsVal_leading_zeros k ds

theorem digitChar_toNat : ∀ n, n < 10 → (Nat.digitChar n).toNat = n + 48 := by decide

theorem digitChar_of_digit (c : Char) (h : isDigitC c = true) :
    c.toNat - '0'.toNat < 10 ∧ Nat.digitChar (c.toNat - '0'.toNat) = c := by
  have hr := (isDigitC_iff c).mp h
  rw [show '0'.toNat = 48 from rfl]
  have hlt : c.toNat - 48 < 10 := by omega
  exact ⟨hlt, (char_eq_iff _ _).mpr (by rw [digitChar_toNat _ hlt]; omega)⟩

theorem natStr_eq (n : Nat) : natStr n = Nat.toDigits 10 n := by
  unfold natStr; exact Nat.toList_repr

theorem digits_canonical_rev : ∀ rs : List Char, (∀ c ∈ rs, isDigitC c = true) → rs ≠ [] →
    ∃ k, rs.reverse = List.replicate k '0' ++ natStr (digitsVal rs.reverse)
  | [], _, h => absurd rfl h
  | c :: rs, hd, _ => by
    obtain ⟨hlt, hch⟩ := digitChar_of_digit c (hd c (by simp))
    have hone : natStr (c.toNat - '0'.toNat) = [c] := by
      rw [natStr_eq, Nat.toDigits_of_lt_base hlt, hch]
    rw [List.reverse_cons, digitsVal_snoc]
    cases rs with
    | nil =>
      refine ⟨0, ?_⟩
      rw [show digitsVal ([] : List Char).reverse = 0 from rfl, Nat.zero_mul, Nat.zero_add, hone]
      rfl
    | cons d rs' =>
      obtain ⟨k, ih⟩ := digits_canonical_rev (d :: rs') (fun x hx => hd x (by simp [hx])) (by simp)
      generalize (d :: rs').reverse = ds at ih
      by_cases hn : digitsVal ds = 0
      · rw [hn] at ih
        refine ⟨k + 1, ?_⟩
        rw [hn, Nat.zero_mul, Nat.zero_add, hone, ih, natStr_eq, Nat.toDigits_zero, List.replicate_succ',
          List.append_assoc]
      · refine ⟨k, ?_⟩
        have happ := Nat.toDigits_append_toDigits (b := 10) (n := digitsVal ds) (d := c.toNat - '0'.toNat)
          (by omega) (by omega) hlt
        rw [Nat.toDigits_of_lt_base hlt, hch] at happ
        rw [natStr_eq, Nat.mul_comm, ← happ, ← natStr_eq, ← List.append_assoc, ← ih]

/-- **every index text is its decimal value with leading zeros**: a non-empty digit string is
`0…0` followed by the canonical numeral of its value -/
theorem digits_canonical (ds : List Char) (hd : ∀ c ∈ ds, isDigitC c = true) (hne : ds ≠ []) :
    ∃ k, ds = List.replicate k '0' ++ natStr (digitsVal ds) := by
  have := digits_canonical_rev ds.reverse (fun c hc => hd c (by simpa using hc)) (by simpa using hne)
  simpa using this

/-- the digit strings of value `n` are exactly the zero-padded numerals of `n` -/
theorem digitsVal_eq_iff (ds : List Char) (hd : ∀ c ∈ ds, isDigitC c = true) (hne : ds ≠ []) (n : Nat) :
    digitsVal ds = n ↔ ∃ k, ds = List.replicate k '0' ++ natStr n := by
  constructor
  · rintro rfl; exact digits_canonical ds hd hne
  · rintro ⟨k, rfl⟩
    rw [digitsVal_leading_zeros]; exact C20.digitsVal_natStr n

/-- the index a bracket with the numeral `0…0n` denotes is `n` -/
theorem idxVal_padded (k n : Nat) : idxVal (List.replicate k '0' ++ natStr n) = some n := by
  have hne : (List.replicate k '0' ++ natStr n) ≠ [] := by
    intro h
    exact C20.natStr_ne_nil n (List.append_eq_nil_iff.mp h).2
  rw [idxVal, if_neg (by rw [List.isEmpty_iff]; exact hne), digitsVal_leading_zeros, C20.digitsVal_natStr]

theorem allWS_cons (c : Char) (w : Str) (hc : isWS c = true) (hw : AllWS w) : AllWS (c :: w) := by
  intro d hd
  rcases List.mem_cons.mp hd with rfl | hd
  · exact hc
  · exact hw d hd

theorem spacedOK_cons (t : XTok) (ws : Str) (r : List (XTok × Str)) (hn : ∀ s, t ≠ .cname s) (ht : TokOK t)
    (hws : AllWS ws) (hr : SpacedOK r) : SpacedOK ((t, ws) :: r) := by
  cases t with
  | cname s => exact absurd rfl (hn s)
  | _ => exact ⟨ht, hws, trivial, hr⟩

/-- **lexer soundness**: the text is its tokens, in order, with white space around them; names are
maximal (`SpacedOK`) -/
theorem xlex_sound : ∀ (fuel : Nat) (s : Str) (toks : List XTok), s.length ≤ fuel → xlex fuel s = some toks →
    ∃ (w : Str) (tws : List (XTok × Str)),
      AllWS w ∧ SpacedOK tws ∧ tws.map (·.1) = toks ∧ s = w ++ renderToks tws
  | 0, s, toks, hf, h => by
    cases List.eq_nil_of_length_eq_zero (Nat.le_zero.mp hf)
    cases h
    exact ⟨[], [], allWS_nil, trivial, rfl, rfl⟩
  | f + 1, [], toks, _, h => by
    cases h
    exact ⟨[], [], allWS_nil, trivial, rfl, rfl⟩
  | f + 1, c :: r, toks, hf, h => by
    have hr : r.length ≤ f := Nat.le_of_succ_le_succ hf
    rw [xlex_cons] at h
    by_cases hc : isWS c = true
    · rw [if_pos hc] at h
      obtain ⟨w, tws, hw, hok, hm, e⟩ := xlex_sound f r toks hr h
      exact ⟨c :: w, tws, allWS_cons c w hc hw, hok, hm, by rw [e]; rfl⟩
    rw [if_neg hc] at h
    cases hct : charTok c with
    | some t =>
      rw [hct] at h
      obtain ⟨toks', h', rfl⟩ := Option.map_eq_some_iff.mp h
      obtain ⟨w, tws, hw, hok, rfl, e⟩ := xlex_sound f r _ hr h'
      obtain ⟨hs, ht, hn⟩ := charTok_some c t hct
      exact ⟨[], (t, w) :: tws, allWS_nil, spacedOK_cons t w tws hn ht hw hok, rfl, by rw [renderToks, hs, e]; rfl⟩
    | none =>
      rw [hct] at h
      by_cases hn : isNameStart c = true
      · rw [if_pos hn] at h
        obtain ⟨toks', h', rfl⟩ := Option.map_eq_some_iff.mp h
        obtain ⟨hrun, hnext⟩ := span_spec isNameChar r
        obtain ⟨w, tws, hw, hok, rfl, e⟩ := xlex_sound f (r.dropWhile isNameChar) _
          (Nat.le_trans (List.dropWhile_sublist _).length_le hr) h'
        have hsep : w ≠ [] ∨ startsName (renderToks tws) = false := by
          cases w with
          | cons d w' => exact Or.inl (List.cons_ne_nil _ _)
          | nil => rw [e] at hnext; exact Or.inr ((nextNot_startsName _).mpr hnext)
        refine ⟨[], (.cname (c :: r.takeWhile isNameChar), w) :: tws, allWS_nil,
          ⟨⟨c, _, rfl, hn, hrun⟩, hw, hsep, hok⟩, rfl, ?_⟩
        rw [renderToks, tokStr, ← e, List.nil_append, List.cons_append, List.takeWhile_append_dropWhile]
      · rw [if_neg hn] at h; cases h

/-- **parser soundness at token level**: an accepted token sequence is the token sequence of a written
path, and the raw elements are those of its steps -/
theorem parseSteps_sound (known : Str → Bool) (fuel : Nat) (toks : List XTok) (raws : List RawEl)
    (h : parseSteps known fuel toks = some raws) :
    ∃ path : List XStep, PathOK known path ∧ pathToks path = toks ∧ path.map rawOf = raws := by
  rw [parseSteps_eq] at h
  rw [rawOf_eq]
  exact stepsWith_sound mkRaw known fuel toks raws h

/-! ### the transformer's walk is the documented reading -/

theorem xwalk_denote (known : Str → Bool) (path : List XStep) (hp : PathOK known path) :
    xwalk (path.map rawOf).reverse [] = some (denote path).reverse := by
  obtain ⟨init, last, c, he, hc⟩ := pathOK_last known path hp
  rw [denote, he, List.map_append, List.map_singleton, rawOf_cls last c hc]
  exact C07P.xwalk_pathOfRaw (init.map rawOf) _

theorem xprefix_cases (s : Str) : (xprefix s = s ∧ ∃ r, s = '/' :: r) ∨ (xprefix s = '/' :: '/' :: s ∧ ∀ r, s ≠ '/' :: r) := by
  unfold xprefix
  split
  · exact Or.inl ⟨rfl, _, rfl⟩
  · rename_i hne
    exact Or.inr ⟨rfl, fun r hr => hne r hr⟩

theorem of_xprefix (s t : Str) (h : xprefix s = t) : s = t ∨ ((∀ r, s ≠ '/' :: r) ∧ '/' :: '/' :: s = t) := by
  rcases xprefix_cases s with ⟨hx, -⟩ | ⟨hx, hne⟩
  · exact Or.inl (by rw [← h, hx])
  · exact Or.inr ⟨hne, by rw [← h, hx]⟩

/-- the prefixed text starts with "/", so no white space precedes its first token -/
theorem xlex_xprefix_sound (s : Str) (toks : List XTok) (h : xlex ((xprefix s).length + 1) (xprefix s) = some toks) :
    ∃ tws : List (XTok × Str), SpacedOK tws ∧ tws.map (·.1) = toks ∧ xprefix s = renderToks tws := by
  obtain ⟨w, tws, hw, hok, hm, e⟩ := xlex_sound _ _ toks (Nat.le_succ _) h
  cases w with
  | nil => exact ⟨tws, hok, hm, e⟩
  | cons d w' =>
    have hd : isWS d = true := hw d List.mem_cons_self
    have : d = '/' := by
      rcases xprefix_cases s with ⟨hx, r, hs⟩ | ⟨hx, -⟩
      · rw [hx, hs] at e; exact (List.cons.inj e).1.symm
      · rw [hx] at e; exact (List.cons.inj e).1.symm
    rw [this] at hd
    cases hd

/-- **parser soundness**: a text `ASTXpath` accepts IS a sentence of the xpath grammar (as such, or
with "//" in front when it does not start with "/"), and the elements returned are the ones that
sentence denotes -/
theorem xparse_sound (known : Str → Bool) (s : Str) (els : List XElem) (h : parseXPath known s = some els) :
    XRenders known els s := by
  rw [parseXPath_eq] at h
  obtain ⟨toks, hl, h⟩ := Option.bind_eq_some_iff.mp h
  obtain ⟨raws, hp, h⟩ := Option.bind_eq_some_iff.mp h
  obtain ⟨tws, hok, hm, e⟩ := xlex_xprefix_sound s toks hl
  obtain ⟨path, hpath, ht, rfl⟩ := parseSteps_sound known _ toks raws hp
  rw [xwalk_denote known path hpath] at h
  exact ⟨path, ⟨tws, hpath, by rw [hm, ht], hok, of_xprefix s _ e⟩, (Option.some.inj h).symm⟩

/-- completeness, for the same relation (from `xpath_accepts_rendering`) -/
theorem xparse_complete (known : Str → Bool) (s : Str) (els : List XElem) (h : XRenders known els s) :
    parseXPath known s = some els := by
  obtain ⟨path, ⟨tws, hp, ht, hs, htext⟩, rfl⟩ := h
  obtain ⟨els', h1, h2⟩ := xpath_accepts_rendering known path tws hp ht hs
  rw [xwalk_denote known path hp] at h2
  rcases htext with rfl | ⟨hne, e⟩
  · rw [h1, h2]
  · rw [parseXPath_rel known s hne, e, h1, h2]

/-- **accepted by `ASTXpath` ⇔ a sentence of the documented grammar** (denoting those elements) -/
theorem parseXPath_iff (known : Str → Bool) (s : Str) (els : List XElem) :
    parseXPath known s = some els ↔ XRenders known els s :=
  ⟨xparse_sound known s els, xparse_complete known s els⟩

/-- definition error ⇔ the text is no sentence of the grammar over the node classes -/
theorem parseXPath_none_iff (known : Str → Bool) (s : Str) :
    parseXPath known s = none ↔ ¬ ∃ els, XRenders known els s := by
  simp only [← parseXPath_iff, Option.eq_none_iff_forall_ne_some, not_exists]

/-- accepted ⇔ a text of some written path -/
theorem parseXPath_accepts_iff (known : Str → Bool) (s : Str) :
    (∃ els, parseXPath known s = some els) ↔ ∃ path, PathText known path s := by
  constructor
  · rintro ⟨els, h⟩
    obtain ⟨path, hp, -⟩ := xparse_sound known s els h
    exact ⟨path, hp⟩
  · rintro ⟨path, hp⟩
    exact ⟨_, xparse_complete known s _ ⟨path, hp, rfl⟩⟩

/-- **unambiguity**: a text denotes at most one element list -/
theorem xrenders_unique (known : Str → Bool) (s : Str) (els els' : List XElem)
    (h : XRenders known els s) (h' : XRenders known els' s) : els = els' := by
  have e := xparse_complete known s els h
  rw [xparse_complete known s els' h'] at e
  injection e with e
  exact e.symm

/-! ### the text determines its written path (unambiguity at the level of derivations) -/

theorem pathText_xprefix (known : Str → Bool) (path : List XStep) (s : Str) (tws : List (XTok × Str))
    (hp : PathOK known path) (ht : tws.map (·.1) = pathToks path)
    (htext : s = renderToks tws ∨ ((∀ r, s ≠ '/' :: r) ∧ '/' :: '/' :: s = renderToks tws)) :
    xprefix s = renderToks tws := by
  rcases htext with rfl | ⟨hne, e⟩
  · obtain ⟨r, hr⟩ := render_slash path tws (pathOK_ne_nil known path hp) ht
    rw [hr]; rfl
  · rcases xprefix_cases s with ⟨-, r, hs'⟩ | ⟨hx, -⟩
    · exact absurd hs' (hne r)
    · rw [hx, e]

/-- **the grammar is unambiguous at the level of derivations**: a text is a text of at most one written
path (same fields, same digit strings, same classes, same empty steps) -/
theorem pathText_unique (known : Str → Bool) (s : Str) (p p' : List XStep)
    (h : PathText known p s) (h' : PathText known p' s) : p = p' := by
  obtain ⟨tws, hp, ht, hs, htext⟩ := h
  obtain ⟨tws', hp', ht', hs', htext'⟩ := h'
  have e := pathText_xprefix known p s tws hp ht htext
  have e' := pathText_xprefix known p' s tws' hp' ht' htext'
  have hl := xlex_render tws hs ((xprefix s).length + 1) (by rw [e]; omega)
  have hl' := xlex_render tws' hs' ((xprefix s).length + 1) (by rw [e']; omega)
  rw [← e] at hl
  rw [← e', hl] at hl'
  injection hl' with hl'
  exact pathToks_inj p p' (by rw [← ht, ← ht', hl'])

/-- a relative text means the same as "//" followed by it (stated on the relation) -/
theorem xrenders_relative (known : Str → Bool) (s : Str) (els : List XElem) (hne : ∀ r, s ≠ '/' :: r) :
    XRenders known els s ↔ XRenders known els ('/' :: '/' :: s) := by
  rw [← parseXPath_iff, ← parseXPath_iff, parseXPath_rel known s hne]

/-- a text of the grammar denotes at least one element -/
theorem xrenders_nonempty (known : Str → Bool) (s : Str) (els : List XElem) (h : XRenders known els s) : els ≠ [] :=
  parseXPath_nonempty known s els (xparse_complete known s els h)

section Examples
-- `exTws` of Props/C17.lean renders `exPath`: the relation holds of a concrete non-trivial text
example : XRenders exKnown [⟨['E'], none, none, true⟩, ⟨['L'], some ['i'], some 12, false⟩] (renderToks exTws) :=
  ⟨exPath, ⟨exTws, exPath_ok, exTws_toks, exTws_spaced, Or.inl rfl⟩, by decide⟩
-- `///E`, ` /E`, `[0 07]`, `[ ]`: sentences of the grammar the narrower written-path relation of C07Parse misses
example : parseXPath exKnown ['/', '/', '/', 'E'] = some [⟨['E'], none, none, true⟩] := by decide
example : parseXPath exKnown [' ', '/', 'E'] = some [⟨['E'], none, none, true⟩] := by decide +kernel
example : parseXPath exKnown ['/', '[', '0', ' ', '0', '7', ']', 'E'] = some [⟨['E'], none, some 7, false⟩] := by decide +kernel
example : parseXPath exKnown ['/', '[', ' ', ']', 'E'] = some [⟨['E'], none, none, false⟩] := by decide +kernel
-- rejected
example : parseXPath exKnown ['/', 'E', '/'] = none := by decide
example : parseXPath exKnown ['/', '@', 'i', 'E'] = none := by decide
example : parseXPath exKnown ['/', 'E', '[', '1', ']'] = none := by decide +kernel
end Examples

end C17
end PyOak

#print axioms PyOak.C17.xlex_sound
#print axioms PyOak.C17.parseSteps_sound
#print axioms PyOak.C17.xparse_sound
#print axioms PyOak.C17.parseXPath_iff
#print axioms PyOak.C17.xrenders_unique
#print axioms PyOak.C17.pathText_unique
#print axioms PyOak.C17.digits_canonical
