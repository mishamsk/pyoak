/-
C19 for the legacy TRANSFORM VISITOR and TRANSFORMER (Model/LegacyTransform.lean).

The frame of a rejected transformation is stated like `fail_frame_dup` (Props/C19.lean), i.e. modulo the
temporaries of the rejected call (clones; nodes made by the callbacks), which are garbage when the call returns
(weak registry: `gcNew` in Handle/Legacy.lean, glue outside the model):

  FrameG s s'
     every pre-existing record is untouched, every pre-existing registry entry is kept, every additional entry
     belongs to an object created by the rejected call.
  `FrameG.frame_of_reg`: if moreover the registry itself is the same (no callback made an ATTACHED node) this is
  `C19.Frame s s'`.

The property's text for `transform`, FALSE for the code as it is (see the witnesses):

  Inv Hc s → stepX H Hc s (.tvisit u rules) = (s', .raised .transformError) → FrameG s s'
  Inv Hc s → stepX H Hc s (.texec u rules)  = (s', .raised .transformError) → FrameG s s'

PROVED:

  local_step / localRun_frameG     the clone-local primitive steps (`duplicate(as_detached_clone=True)` of anything,
                                   a constructor call over new children, `replace` on a detached node created by the
                                   call with new children: `LocalOp`, decidable) keep `Inv` and `FrameG s`
  tvisit_fail_before_commit_frame_partial
                                   a `transform` rejected BEFORE its first `replace_with` commit (callback raises /
                                   returns None for a required child / wrong type found while rebuilding the clone):
                                   all its primitive steps are clone-local ⇒ `FrameG s s'` and `Inv Hc s'`.
                                   `_partial`: that the steps ARE clone-local is a (decidable) hypothesis
                                   `LocalRun` here; Props/C19TransformGen.lean DERIVES it from the shape of the
                                   visitor for every attached receiver (`visitGo_local`) and proves the
                                   unconditional `fail_frame_tvisit_in_visit` (all states, receivers, rule tables).
  tvisit_fail_at_only_commit_frame_partial
                                   … or rejected BY its one and only commit (the final `replace_with` of the
                                   receiver is refused with ASTNodeReplaceWithError: wrong class for the parent
                                   field, `None` for a required field, the transformed tree cannot be attached):
                                   clone-local steps followed by a `replace_with` that rolls itself back
                                   (`C19.fail_frame_rwith`) ⇒ `FrameG s s'`.
  texec_partial_commit_fails       decide-checked witness of the KNOWN finding: `execute` replaces nodes one at a time;
                                   the second `replace_with` is rejected, ASTTransformError is raised, the first
                                   replacement stays: `¬ Frame s s'` (a pre-existing record differs).
  tvisit_detached_partial_commit_fails
                                   the same for `transform` on a DETACHED receiver with attached children (each
                                   child is cloned, transformed and committed separately).
-/
import PyOak.Props.LegacyTrace
import PyOak.Props.C18Transform
import PyOak.Props.C19
namespace PyOak.Legacy.C19T
open PyOak PyOak.Legacy LState PyOak.Legacy.C19

/-- the frame of a rejected call modulo its own temporaries (the three facts of `C19.fail_frame_dup`) -/
structure FrameG (s s' : LState) : Prop where
  obj : ∀ v, v < s.size → s'.obj v = s.obj v
  keep : ∀ k v, s.lookup k = some v → s'.lookup k = some v
  fresh : ∀ k v, s'.lookup k = some v → s.lookup k = some v ∨ s.size ≤ v

theorem frameG_of_newOnly {s s' : LState} (h : NewOnly s s') : FrameG s s' := ⟨h.obj, h.keep, h.fresh⟩

theorem FrameG.frame_of_reg {s s' : LState} (h : FrameG s s') (hr : s'.reg = s.reg) : Frame s s' :=
  .of_reg hr h.obj

section
variable (H Hc : Str → Str)

/-- primitive steps that only touch objects created since `s` (the state in which the call started) -/
def LocalOp (s t : LState) : LOp → Prop
  | .dup c clone => clone = true ∧ c < t.size
  | .new sp => (∀ c ∈ sp.fields.flatMap (·.kids), s.size ≤ c ∧ c < t.size) ∧ (newObj sp).wf
  | .replace c ch => s.size ≤ c ∧ c < t.size ∧ t.detached c = true ∧
      (∀ k ∈ ch.fields.flatMap (·.2), s.size ≤ k ∧ k < t.size) ∧ ch.wfFor (t.obj c)
  | _ => False

instance (s t : LState) (op : LOp) : Decidable (LocalOp s t op) := by
  cases op <;> unfold LocalOp <;> infer_instance

def LocalRun (s : LState) : LState → List LOp → Prop
  | _, [] => True
  | t, op :: r => LocalOp s t op ∧ LocalRun s (step H Hc t op).1 r

def decLocalRun (s : LState) : ∀ (ops : List LOp) (t : LState), Decidable (LocalRun H Hc s t ops)
  | [], _ => isTrue trivial
  | op :: r, t =>
    have := decLocalRun s r (step H Hc t op).1
    inferInstanceAs (Decidable (LocalOp s t op ∧ LocalRun H Hc s (step H Hc t op).1 r))

instance (s t : LState) (ops : List LOp) : Decidable (LocalRun H Hc s t ops) := decLocalRun H Hc s ops t

theorem newOnly_modify_new {s t : LState} (hN : NewOnly s t) {n : Nat} (hn : s.size ≤ n) (f : LObj → LObj)
    (hf : ∀ o, (f o).fields = o.fields) : NewOnly s (t.modify n f) := by
  refine ⟨by rw [modify_size]; exact hN.size, ?_, hN.keep, hN.fresh, ?_⟩
  · intro v hv; rw [modify_obj_ne _ _ _ _ (by omega)]; exact hN.obj v hv
  · intro v hv1 hv2 c hc
    rw [modify_size] at hv2
    rw [modify_kidList t n f hf v] at hc
    exact hN.closed v hv1 hv2 c hc

/-- `replace` on a detached node created by the call, with new children -/
theorem replace_local {s t t' : LState} {c : Nat} {ch : Changes} {r : Except Err Nat} {fuel : Nat}
    (hI : Inv Hc t) (hN : NewOnly s t) (hc1 : s.size ≤ c) (hc2 : c < t.size) (hd : t.detached c = true)
    (hk : ∀ k ∈ ch.fields.flatMap (·.2), s.size ≤ k ∧ k < t.size) (hwf : ch.wfFor (t.obj c))
    (h : replace H Hc fuel t c ch = (t', r)) : Inv Hc t' ∧ NewOnly s t' := by
  have hpar : t.parent c = none := parent_of_pid_none (hI.pid_none ((detached_eq_true_iff _ _).mp hd))
  unfold replace at h
  split at h
  · simp only [Prod.mk.injEq] at h; obtain ⟨rfl, _⟩ := h; exact ⟨hI, hN⟩
  · simp only [hpar, Option.isSome_none, Bool.false_eq_true, if_false, hd, Bool.not_true] at h
    have hkids : ∀ x ∈ (applyFields (t.obj c).fields ch.fields).flatMap (·.kids), s.size ≤ x ∧ x < t.size := by
      intro x hx
      rcases C18.applyFields_kids hx with h1 | h1
      · exact hk x h1
      · exact ⟨hN.closed c hc1 hc2 x h1, hI.closed c hc2 x h1⟩
    split at h
    · next s3 e hcs =>
      simp only [Prod.mk.injEq] at h
      obtain ⟨rfl, _⟩ := h
      obtain ⟨hI3, hN3, _, _⟩ := construct_newOnly H Hc hI hN hkids (applyFields_wf (hI.wf c) hwf _ rfl) hcs
      exact ⟨hI3, hN3⟩
    · next s3 n hcs =>
      simp only [if_true, Prod.mk.injEq] at h
      obtain ⟨rfl, _⟩ := h
      obtain ⟨hI3, hN3, _, hn⟩ := construct_newOnly H Hc hI hN hkids (applyFields_wf (hI.wf c) hwf _ rfl) hcs
      have hn' : s.size ≤ n := by rw [hn n rfl]; exact hN.size
      exact ⟨inv_modify_meta Hc hI3 n _ _, newOnly_modify_new hN3 hn' _ (fun _ => rfl)⟩

/-- one clone-local primitive step, whatever its outcome -/
theorem local_step {s t t' : LState} {op : LOp} {out : LOut} (hI : Inv Hc t) (hN : NewOnly s t)
    (hl : LocalOp s t op) (h : step H Hc t op = (t', out)) : Inv Hc t' ∧ NewOnly s t' := by
  rcases step_cases H Hc t op with hb | ⟨_, hs⟩
  · rw [hb] at h; cases h; exact ⟨hI, hN⟩
  rw [hs] at h
  cases op with
  | dup c clone =>
    cases hd : duplicate H Hc (2 * fuelOf t) clone (fuelOf t) t c with
    | mk t1 r1 =>
      simp only [hd] at h
      obtain ⟨rfl, _⟩ := ofNode_eq h
      obtain ⟨⟨hI1, hN1, _⟩, _⟩ := duplicate_all H Hc _ _ _ t c _ r1 hI hN hl.2 hd
      exact ⟨hI1, hN1⟩
  | new sp =>
    cases hc : construct H Hc (fuelOf t) t sp with
    | mk t1 r1 =>
      simp only [hc] at h
      obtain ⟨rfl, _⟩ := ofNode_eq h
      obtain ⟨hI1, hN1, _, _⟩ := construct_newOnly H Hc hI hN hl.1 hl.2 hc
      exact ⟨hI1, hN1⟩
  | replace c ch =>
    obtain ⟨hc1, hc2, hd, hk, hwf⟩ := hl
    cases hc : replace H Hc (fuelOf t) t c ch with
    | mk t1 r1 =>
      simp only [hc] at h
      obtain ⟨rfl, _⟩ := ofNode_eq h
      exact replace_local H Hc hI hN hc1 hc2 hd hk hwf hc
  | attach u => exact hl.elim
  | detach u b => exact hl.elim
  | rwith u n => exact hl.elim

/-- a run of clone-local steps (returned or rejected) keeps the invariant and `NewOnly s` (hence `FrameG s`) -/
theorem localRun_frameG {s : LState} : ∀ (ops : List LOp) (t : LState), Inv Hc t → NewOnly s t →
    LocalRun H Hc s t ops → Inv Hc (run H Hc t ops) ∧ NewOnly s (run H Hc t ops) := by
  intro ops
  induction ops with
  | nil => intro t hI hN _; exact ⟨hI, hN⟩
  | cons op r ih =>
    intro t hI hN hl
    obtain ⟨h1, h2⟩ := local_step H Hc hI hN hl.1 (out := (step H Hc t op).2) rfl
    rw [run_cons]
    exact ih _ h1 h2 hl.2

/-- `transform` rejected before any `replace_with`: every primitive step it took is clone-local -/
theorem tvisit_fail_before_commit_frame_partial {rules : List Rule} {s : LState} {u : Nat} (hI : Inv Hc s)
    (hl : LocalRun H Hc s s (tvisit H Hc rules s u).ops) :
    Inv Hc (tvisit H Hc rules s u).s ∧ FrameG s (tvisit H Hc rules s u).s := by
  rw [C18T.tvisit_is_run]
  obtain ⟨h1, h2⟩ := localRun_frameG H Hc _ s hI (NewOnly.refl s) hl
  exact ⟨h1, frameG_of_newOnly h2⟩

/-- `transform` rejected by its one and only commit: clone-local steps, then a `replace_with` of the
receiver that is refused with ASTNodeReplaceWithError and rolls itself back -/
theorem tvisit_fail_at_only_commit_frame_partial {rules : List Rule} {s : LState} {u : Nat} {pre : List LOp}
    {r : Option Nat} (hI : Inv Hc s) (hops : (tvisit H Hc rules s u).ops = pre ++ [.rwith u r])
    (hl : LocalRun H Hc s s pre)
    (hrej : (step H Hc (run H Hc s pre) (.rwith u r)).2 = .raised .replaceWithError) :
    FrameG s (tvisit H Hc rules s u).s := by
  rw [C18T.tvisit_is_run, hops, run_append]
  obtain ⟨hI1, hN1⟩ := localRun_frameG H Hc pre s hI (NewOnly.refl s) hl
  have hF : Frame (run H Hc s pre) (step H Hc (run H Hc s pre) (.rwith u r)).1 :=
    fail_frame_rwith H Hc hI1 (Prod.ext rfl hrej)
  show FrameG s (step H Hc (run H Hc s pre) (.rwith u r)).1
  refine ⟨?_, ?_, ?_⟩
  · intro v hv; rw [hF.2 v (Nat.lt_of_lt_of_le hv hN1.size)]; exact hN1.obj v hv
  · intro k v hk; rw [hF.1 k]; exact hN1.keep k v hk
  · intro k v hk; rw [hF.1 k] at hk; exact hN1.fresh k v hk

end

/-! ### witnesses of the known findings, and non-vacuity -/
section examples
open PyOak.Legacy.Ex PyOak.Legacy.C18T

/-- a node of class T where the parent field only takes L / U -/
def wrong : Act := .make (tup [])

/-- leaf 1 → replaced by a new leaf 7 (fine); leaf 2 → replaced by a T node (refused by the parent field) -/
def rulesK : List Rule :=
  [⟨"L".toList, some ("v".toList, "1".toList), .make (leaf "7")⟩,
   ⟨"L".toList, some ("v".toList, "2".toList), wrong⟩]

/-- leaves 1, 2 (objects 0, 1) under a tuple (object 2) -/
def histK : List LOp := [.new (leaf "1"), .new (leaf "2"), .new (tup [0, 1])]

theorem inv_histK : Inv id (st histK) := C18.inv_run_init_partial id id histK (by decide +kernel)

/-- **known finding (C19)**: `execute` raises ASTTransformError after the first child has been replaced;
the pre-existing tuple record has changed, so the rejected call is not a no-op -/
theorem texec_partial_commit_fails :
    (stepX id id (st histK) (.texec 2 rulesK)).2 = .raised .transformError ∧
    ((stepX id id (st histK) (.texec 2 rulesK)).1.obj 2).kidList ≠ ((st histK).obj 2).kidList ∧
    ¬ Frame (st histK) (stepX id id (st histK) (.texec 2 rulesK)).1 := by
  have hk : ((stepX id id (st histK) (.texec 2 rulesK)).1.obj 2).kidList ≠ ((st histK).obj 2).kidList := by
    decide
  exact ⟨by decide, hk, fun hF => hk (by rw [hF.2 2 (by decide)])⟩

/-- a DETACHED tuple (object 2) over the attached roots 0, 1 -/
def histKD : List LOp := [.new (leaf "1"), .new (leaf "2"), .new { tup [0, 1] with createDetached := true }]

/-- leaf 1 → v = 7 (its clone is replaced, the original leaf 0 is swapped for the result); leaf 2 → raise -/
def rulesKD : List Rule :=
  [⟨"L".toList, some ("v".toList, "1".toList), setV "7"⟩, ⟨"L".toList, some ("v".toList, "2".toList), .raise⟩]

/-- **known finding (C19)**: `transform` on a detached receiver commits every attached child separately -/
theorem tvisit_detached_partial_commit_fails :
    (stepX id id (st histKD) (.tvisit 2 rulesKD)).2 = .raised .transformError ∧
    (st histKD).detached 0 = false ∧ (stepX id id (st histKD) (.tvisit 2 rulesKD)).1.detached 0 = true ∧
    ¬ Frame (st histKD) (stepX id id (st histKD) (.tvisit 2 rulesKD)).1 := by
  refine ⟨by decide, by decide, by decide, fun hF => ?_⟩
  have : (stepX id id (st histKD) (.tvisit 2 rulesKD)).1.lookup ((st histKD).idOf 0) ≠
      (st histKD).lookup ((st histKD).idOf 0) := by decide
  exact this (hF.1 _)

private theorem localRun_KD : LocalRun id id (st histK) (st histK) (tvisit id id rulesKD (st histK) 2).ops := by
  decide +kernel

private theorem frameG_KD : FrameG (st histK) (tvisit id id rulesKD (st histK) 2).s :=
  (tvisit_fail_before_commit_frame_partial id id inv_histK localRun_KD).2

private theorem localRun_K : LocalRun id id (st histK) (st histK) [.dup 1 true, .new (tup [])] := by decide +kernel

private theorem ops_K : (tvisit id id rulesK (st histK) 1).ops = [.dup 1 true, .new (tup []), .rwith 1 (some 4)] := rfl

-- the ATTACHED tuple of histK: the callback raises at the second leaf, after the first leaf's clone was rebuilt
example : (stepX id id (st histK) (.tvisit 2 rulesKD)).2 = .raised .transformError := by decide +kernel
example : (tvisit id id rulesKD (st histK) 2).ops.length = 2 := by decide +kernel
example : LocalRun id id (st histK) (st histK) (tvisit id id rulesKD (st histK) 2).ops := localRun_KD
example : FrameG (st histK) (tvisit id id rulesKD (st histK) 2).s := frameG_KD
-- … no attached node was made, so this is the plain frame of C19
example : Frame (st histK) (tvisit id id rulesKD (st histK) 2).s := frameG_KD.frame_of_reg (by decide +kernel)
-- wrong type on the clone: the visitor turns leaf 1 (object 1, child of the tuple) into a T node; the only
-- commit, replace_with on the receiver, is refused by the parent field
example : (stepX id id (st histK) (.tvisit 1 rulesK)).2 = .raised .transformError := by decide +kernel
example : (tvisit id id rulesK (st histK) 1).ops = [.dup 1 true, .new (tup []), .rwith 1 (some 4)] := ops_K
example : FrameG (st histK) (tvisit id id rulesK (st histK) 1).s :=
  tvisit_fail_at_only_commit_frame_partial id id (rules := rulesK) (u := 1) (pre := [.dup 1 true, .new (tup [])])
    (r := some 4) inv_histK ops_K localRun_K (by decide +kernel)
example : LocalOp (st histK) (st histK) (.dup 1 true) := localRun_K.1
example := local_step id id (s := st histK) (t := st histK) (op := .dup 1 true)
  inv_histK (NewOnly.refl _) localRun_K.1 rfl
example := localRun_frameG id id (s := st histK) [.dup 1 true, .new (tup [])] (st histK)
  inv_histK (NewOnly.refl _) localRun_K

end examples

end PyOak.Legacy.C19T
