/-
C05, position soundness in LOOKUP form, and the bridge to the well-formedness predicate.

`C05.dfs_yield_sound` states `(x.node, x.edge) ∈ x.parent.edges`, where `Node.edges` is the
model's own enumerator.  Here the enumerator is tied to an independent reading
(`Trav.Stored`, Spec/Traverse.lean): look the field up BY NAME among the parent's child fields;
for a tuple field the stored list has `nodes[index]? = some node`; for a single field
`index = None` and the stored node is `node`.

* `mem_edges_iff_stored` : in a node whose child-field names are pairwise distinct and whose single
  fields hold at most one node (`C06X.NodeFieldsOK`, a consequence of `WFN`), the enumerator yields
  `(c, e)` iff `Stored p e c`;
* `dfs_yield_lookup`, `bfs_yield_lookup`, `gather_yield_lookup` : every yielded
  `(node, parent, field, index)` — both directions of `dfs`, `bfs`, `gather`; any prune, any
  filter; shared objects allowed — satisfies `Stored parent ⟨field, index⟩ node`;
* `stored_getField` : the same through the model's `getattr` (`PM.getField`, exercised by C08);
* `kidsOK_iff`, `wellKeyed_of_fieldsOK`, `wellKeyed_of_wfn` : the hypotheses `C05X.KidsOK` /
  `C05X.WellKeyed` of the exactly-once theorems follow from `C06X.FieldsOK` / `WFN`;
* `path_iff_trail` : the trails of Spec/Traverse.lean are the downward paths `C07.Path`.
-/
import PyOak.Props.C05Paths
import PyOak.Props.C06Xpath
import PyOak.Model.Pattern
namespace PyOak
namespace C05L
open C05 C05X C05T Trav

/-! ### lookup by name inside one node -/

/-- the enumerator is sound for the lookup reading -/
theorem stored_of_mem_edges (p : Node) (hp : C06X.NodeFieldsOK p) (c : Node) (e : Edge)
    (h : (c, e) ∈ p.edges) : Stored p e c := by
  simp only [Node.edges, List.mem_flatMap] at h
  obtain ⟨k, hk, h⟩ := h
  obtain ⟨hf, hm, hc, hs⟩ := C06X.mem_kid_edges k c e h
  refine ⟨k, ?_, hc, ?_⟩
  · unfold childField?
    rw [hf]; exact Framing.find?_key_of_mem Kid.name hp.nodup hk
  · intro hcoll
    refine ⟨hs hcoll, ?_⟩
    have hl := hp.single k hk hcoll
    match hns : k.nodes, hm, hl with
    | [], hm, _ => simp at hm
    | [a], hm, _ => simp only [List.mem_singleton] at hm; rw [hm]
    | _ :: _ :: _, _, hl => simp at hl

/-- the enumerator is complete for the lookup reading (no hypothesis) -/
theorem mem_edges_of_stored (p : Node) (c : Node) (e : Edge) (h : Stored p e c) : (c, e) ∈ p.edges := by
  obtain ⟨k, hk, hc, hs⟩ := h
  unfold childField? at hk
  have hmem := List.mem_of_find?_eq_some hk
  have hname : k.name = e.field := by simpa using List.find?_some hk
  simp only [Node.edges, List.mem_flatMap]
  refine ⟨k, hmem, ?_⟩
  obtain ⟨ef, ei⟩ := e
  cases k with
  | mk name coll ns =>
    simp only [Kid.name] at hname
    subst hname
    cases coll with
    | true =>
      obtain ⟨i, hi, hg⟩ := hc rfl
      simp only at hi; subst hi
      simp only [Kid.edges, List.mem_map, Prod.mk.injEq]
      refine ⟨(i, c), ?_, rfl, rfl⟩
      have := Framing.enumFrom_mem_of_get ns 0 i c hg
      simpa using this
    | false =>
      obtain ⟨hi, hn⟩ := hs rfl
      simp only at hi; subst hi
      simp only [Kid.nodes] at hn
      subst hn
      simp [Kid.edges]

/-- **enumerator = lookup by name** in a node that is consistent with its class table -/
theorem mem_edges_iff_stored (p : Node) (hp : C06X.NodeFieldsOK p) (c : Node) (e : Edge) :
    (c, e) ∈ p.edges ↔ Stored p e c :=
  ⟨stored_of_mem_edges p hp c e, mem_edges_of_stored p c e⟩

/-! ### every yielded position is a lookup position -/

theorem desc_lookup (n : Node) (hF : C06X.FieldsOK n) (x : Item) (hx : x ∈ desc n) :
    Stored x.parent x.edge x.node :=
  stored_of_mem_edges x.parent (hF _ (desc_parent_mem n x hx)) _ _ 
    (dfs_yield_sound _ _ n x (by rw [dfs_top_down]; exact hx))

/-- **position soundness of `dfs`, lookup form** (both directions, any prune and filter, shared
objects allowed): looking `field` up by name in `parent` gives, for a tuple field, a list with
`nodes[index]? = some node`, and for a single field `index = None` and the stored node is `node` -/
theorem dfs_yield_lookup (P F : Item → Bool) (b : Bool) (n : Node) (hF : C06X.FieldsOK n)
    (x : Item) (hx : x ∈ dfsImpl P F b n) : Stored x.parent x.edge x.node :=
  desc_lookup n hF x (mem_desc_of_reach P n x ((mem_dfsImpl_iff P F b n x).mp hx).1)

/-- … of `bfs` -/
theorem bfs_yield_lookup (P F : Item → Bool) (n : Node) (hF : C06X.FieldsOK n)
    (x : Item) (hx : x ∈ bfsImpl P F n) : Stored x.parent x.edge x.node :=
  desc_lookup n hF x (mem_desc_of_reach P n x ((mem_bfsImpl_iff P F n x).mp hx).1)

/-- … of `gather`: every gathered node is the content of a storage position of a node of the
tree, it passes the class test and the extra filter -/
theorem gather_yield_lookup (classes : List Str) (exact : Bool) (extra P : Item → Bool) (n : Node)
    (hF : C06X.FieldsOK n) (m : Node) (hm : m ∈ gatherImpl classes exact extra P n) :
    ∃ x : Item, x.node = m ∧ x.parent ∈ allNodes n ∧ Stored x.parent x.edge m ∧
      ClassOK classes exact m ∧ extra x = true := by
  rw [gather_spec] at hm
  obtain ⟨x, hx, rfl⟩ := List.mem_map.mp hm
  obtain ⟨hx, ht⟩ := List.mem_filter.mp hx
  simp only [Bool.and_eq_true, decide_eq_true_eq] at ht
  have hd := mem_desc_of_reach P n x ((mem_dfsImpl_iff P _ false n x).mp hx).1
  exact ⟨x, rfl, desc_parent_mem n x hd, desc_lookup n hF x hd, ht.1, ht.2⟩

/-- the same from the well-formedness predicate used by C01 / C04 / C06 -/
theorem yield_lookup_wfn (P F : Item → Bool) (n : Node) (h : WFN n) (x : Item) (b : Bool)
    (hx : x ∈ dfsImpl P F b n ∨ x ∈ bfsImpl P F n) : Stored x.parent x.edge x.node := by
  rcases hx with hx | hx
  · exact dfs_yield_lookup P F b n (C06X.fieldsOK_of_wfn n h) x hx
  · exact bfs_yield_lookup P F n (C06X.fieldsOK_of_wfn n h) x hx

/-- the lookup read through the model's `getattr` (`PM.getField`, the function the pattern matcher
uses), when no property of the parent has the name of the child field: a tuple field reads as the
tuple of its nodes with `node` at `index`, a single field reads as `node` itself -/
theorem stored_getField (p c : Node) (e : Edge) (h : Stored p e c)
    (hprops : ∀ pr ∈ p.hd.props, pr.name ≠ e.field) :
    (∀ i, e.idx = some i → ∃ ns : List Node,
        PM.getField p e.field = some (.tup (ns.map .node)) ∧ ns[i]? = some c) ∧
    (e.idx = none → PM.getField p e.field = some (.node c)) := by
  obtain ⟨k, hk, hc, hs⟩ := h
  have hnone : p.hd.props.find? (fun pr => pr.name == e.field) = none := by
    rw [List.find?_eq_none]
    intro pr hpr
    simpa using hprops pr hpr
  unfold childField? at hk
  unfold PM.getField
  rw [hnone]
  simp only [hk]
  cases hcoll : k.coll with
  | true =>
    obtain ⟨i, hi, hg⟩ := hc hcoll
    refine ⟨?_, ?_⟩
    · intro j hj
      rw [hi] at hj
      cases hj
      exact ⟨k.nodes, by simp, hg⟩
    · intro hn; rw [hi] at hn; cases hn
  | false =>
    obtain ⟨hi, hn⟩ := hs hcoll
    refine ⟨?_, ?_⟩
    · intro j hj; rw [hi] at hj; cases hj
    · intro _; simp [hn]

/-! ### the hypotheses of the exactly-once theorems follow from well-formedness -/

/-- the two copies of "class-table consistency of one node" agree -/
theorem kidsOK_iff (n : Node) : KidsOK n ↔ C06X.NodeFieldsOK n :=
  ⟨fun h => ⟨h.nodup, h.single⟩, fun h => ⟨h.nodup, h.single⟩⟩

theorem wellKeyed_of_fieldsOK (n : Node) (h : C06X.FieldsOK n) : WellKeyed n :=
  wellKeyed_of_kidsOK n (fun m hm => (kidsOK_iff m).mpr (h m hm))

/-- `WFN` (names identifier-like and pairwise distinct, single fields hold at most one node,
recursively) gives the `WellKeyed` hypothesis of `C05X.dfsImpl_keys_nodup`,
`C05X.pruned_descendants_not_visited_impl`, `C05P.dfs_enumerates_paths` -/
theorem wellKeyed_of_wfn (n : Node) (h : WFN n) : WellKeyed n :=
  wellKeyed_of_fieldsOK n (C06X.fieldsOK_of_wfn n h)

/-- exactly once, with sharing, from `WFN` -/
theorem dfs_enumerates_paths_wfn (n : Node) (h : WFN n) :
    ∃ ts : List (List Item),
      ts.map trailEnd = dfsImpl (fun _ => false) (fun _ => true) false n ∧
      (∀ t ∈ ts, t ≠ [] ∧ IsTrail n t) ∧
      (ts.map pathOf).Nodup ∧
      (ts.map pathOf).Pairwise (PathLt n) ∧
      (∀ p, p ∈ ts.map pathOf ↔ p ≠ [] ∧ ValidPath n p) ∧
      (ts.map pathOf).length + 1 = n.size :=
  C05P.dfs_enumerates_paths n (wellKeyed_of_wfn n h)

/-! ### trails are the downward paths of C07 -/

theorem path_iff_trail (n : Node) (c : Chain) :
    C07.Path n c ↔ ∃ t, IsTrail n t ∧ c = t.map (fun it => (it.node, some it.edge)) := by
  induction c generalizing n with
  | nil =>
    constructor
    · intro _; exact ⟨[], trivial, rfl⟩
    · intro _; trivial
  | cons a r ih =>
    obtain ⟨m, oe⟩ := a
    simp only [C07.Path]
    constructor
    · rintro ⟨⟨e, rfl, hm⟩, hr⟩
      obtain ⟨t, ht, rfl⟩ := (ih m).mp hr
      exact ⟨⟨m, n, e⟩ :: t, ⟨(mem_items_iff n _).mpr ⟨rfl, hm⟩, ht⟩, rfl⟩
    · rintro ⟨t, ht, he⟩
      cases t with
      | nil => simp at he
      | cons x t' =>
        simp only [List.map_cons, List.cons.injEq, Prod.mk.injEq] at he
        obtain ⟨⟨rfl, rfl⟩, rfl⟩ := he
        exact ⟨⟨x.edge, rfl, ((mem_items_iff n x).mp ht.1).2⟩, (ih x.node).mpr ⟨t', ht.2, rfl⟩⟩

private def nd (u : Nat) (c : Str) (ks : List Kid) : Node :=
  .mk { uid := u, cls := c, mro := [c], org := ⟨0, []⟩, props := [], truthy := true } ks
private def leaf (u : Nat) : Node := nd u ['L'] []
private def mid : Node := nd 2 ['M'] [.mk ['x'] false [leaf 3], .mk ['y'] true [leaf 5, leaf 6]]
private def tree : Node := nd 0 ['R'] [.mk ['a'] true [mid, mid], .mk ['b'] false [leaf 4]]

private theorem tree_wf : WFN tree := by decide +kernel

/-- a tuple position and a single position, by lookup -/
example : Stored tree ⟨['a'], some 1⟩ mid :=
  ⟨.mk ['a'] true [mid, mid], rfl, fun _ => ⟨1, rfl, rfl⟩, fun h => by cases h⟩
example : Stored mid ⟨['x'], none⟩ (leaf 3) :=
  ⟨.mk ['x'] false [leaf 3], rfl, (fun h => by cases h), fun _ => ⟨rfl, rfl⟩⟩
/-- `NodeFieldsOK` is needed: with a duplicated field name the lookup finds the first field -/
private def dup : Node := nd 0 ['R'] [.mk ['a'] false [leaf 1], .mk ['a'] false [leaf 2]]
example : (leaf 2, (⟨['a'], none⟩ : Edge)) ∈ dup.edges := List.Mem.tail _ (List.Mem.head _)
example : ¬ Stored dup ⟨['a'], none⟩ (leaf 2) := by
  rintro ⟨k, hk, _, hs⟩
  have : k = .mk ['a'] false [leaf 1] := by
    have h : childField? dup ['a'] = some (.mk ['a'] false [leaf 1]) := rfl
    rw [h] at hk; exact (Option.some.inj hk).symm
  subst this
  have := (hs rfl).2
  simp only [Kid.nodes, List.cons.injEq, and_true] at this
  have h2 := congrArg Node.uid this
  revert h2; decide

#print axioms mem_edges_iff_stored
#print axioms dfs_yield_lookup
#print axioms bfs_yield_lookup
#print axioms gather_yield_lookup
#print axioms yield_lookup_wfn
#print axioms stored_getField
#print axioms kidsOK_iff
#print axioms wellKeyed_of_fieldsOK
#print axioms wellKeyed_of_wfn
#print axioms dfs_enumerates_paths_wfn
#print axioms path_iff_trail

end C05L
end PyOak
