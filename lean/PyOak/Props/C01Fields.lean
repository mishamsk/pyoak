/-
C01 — `ContentEq` read FIELD BY FIELD, as the property text has it (cf. AUDIT.md C01 §4 (ii)).

`ContentEq a b := canonN a = canonN b` and `canonN` is the digest input with `cid` replaced by
recursion (it calls the model helpers `comparableSorted` / `sortByName`).  Here the same relation
is characterised without any sorting, filtering or rendering:

  contentEq_iff_fields   ContentEq (.mk h ks) (.mk h' ks') ↔
        h.cls = h'.cls                                             -- same class
      ∧ (∀ name, cmpGet h name = cmpGet h' name)                   -- same comparable name ↦ (type text, value text) map
      ∧ All2 (fun k k' => k.name = k'.name ∧ All2 ContentEq k.nodes k'.nodes) ks ks'
                                                                   -- child fields pairwise, in DECLARATION order,
                                                                   -- children pairwise content-equal (same count:
                                                                   -- an absent child differs from every present one)
  contentEq_iff_same     ContentEq a b ↔ SameContent a b, `SameContent` the inductive closure of the above.

Hypotheses: `WFN` (names are identifiers, no duplicate names) and `Conforms sig` for both trees (the
child fields are a property of the class: needed, see `C02.Demo.u1/u2` and `fields_need_conforms`).
`cmpGet` is a plain left-to-right lookup among the `compare=True` properties in declaration order.
-/
import PyOak.Props.C02
namespace PyOak
namespace C01
open Framing C02

/-- value of the comparable property `name`: (text of `type(v)`, text of `str(v)`); `none` if the
class has no comparable property of that name -/
def cmpGet (h : Head) (name : Str) : Option (Str × Str) :=
  ((h.props.filter (·.compare)).find? (fun p => p.name == name)).map fun p => (p.ty, p.txt)

theorem cmpGet_iff {h : Head} (hnd : (h.props.map (·.name)).Nodup) (x : Str) (v : Str × Str) :
    cmpGet h x = some v ↔ ∃ p ∈ h.props, p.compare = true ∧ p.name = x ∧ (p.ty, p.txt) = v := by
  rw [cmpGet]
  constructor
  · intro e
    obtain ⟨p, hp, e⟩ := Option.map_eq_some_iff.mp e
    have hm := List.mem_filter.mp (List.mem_of_find?_eq_some hp)
    have hx := List.find?_some (p := fun q : PropV => q.name == x) hp
    exact ⟨p, hm.1, hm.2, eq_of_beq hx, e⟩
  · rintro ⟨p, hp, hc, rfl, rfl⟩
    rw [find?_key_of_mem PropV.name (cmp_nodup hnd) (List.mem_filter.mpr ⟨hp, hc⟩)]; rfl

theorem mem_triples {g : Head} (hg : (g.props.map (·.name)).Nodup) (t : Str × Str × Str) :
    t ∈ (comparableSorted g).map triple ↔ cmpGet g t.1 = some t.2 := by
  rw [cmpGet_iff hg]
  simp only [comparableSorted, sortByName, List.mem_map, mem_sortBy, List.mem_filter, triple]
  constructor
  · rintro ⟨p, ⟨a, b⟩, rfl⟩; exact ⟨p, a, b, rfl, rfl⟩
  · rintro ⟨p, a, b, c, d⟩; exact ⟨p, ⟨a, b⟩, Prod.ext c d⟩

/-- the sorted list of comparable triples is determined by the lookup function, and vice versa -/
theorem triples_eq_iff (h h' : Head) (hnd : (h.props.map (·.name)).Nodup)
    (hnd' : (h'.props.map (·.name)).Nodup) :
    (comparableSorted h).map triple = (comparableSorted h').map triple ↔
      ∀ name, cmpGet h name = cmpGet h' name := by
  constructor
  · intro e name
    exact Option.ext fun v => by rw [← mem_triples hnd (name, v), ← mem_triples hnd' (name, v), e]
  · intro e
    -- the two unsorted triple lists are permutations of each other (same members, no duplicates)
    have hT : ∀ g : Head, (comparableSorted g).map triple =
        sortByName (·.1) ((g.props.filter (·.compare)).map triple) := fun g => by
      rw [comparableSorted, sortByName_map triple (·.1) PropV.name (fun _ => rfl)]
    have hN : ∀ {g : Head}, (g.props.map (·.name)).Nodup →
        (((g.props.filter (·.compare)).map triple).map (·.1)).Nodup := fun hg => by
      rw [List.map_map]; exact cmp_nodup hg
    have m : ∀ (g : Head) t, t ∈ (g.props.filter (·.compare)).map triple ↔
        t ∈ (comparableSorted g).map triple := fun g t => by
      rw [hT]; exact (mem_sortBy _ _ _).symm
    have nd : ∀ {g : Head}, (g.props.map (·.name)).Nodup →
        ((g.props.filter (·.compare)).map triple).Nodup := fun hg =>
      List.Pairwise.of_map (·.1) (fun _ _ hab e => hab (by rw [e])) (hN hg)
    rw [hT, hT]
    refine sortByName_eq_of_perm _
      ((List.perm_ext_iff_of_nodup (nd hnd) (nd hnd')).mpr fun t => ?_) (hN hnd)
    rw [m, m, mem_triples hnd, mem_triples hnd', e]

theorem all2_contentEq_iff (ns ns' : List Node) : All2 ContentEq ns ns' ↔ ns.map canonN = ns'.map canonN := by
  induction ns generalizing ns' with
  | nil => cases ns' <;> simp [All2]
  | cons n r ih =>
    cases ns' with
    | nil => simp [All2]
    | cons n' r' => simp [All2, ih, ContentEq]

theorem all2_kids_iff (ks ks' : List Kid) :
    All2 (fun k k' => k.name = k'.name ∧ All2 ContentEq k.nodes k'.nodes) ks ks' ↔
      ks.map canonKid = ks'.map canonKid := by
  induction ks generalizing ks' with
  | nil => cases ks' <;> simp [All2]
  | cons k r ih =>
    cases ks' with
    | nil => simp [All2]
    | cons k' r' =>
      simp only [All2]
      rw [ih r']
      simp only [List.map_cons, List.cons.injEq, canonKid_eq, all2_contentEq_iff, Prod.mk.injEq]

theorem contentEq_iff_fields (sig : Str → List (Str × Bool)) (h h' : Head) (ks ks' : List Kid)
    (ha : WFN (.mk h ks)) (hb : WFN (.mk h' ks'))
    (ca : Conforms sig (.mk h ks)) (cb : Conforms sig (.mk h' ks')) :
    ContentEq (.mk h ks) (.mk h' ks') ↔
      h.cls = h'.cls ∧ (∀ name, cmpGet h name = cmpGet h' name) ∧
      All2 (fun k k' => k.name = k'.name ∧ All2 ContentEq k.nodes k'.nodes) ks ks' := by
  obtain ⟨-, -, hnd, -, -⟩ := (WFN_iff h ks).mp ha
  obtain ⟨-, -, hnd', -, -⟩ := (WFN_iff h' ks').mp hb
  constructor
  · intro hc
    have hal := aligned_names sig h h' ks ks' ha hb ca cb hc
    rw [ContentEq, canonN_eq, canonN_eq] at hc
    exact ⟨(Canon.mk.inj hc).1, (triples_eq_iff h h' hnd hnd').mp (Canon.mk.inj hc).2.1, hal⟩
  · rintro ⟨e1, e2, e3⟩
    have e2 : (comparableSorted h).map (fun p => (p.name, p.ty, p.txt)) =
        (comparableSorted h').map (fun p => (p.name, p.ty, p.txt)) :=
      (triples_eq_iff h h' hnd hnd').mpr e2
    simp only [ContentEq, canonN, canonKids_eq]
    rw [e1, e2, (all2_kids_iff ks ks').mp e3]

mutual
/-- structural content equality as the property states it: same class, equal comparable
properties (name ↦ type and value texts), the child fields pairwise in declaration order with
pairwise content-equal children (hence the same number of children: absent ≠ present, tuples of
different length differ) -/
inductive SameContent : Node → Node → Prop where
  | mk (h h' : Head) (ks ks' : List Kid) :
      h.cls = h'.cls → (∀ name, cmpGet h name = cmpGet h' name) → SameKids ks ks' →
      SameContent (.mk h ks) (.mk h' ks')
inductive SameKids : List Kid → List Kid → Prop where
  | nil : SameKids [] []
  | cons (k k' : Kid) (r r' : List Kid) :
      k.name = k'.name → SameNodes k.nodes k'.nodes → SameKids r r' → SameKids (k :: r) (k' :: r')
inductive SameNodes : List Node → List Node → Prop where
  | nil : SameNodes [] []
  | cons (n n' : Node) (r r' : List Node) :
      SameContent n n' → SameNodes r r' → SameNodes (n :: r) (n' :: r')
end

theorem sameNodes_iff : ∀ (xs ys : List Node), SameNodes xs ys ↔ All2 SameContent xs ys
  | [], [] => ⟨fun _ => trivial, fun _ => .nil⟩
  | x :: xs, y :: ys =>
    ⟨fun h => (by cases h with | cons _ _ _ _ a b => exact ⟨a, (sameNodes_iff xs ys).mp b⟩),
     fun h => .cons _ _ _ _ h.1 ((sameNodes_iff xs ys).mpr h.2)⟩
  | [], _ :: _ => ⟨fun h => (by cases h), fun h => h.elim⟩
  | _ :: _, [] => ⟨fun h => (by cases h), fun h => h.elim⟩

theorem sameKids_iff : ∀ (xs ys : List Kid),
    SameKids xs ys ↔ All2 (fun k k' => k.name = k'.name ∧ All2 SameContent k.nodes k'.nodes) xs ys
  | [], [] => ⟨fun _ => trivial, fun _ => .nil⟩
  | x :: xs, y :: ys =>
    ⟨fun h => (by
      cases h with
      | cons _ _ _ _ a b c => exact ⟨⟨a, (sameNodes_iff _ _).mp b⟩, (sameKids_iff xs ys).mp c⟩),
     fun h => .cons _ _ _ _ h.1.1 ((sameNodes_iff _ _).mpr h.1.2) ((sameKids_iff xs ys).mpr h.2)⟩
  | [], _ :: _ => ⟨fun h => (by cases h), fun h => h.elim⟩
  | _ :: _, [] => ⟨fun h => (by cases h), fun h => h.elim⟩

/-- `ContentEq` (equality of the canonical forms) is exactly the inductive field-by-field relation -/
theorem contentEq_iff_same (sig : Str → List (Str × Bool)) (a b : Node) (ha : WFN a) (hb : WFN b)
    (ca : Conforms sig a) (cb : Conforms sig b) : ContentEq a b ↔ SameContent a b := by
  induction a using induct_kids generalizing b with
  | step h ks ih =>
    obtain ⟨h', ks'⟩ := b
    have step : ∀ (k : Kid), k ∈ ks → ∀ (k' : Kid), k' ∈ ks' → ∀ x ∈ k.nodes, ∀ y ∈ k'.nodes,
        (ContentEq x y ↔ SameContent x y) := fun k hk k' hk' x hx y hy =>
      ih k hk x hx y (WFN_child ha hk hx) (WFN_child hb hk' hy) (Conforms_child ca hk hx)
        (Conforms_child cb hk' hy)
    rw [contentEq_iff_fields sig h h' ks ks' ha hb ca cb]
    constructor
    · rintro ⟨e1, e2, e3⟩
      refine .mk h h' ks ks' e1 e2 ((sameKids_iff _ _).mpr (All2.imp_mem e3 ?_))
      rintro k hk k' hk' ⟨en, ec⟩
      exact ⟨en, All2.imp_mem ec (fun x hx y hy hxy => (step k hk k' hk' x hx y hy).mp hxy)⟩
    · intro hs
      cases hs with
      | mk _ _ _ _ e1 e2 e3 =>
        refine ⟨e1, e2, All2.imp_mem ((sameKids_iff _ _).mp e3) ?_⟩
        rintro k hk k' hk' ⟨en, ec⟩
        exact ⟨en, All2.imp_mem ec (fun x hx y hy hxy => (step k hk k' hk' x hx y hy).mpr hxy)⟩

/-- C01 as the property text reads, for the idealised digest: equal content ids ⇔ same class,
same comparable properties, same children field by field (recursively) -/
theorem cid_eq_iff_same (H : Str → Str) (hinj : Function.Injective H) (hsep : ∀ s, ∀ c ∈ H s, c ≠ ':')
    (sig : Str → List (Str × Bool)) (a b : Node) (ha : WFN a) (hb : WFN b)
    (ca : Conforms sig a) (cb : Conforms sig b) : cid H a = cid H b ↔ SameContent a b :=
  (cid_eq_iff H hinj hsep a b ha hb).trans (contentEq_iff_same sig a b ha hb ca cb)

/-- "a missing optional child differs from every present child" (and tuples of different length
differ): if at the same declaration index the numbers of children differ, the nodes are not
content-equal -/
theorem absent_ne_present (sig : Str → List (Str × Bool)) (h h' : Head) (ks ks' : List Kid)
    (ha : WFN (.mk h ks)) (hb : WFN (.mk h' ks'))
    (ca : Conforms sig (.mk h ks)) (cb : Conforms sig (.mk h' ks'))
    (i : Nat) (k k' : Kid) (hk : ks[i]? = some k) (hk' : ks'[i]? = some k')
    (hlen : k.nodes.length ≠ k'.nodes.length) : ¬ ContentEq (.mk h ks) (.mk h' ks') := by
  intro hc
  have h3 := ((contentEq_iff_fields sig h h' ks ks' ha hb ca cb).mp hc).2.2
  have h4 := (all2_contentEq_iff _ _).mp (All2.getElem? h3 hk hk').2
  exact hlen (by simpa using congrArg List.length h4)

namespace Demo
open C02.Demo (sig t1 t2 t4 wf_tree conf_tree u1 u2 leafA nodeQ org)

-- non-vacuity: `t1`, `t2` (other objects, same content) satisfy all hypotheses
example : SameContent t1 t2 :=
  (contentEq_iff_same sig t1 t2 (wf_tree ..) (wf_tree ..) (conf_tree ..) (conf_tree ..)).mp
    C02.Demo.nodeEq_t1_t2.1

theorem wf_t4 : WFN t4 := by decide
theorem conf_t4 : Conforms sig t4 := by decide

-- `t4` has a present optional child where `t1` has none, two levels down: not content-equal,
-- through the field-by-field reading (no digest involved)
example : ¬ SameContent t1 t4 := by
  intro h
  have hc := (contentEq_iff_same sig t1 t4 (wf_tree ..) wf_t4 (conf_tree ..) conf_t4).mpr h
  exact C02.Demo.cid_t1_ne_t4
    ((cid_eq_iff Hesc Hesc_injective Hesc_no_colon t1 t4 (wf_tree ..) wf_t4).mpr hc)

/-- `Conforms` is needed: `u1`, `u2` (same class, fields declared in different orders: impossible
for instances of one Python class) are content-equal but do not agree field by field -/
theorem fields_need_conforms : ContentEq u1 u2 ∧
    ¬ All2 (fun k k' : Kid => k.name = k'.name ∧ All2 ContentEq k.nodes k'.nodes) u1.kids u2.kids :=
  ⟨(cid_eq_iff Hesc Hesc_injective Hesc_no_colon u1 u2 C02.Demo.wf_u.1 C02.Demo.wf_u.2).mp
      (cid_eq_of_eqImpl C02.Demo.eq_u1_u2),
    -- the first declared fields are `x` and `y`
    fun h => absurd h.1.1 (by decide)⟩

-- the lookup is a plain left-to-right search among comparable properties
-- comparable `v` is found, the non-comparable `m` and unknown names are not
example : cmpGet n1.hd ['v'] = some (['s', 't', 'r'], txt) ∧ cmpGet n1.hd ['m'] = none ∧
    cmpGet n1.hd ['q'] = none := by decide
-- `n1`, `n2` differ in the value of the non-comparable `m`: same comparable map
example : ∀ name, cmpGet n1.hd name = cmpGet n2.hd name :=
  (triples_eq_iff n1.hd n2.hd (by decide) (by decide)).mp (by decide)

end Demo

end C01
end PyOak
