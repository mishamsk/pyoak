/-
C11, "the verdict is the same for plain and postponed (string) annotations".

After `typing.get_type_hints` the two spellings are the same type term; what a spelling CAN change is
whether the annotation can be evaluated when the class is defined: a name that is not bound yet raises
NameError, `check_annotations` gives up (`defCheck = .skipped`) and the class is only judged at first use.
The model keeps that difference in the constructors `.node c` (exists at definition time) / `.fwd c` (defined
later).  Proved here, for every annotation / class / chain:

* `mapRef_same`, `classify_mapRef`, `classify_resolveFwd`, `classify_deferAll`   the classifier cannot tell an
  annotation from the same annotation with other node classes, existing or not at definition time, in the place
  of its references
* `classOutcome_mapRef`, `classOutcome_resolveFwd`, `chainOutcome_mapRef`   … so the outcome of a class / of
  every class of a chain (rejected or the per-field verdicts) does not either, although the definition-time
  check may behave differently (`defCheck_deferAll`: skipped; `reject_moves_to_definition`: decided)
* `reject_moves_to_definition`   a class is rejected (at whatever time) iff the same class with every forward
  reference resolved is rejected AT DEFINITION; `accepted_iff_resolved_passes` the dual
-/
import PyOak.Props.C11
namespace PyOak
namespace C11
open Annot Annot.Ty

theorem mapRefL_eq (g : Bool → Nat → Bool × Nat) (l : List Ty) : mapRefL g l = l.map (mapRef g) := by
  induction l with
  | nil => rfl
  | cons t r ih => rw [List.map_cons, ← ih]; rfl

theorem mapRef_union (g : Bool → Nat → Bool × Nat) (m : Ty) (ms : List Ty) :
    mapRef g (.union m ms) = .union (mapRef g m) (ms.map (mapRef g)) := by
  rw [← mapRefL_eq]; rfl

theorem mapRef_coll (g : Bool → Nat → Bool × Nat) (k : CollKind) (args : List Ty) :
    mapRef g (.coll k args) = .coll k (args.map (mapRef g)) := by
  rw [← mapRefL_eq]; rfl

theorem ref_cases (b : Bool) (c : Nat) : Ty.ref b c = .fwd c ∨ Ty.ref b c = .node c := by
  cases b <;> simp [Ty.ref]

theorem same_ref (b b' : Bool) (c c' : Nat) : Same (Ty.ref b c) (Ty.ref b' c') := by
  cases b <;> cases b' <;> exact ⟨rfl, rfl, fun _ => rfl, rfl⟩

theorem isNone_mapRef (g : Bool → Nat → Bool × Nat) (t : Ty) : (mapRef g t).isNone = t.isNone := by
  cases t with
  | node c => cases h : (g false c).1 <;> simp [mapRef, Ty.ref, h, isNone]
  | fwd c => cases h : (g true c).1 <;> simp [mapRef, Ty.ref, h, isNone]
  | _ => rfl

theorem mapRef_same (g : Bool → Nat → Bool × Nat) : ∀ t, Same t (mapRef g t) := by
  intro t
  induction t using Ty.induct with
  | hnode c => exact same_ref false _ c _
  | hfwd c => exact same_ref true _ c _
  | hnt t ih => exact ih.newtype
  | hvt t ih => exact ih.vtuple
  | hunion m ms ih =>
    rw [mapRef_union]
    exact Same.union_map _ fun x hx => ⟨ih x hx, isNone_mapRef g x⟩
  | hcoll k args ih =>
    rw [mapRef_coll]
    exact Same.coll_map _ ih
  | _ => exact Same.refl _

/-- the verdict of an annotation depends neither on which of the node classes it names exist when the
annotated class is defined, nor on which node classes they are -/
theorem classify_mapRef (g : Bool → Nat → Bool × Nat) (t : Ty) : classify (mapRef g t) = classify t :=
  (mapRef_same g t).classify_eq


/-- resolving forward references (`.fwd c ↦ .node c` for the classes of the class table) keeps the verdict -/
theorem classify_resolveFwd (known : Nat → Bool) (t : Ty) : classify (resolveFwd known t) = classify t :=
  classify_mapRef _ t

theorem classify_resolveAll (t : Ty) : classify (resolveAll t) = classify t := classify_mapRef _ t

/-- … and so does turning every reference into a forward reference -/
theorem classify_deferAll (t : Ty) : classify (deferAll t) = classify t := classify_mapRef _ t

/-- what `resolveFwd` does on a reference (the rest of the term is copied) -/
theorem resolveFwd_fwd (known : Nat → Bool) (c : Nat) :
    resolveFwd known (.fwd c) = if known c then .node c else .fwd c := by
  cases h : known c <;> simp [resolveFwd, mapRef, Ty.ref, h]
theorem resolveFwd_node (known : Nat → Bool) (c : Nat) : resolveFwd known (.node c) = .node c := by
  simp [resolveFwd, mapRef, Ty.ref]


theorem hasFwdL_eq (l : List Ty) : hasFwdL l = l.any hasFwd := by
  induction l with
  | nil => rfl
  | cons t r ih => rw [List.any_cons, ← ih]; rfl

theorem hasFwd_ref (b : Bool) (c : Nat) : hasFwd (Ty.ref b c) = b := by
  cases b <;> rfl

theorem hasFwd_mapRef (g : Bool → Nat → Bool × Nat) (late : Bool) (hg : ∀ b c, (g b c).1 = late) :
    ∀ t, hasFwd (mapRef g t) = (late && hasNode t) := by
  have hany : ∀ l : List Ty, (∀ x ∈ l, hasFwd (mapRef g x) = (late && hasNode x)) →
      (l.map (mapRef g)).any hasFwd = (late && l.any hasNode) := fun l h => by
    rw [any_map_congr h]
    cases late <;> simp
  intro t
  induction t using Ty.induct with
  | hnode c => exact (hasFwd_ref _ _).trans ((hg false c).trans (Bool.and_true late).symm)
  | hfwd c => exact (hasFwd_ref _ _).trans ((hg true c).trans (Bool.and_true late).symm)
  | hnt t ih => exact ih
  | hvt t ih => exact ih
  | hunion m ms ih => rw [mapRef_union, hasNode_union, ← hany _ ih, ← hasFwdL_eq]; rfl
  | hcoll k args ih => rw [mapRef_coll, hasNode_coll, ← hany _ ih, ← hasFwdL_eq]; rfl
  | _ => exact (Bool.and_false late).symm

theorem hasFwd_resolveAll (t : Ty) : hasFwd (resolveAll t) = false :=
  (hasFwd_mapRef _ false (fun b _ => Bool.and_false b) t).trans (Bool.false_and _)

theorem hasFwd_deferAll (t : Ty) : hasFwd (deferAll t) = hasNode t :=
  (hasFwd_mapRef _ true (fun _ _ => rfl) t).trans (Bool.true_and _)

/-- the outcome of a class — rejected, or the verdict of each of its fields — is the same whether the node
classes its annotations name exist at definition time or only later (the only thing the choice between
plain and postponed / string annotations can change once `get_type_hints` evaluates them) -/
theorem classOutcome_mapRef (g : Bool → Nat → Bool × Nat) (ls : List Level) :
    classOutcome (mapLevels (mapRef g) ls) = classOutcome ls :=
  classOutcome_mapLevels _ (classify_mapRef g) ls

theorem classOutcome_resolveFwd (known : Nat → Bool) (ls : List Level) :
    classOutcome (mapLevels (resolveFwd known) ls) = classOutcome ls :=
  classOutcome_mapLevels _ (classify_resolveFwd known) ls

theorem classOutcome_deferAll (ls : List Level) : classOutcome (mapLevels deferAll ls) = classOutcome ls :=
  classOutcome_mapLevels _ classify_deferAll ls

/-- … and so is what the driver prints for a whole chain of classes -/
theorem chainOutcome_mapRef (g : Bool → Nat → Bool × Nat) (ls : List Level) :
    chainOutcome (mapLevels (mapRef g) ls) = chainOutcome ls :=
  chainFrom_mapLevels _ (classify_mapRef g) [] ls

theorem chainOutcome_resolveFwd (known : Nat → Bool) (ls : List Level) :
    chainOutcome (mapLevels (resolveFwd known) ls) = chainOutcome ls :=
  chainFrom_mapLevels _ (classify_resolveFwd known) [] ls


theorem anyFwd_mapLevels (F : Ty → Ty) (ls : List Level) :
    (mapLevels F ls).any (fun lvl => lvl.any fun f => f.ty.hasFwd) =
      ls.any fun lvl => lvl.any fun f => (F f.ty).hasFwd :=
  any_map_congr fun _ _ => any_map_congr fun _ _ => rfl

theorem classOutcome_resolveAll (ls : List Level) : classOutcome (mapLevels resolveAll ls) = classOutcome ls :=
  classOutcome_mapLevels _ classify_resolveAll ls

theorem noFwd_resolveAll (ls : List Level) :
    (mapLevels resolveAll ls).any (fun lvl => lvl.any fun f => f.ty.hasFwd) = false := by
  rw [anyFwd_mapLevels]
  simp [hasFwd_resolveAll]

/-- without unresolved forward references the definition-time check decides: it raises iff the class is
rejected at all -/
theorem defCheck_raised_iff_of_noFwd (ls : List Level)
    (hnf : ls.any (fun lvl => lvl.any fun f => f.ty.hasFwd) = false) :
    defCheck ls = .raised ↔ classOutcome ls = Option.none := by
  rw [defCheck_raised_iff]
  exact and_iff_right hnf

/-- a class is rejected (at definition or at first use, whichever comes first) iff the same class, written
where all the node classes it names are already defined, is rejected AT DEFINITION -/
theorem reject_moves_to_definition (ls : List Level) :
    classOutcome ls = Option.none ↔ defCheck (mapLevels resolveAll ls) = .raised := by
  rw [defCheck_raised_iff_of_noFwd _ (noFwd_resolveAll ls), classOutcome_resolveAll]

/-- … and it is accepted iff that class passes the definition-time check -/
theorem accepted_iff_resolved_passes (ls : List Level) :
    classOutcome ls ≠ Option.none ↔ defCheck (mapLevels resolveAll ls) = .passed := by
  rw [defCheck_passed_iff, classOutcome_resolveAll]
  exact (and_iff_right (noFwd_resolveAll ls)).symm

/-- a class all of whose node references are unresolved at definition time is never checked there
(provided it mentions a node class at all) -/
theorem defCheck_deferAll (ls : List Level) (f : Field) (lvl : Level) (hl : lvl ∈ ls) (hf : f ∈ lvl)
    (hn : MentionsNode f.ty) : defCheck (mapLevels deferAll ls) = .skipped := by
  rw [defCheck_skipped_iff, anyFwd_mapLevels]
  simp only [hasFwd_deferAll, List.any_eq_true]
  exact ⟨lvl, hl, f, hf, (hasNode_iff _).2 hn⟩


-- `tuple["Later0", ...]` vs `tuple[N0, ...]`; a partial class table resolves only some names
example : resolveFwd (fun c => c == 0) (.coll .tuple [.fwd 0, .fwd 1, .node 2]) =
    .coll .tuple [.node 0, .fwd 1, .node 2] := by rfl
example : resolveAll (.union (.newtype (.fwd 3)) [.none]) = .union (.newtype (.node 3)) [.none] := by rfl
-- the two phases really differ on the two layouts, the outcome does not
example : defCheck [[⟨['x'], .coll .list [.fwd 0]⟩]] = .skipped ∧
    defCheck (mapLevels resolveAll [[⟨['x'], .coll .list [.fwd 0]⟩]]) = .raised ∧
    classOutcome [[⟨['x'], .coll .list [.fwd 0]⟩]] = Option.none := by decide
example : defCheck [[⟨['x'], .vtuple (.node 0)⟩]] = .passed ∧
    defCheck (mapLevels deferAll [[⟨['x'], .vtuple (.node 0)⟩]]) = .skipped ∧
    classOutcome (mapLevels deferAll [[⟨['x'], .vtuple (.node 0)⟩]]) = some [(['x'], .child)] := by decide

end C11
end PyOak
