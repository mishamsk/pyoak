/-
C20 — `ParentClean` (Props/C20Heap.lean: a node without `_parent_id` has no `_parent_field`, a node without
`_parent_field` has no `_parent_index`) holds in EVERY state the legacy machine can reach: the three slots are
written only by `_set_parent` (all three, id and field non-`None`) and `_clear_parent` / `__post_init__` (all three
`None`).  One step keeps it WHATEVER its outcome (returned, rejected with roll-back, endless walk), so it holds
after every history from the empty world, and together with `C18.inv_ranked_run_init` the three hypotheses of the
heap-level theorems are available after every admissible history (`reachable_ok`); `legacy_match_heap_run` is the
corollary over histories of `legacy_match_heap` / `legacy_match_heap_successor`.
-/
import PyOak.Props.C20HeapMatch
namespace PyOak
namespace C20
open Legacy Legacy.C18 LState

variable (H Hc : Str → Str)

/-- what `ParentClean` says of one object (`parentClean_iff`); the lemmas on `modify` and `alloc` are stated for it -/
def PCo (o : LObj) : Prop := (o.pid = none → o.pfield = none) ∧ (o.pfield = none → o.pindex = none)

theorem parentClean_iff (s : LState) : ParentClean s ↔ ∀ u, PCo (s.obj u) := Iff.rfl

theorem pc_modify {s : LState} (h : ParentClean s) (u : Nat) (g : LObj → LObj) (hg : ∀ o, PCo o → PCo (g o)) :
    ParentClean (s.modify u g) := by
  intro v
  show PCo ((s.modify u g).obj v)
  rw [modify_obj]
  split
  · exact hg _ (h u)
  · exact h v

theorem pc_alloc {s : LState} (h : ParentClean s) (o : LObj) (ho : PCo o) : ParentClean (s.alloc o).1 := by
  intro v
  show PCo (if v = s.size then o else s.heap v)
  split
  · exact ho
  · exact h v

theorem pc_ite {α : Type} {c : Prop} [Decidable c] (f : α → LState) {a b : α} (ha : ParentClean (f a))
    (hb : ParentClean (f b)) : ParentClean (f (if c then a else b)) := by split <;> assumption

theorem pc_setField {s : LState} (h : ParentClean s) (p : Nat) (f : Str) (ks : List Nat) :
    ParentClean (setField s p f ks) := pc_modify h p _ (fun _ ho => ho)

/-- keeping `ParentClean` is a relation kept by the elementary updates, hence (`C18.Stage`) by every function of the
machine composed of them: an update that keeps the three slots keeps `PCo`, `_clear_parent` and `setIds` clear all
three, `_set_parent` sets id and field, the registry is not looked at -/
theorem pcStage : Stage fun s t => ParentClean s → ParentClean t where
  refl _ h := h
  trans k1 k2 h := k2 (k1 h)
  update s u g hg h := pc_modify h u g fun o ho => by
    obtain ⟨h1, h2, h3⟩ := slots_eq (hg o).2
    unfold PCo; rw [h1, h2, h3]; exact ho
  clearParent s u h := pc_modify h u _ (fun _ _ => ⟨fun _ => rfl, fun _ => rfl⟩)
  setParent s c p f i h := pc_modify h c _ (fun _ _ => ⟨fun e => (by simp at e), fun e => (by simp at e)⟩)
  setIds s u nid coll orig h := pc_modify h u _ (fun _ _ => ⟨fun _ => rfl, fun _ => rfl⟩)
  register _ _ h := h
  unregister _ _ h := h

theorem pc_replaceChild (fuel : Nat) {s : LState} (h : ParentClean s) (p old : Nat) (f : Str) (idx : Option Nat)
    (new : Option Nat) : ParentClean (replaceChild Hc fuel s p old f idx new).1 := by
  unfold replaceChild
  cases idx with
  | none =>
    cases new with
    | none =>
      simp only [↓reduceIte]
      exact pcStage.resetContentId Hc _ _ _ (pc_setField h _ _ _)
    | some n =>
      exact pc_ite Prod.fst (pcStage.resetContentId Hc _ _ _ (pcStage.setParent _ _ _ _ _ (pc_setField h _ _ _)))
        (pcStage.setParent _ _ _ _ _ (pc_setField h _ _ _))
  | some i =>
    cases new with
    | none =>
      simp only [↓reduceIte]
      exact pcStage.resetContentId Hc _ _ _ (pcStage.shiftDown _ _ _ _ (pc_setField h _ _ _))
    | some n =>
      exact pc_ite Prod.fst (pcStage.resetContentId Hc _ _ _ (pcStage.setParent _ _ _ _ _ (pc_setField h _ _ _)))
        (pcStage.setParent _ _ _ _ _ (pc_setField h _ _ _))

theorem pCo_newObj (n : NewSpec) : PCo (newObj n) := ⟨fun _ => rfl, fun _ => rfl⟩

theorem pc_construct (fuel : Nat) {s : LState} (h : ParentClean s) (n : NewSpec) :
    ParentClean (construct H Hc fuel s n).1 :=
  (pcStage.construct H Hc fuel s n).1 (pc_alloc h (newObj n) (pCo_newObj n))

theorem pc_replace (fuel : Nat) {s : LState} (h : ParentClean s) (u : Nat) (ch : Changes) :
    ParentClean (replace H Hc fuel s u ch).1 := by
  unfold replace
  refine pc_ite Prod.fst h ?_
  simp only
  have h1 : ParentClean (if (s.parent u).isSome then s.clearParent u else s) := pc_ite id (pcStage.clearParent s u h) h
  generalize (if (s.parent u).isSome then s.clearParent u else s) = s1 at h1 ⊢
  have h2 : ParentClean (if (!s1.detached u) = true then (detachGo (fuel + 1) true s1 u).1 else s1) :=
    pc_ite id (pcStage.detachGo _ _ _ _ h1) h1
  generalize (if (!s1.detached u) = true then (detachGo (fuel + 1) true s1 u).1 else s1) = s2 at h2 ⊢
  generalize hcs : construct H Hc fuel s2 _ = res
  have h3 : ParentClean res.1 := by rw [← hcs]; exact pc_construct H Hc fuel h2 _
  obtain ⟨s3, e | n⟩ := res
  · simp only
    have h4 : ParentClean (if (!s1.detached u) = true then reparent u (s3.register u) (s3.obj u).kidsPos else s3) :=
      pc_ite id (pcStage.reparent _ _ _ h3) h3
    cases s.parent u with
    | none => exact h4
    | some p => exact pcStage.setParent _ _ _ _ _ h4
  · simp only
    cases hp : s.parent u with
    | none =>
      simp only
      split <;> (dsimp only; exact pc_modify h3 n _ (fun _ ho => ho))
    | some p =>
      simp only
      have h4 := pc_replaceChild Hc fuel h3 p u ((s.obj u).pfield.getD []) (s.obj u).pindex (some n)
      generalize replaceChild Hc fuel s3 p u ((s.obj u).pfield.getD []) (s.obj u).pindex (some n) = rc at h4 ⊢
      obtain ⟨s4, fin⟩ := rc
      simp only at h4 ⊢
      split <;> (dsimp only; exact pc_modify h4 n _ (fun _ ho => ho))

theorem pc_replaceWith (fuel : Nat) {s : LState} (h : ParentClean s) (u : Nat) (new : Option Nat) :
    ParentClean (replaceWith Hc fuel s u new).1 :=
  pcStage.replaceWith_ind Hc ParentClean fuel s u new (fun _ k => k h)
    (fun _ p f _ k => pc_replaceChild Hc fuel (k h) p u f _ new)

theorem pc_dupList (rec : LState → Nat → LState × Except Err Nat)
    (hrec : ∀ s c, ParentClean s → ParentClean (rec s c).1) :
    ∀ (cs : List Nat) (s : LState), ParentClean s → ParentClean (dupList rec s cs).1 := by
  intro cs
  induction cs with
  | nil => intro s h; exact h
  | cons c cs ih =>
    intro s h
    unfold dupList
    have h1 := hrec s c h
    generalize rec s c = r at h1 ⊢
    obtain ⟨s1, o⟩ := r
    cases o with
    | error e => exact h1
    | ok c' =>
      simp only
      have h2 := ih s1 h1
      generalize dupList rec s1 cs = r2 at h2 ⊢
      obtain ⟨s2, o2⟩ := r2
      cases o2 <;> exact h2

theorem pc_dupFields (rec : LState → Nat → LState × Except Err Nat)
    (hrec : ∀ s c, ParentClean s → ParentClean (rec s c).1) :
    ∀ (fs : List LField) (s : LState), ParentClean s → ParentClean (dupFields rec s fs).1 := by
  intro fs
  induction fs with
  | nil => intro s h; exact h
  | cons f fs ih =>
    intro s h
    unfold dupFields
    have h1 := pc_dupList rec hrec f.kids s h
    generalize dupList rec s f.kids = r at h1 ⊢
    obtain ⟨s1, o⟩ := r
    cases o with
    | error e => exact h1
    | ok ks =>
      simp only
      have h2 := ih s1 h1
      generalize dupFields rec s1 fs = r2 at h2 ⊢
      obtain ⟨s2, o2⟩ := r2
      cases o2 <;> exact h2

theorem pc_duplicate (cfuel : Nat) (clone : Bool) : ∀ (fuel : Nat) (s : LState) (u : Nat), ParentClean s →
    ParentClean (duplicate H Hc cfuel clone fuel s u).1 := by
  intro fuel
  induction fuel with
  | zero => intro s u h; exact h
  | succ fuel ih =>
    intro s u h
    unfold duplicate
    have h1 := pc_dupFields (duplicate H Hc cfuel clone fuel) (fun s c hs => ih s c hs) (s.obj u).fields s h
    generalize dupFields (duplicate H Hc cfuel clone fuel) s (s.obj u).fields = r at h1 ⊢
    obtain ⟨s1, o⟩ := r
    cases o with
    | error e => exact h1
    | ok fs =>
      simp only
      generalize hcs : construct H Hc cfuel s1 _ = res
      have h2 : ParentClean res.1 := by rw [← hcs]; exact pc_construct H Hc cfuel h1 _
      obtain ⟨s2, o2⟩ := res
      cases o2 with
      | error e => exact h2
      | ok n =>
        simp only
        exact pc_modify h2 n _ (fun _ ho => ho)

/-- **one step of the machine keeps the parent slots clean — whatever its outcome** -/
theorem parentClean_step {s : LState} (h : ParentClean s) (op : LOp) : ParentClean (step H Hc s op).1 := by
  unfold step
  split
  · exact h
  · cases op with
    | new sp => simp only [ofNode_fst]; exact pc_construct H Hc _ h sp
    | attach u =>
      simp only
      split
      · exact h
      · rw [ofUnit_fst]; exact pcStage.attach Hc _ s u h
    | detach u os =>
      simp only
      have hk := pcStage.detachGo (fuelOf s + 1) os s u h
      split
      · next s1 b heq => rw [heq] at hk; exact hk
      · next s1 heq => rw [heq] at hk; exact hk
    | replace u ch => simp only [ofNode_fst]; exact pc_replace H Hc _ h u ch
    | rwith u n => simp only [ofUnit_fst]; exact pc_replaceWith Hc _ h u n
    | dup u c => simp only [ofNode_fst]; exact pc_duplicate H Hc _ c _ s u h

theorem parentClean_init : ParentClean init := fun _ => ⟨fun _ => rfl, fun _ => rfl⟩

theorem parentClean_run : ∀ (ops : List LOp) (s : LState), ParentClean s → ParentClean (run H Hc s ops) := by
  intro ops
  induction ops with
  | nil => intro s h; exact h
  | cons op r ih =>
    intro s h
    unfold run
    simp only [List.foldl_cons]
    exact ih _ (parentClean_step H Hc h op)

theorem parentClean_run_init (ops : List LOp) : ParentClean (run H Hc init ops) :=
  parentClean_run H Hc ops init parentClean_init

/-- after every admissible history from the empty world the three hypotheses of the heap-level theorems hold -/
theorem reachable_ok (ops : List LOp) (hg : AdmRun H Hc init ops) :
    Inv Hc (run H Hc init ops) ∧ Ranked (run H Hc init ops) ∧ ParentClean (run H Hc init ops) :=
  ⟨(inv_ranked_run_init H Hc ops hg).1, (inv_ranked_run_init H Hc ops hg).2, parentClean_run_init H Hc ops⟩

/-- After ANY admissible history of legacy operations from the empty world (accepted
and rejected operations mixed), for every live (attached) object `u` and every element list a legacy `ASTXpath` can
hold: legacy `match(u)`, run on the heap, ends and answers exactly what the successor's
`ASTXpath.match(Tree(root), node)` answers on the tree the heap represents below the root of `u`; and the successor's
`findall` on that tree contains the node iff legacy `match` says True -/
theorem legacy_match_heap_run (ops : List LOp) (hg : AdmRun H Hc init ops) {u : Nat}
    (hu : Att (run H Hc init ops) u) (L : List LElem) (hL : HeadOK L) :
    let s := run H Hc init ops
    ∃ l b, UpChain s u l ∧ IsChain (treeOf s (topOf u l)) (heapChain s u l) ∧
      lxmatchH s L u = some b ∧ b = sat (heapChain s u l) (shift L).reverse ∧
      xmatch (shift L) (treeOf s (topOf u l)) (treeOf s u) = .ok b ∧
      (treeOf s u ∈ findall (shift L).reverse (treeOf s (topOf u l)) ↔ b = true) := by
  intro s
  obtain ⟨hI, hR, hP⟩ := reachable_ok H Hc ops hg
  obtain ⟨l, hl, _, hc, _, hm⟩ := legacy_match_heap Hc hI hR hP hu L hL
  obtain ⟨l', b, hl', hb, hx, hf⟩ := legacy_match_heap_successor Hc hI hR hP hu L hL
  have := upChain_unique hl' hl
  subst this
  refine ⟨l', b, hl, hc, hb, ?_, hx, hf⟩
  rw [hb] at hm
  exact Option.some.inj hm

theorem admRun_histAdm : AdmRun id id init (histAdm.take 10) := admRun_of_B id id _ init adm_histAdm

end C20
end PyOak
