/-
Bridge between the hand-written model and the definitions GENERATED from the source on every run
(PyOak/Gen/Kernels.lean, written by harness/py2lean_k.py):

  matchElem_eq_gen            Model `matchElem`  = generated `_match_node_element`      (C07; shared by match and findall)
  propertyFieldYielded_eq_gen Model `propertyFieldYielded` = generated loop body of `ASTNode.get_property_fields`  (C12)

The proofs only unfold both sides and decide the finitely many shapes of the Optional arguments, so that a harmless
rewrite of the Python function (other order of independent tests, early returns, De Morgan) re-proves, while a
semantic change leaves a goal that is false for some shape and the build fails (the check then searches the real
code for a failing input).
-/
import PyOak.Gen.Kernels
import PyOak.Model.XPath
import PyOak.Model.Accessors
namespace PyOak.GenBridge
open PyOak PyOak.Acc

/-- `_NodeTraversalInfo(node, parent, field, findex)` as the model sees a position: the edge carries field name and index -/
def toInfo (n : Node) (par : Option Node) (edge : Option Edge) : GenK.NodeTraversalInfo Node :=
  { node := n, parent := par, field := edge.map (fun e => ⟨e.field⟩), findex := (edge.bind (·.idx)).map Int.ofNat }

/-- `ASTXpathElement(ast_class, parent_field, parent_index, anywhere)` -/
def toEl (el : XElem) : GenK.ASTXpathElement Str :=
  { ast_class := el.cls, parent_field := el.field, parent_index := el.idx.map Int.ofNat, anywhere := el.anywhere }

/-- the element test shared by `match` and `findall` is what the source says -/
theorem matchElem_eq_gen (n : Node) (par : Option Node) (edge : Option Edge) (el : XElem) :
    matchElem n edge el = GenK.match_node_element Node.isInst (toInfo n par edge) (toEl el) := by
  obtain ⟨cls, fld, idx, anyw⟩ := el
  rw [Bool.eq_iff_iff]
  rcases edge with _ | ⟨f, _ | ei⟩ <;> cases fld <;> cases idx <;>
    (try simp [matchElem, GenK.match_node_element, toInfo, toEl]) <;> (try grind)

-- non-vacuity: both sides say yes / no on concrete positions
example : GenK.match_node_element (N := Nat) (C := Nat) (fun a b => a == b) ⟨1, some 0, some ⟨['f']⟩, some 12⟩ ⟨1, some ['f'], some 12, false⟩ = true
    ∧ GenK.match_node_element (N := Nat) (C := Nat) (fun a b => a == b) ⟨1, some 0, some ⟨['f']⟩, some 12⟩ ⟨1, some ['f'], some 1, false⟩ = false
    ∧ GenK.match_node_element (N := Nat) (C := Nat) (fun a b => a == b) ⟨1, none, none, none⟩ ⟨1, some ['f'], none, false⟩ = false := by
  decide

/-- `dataclasses.Field` of a property as `get_property_fields` reads it -/
def toPField (f : FDecl) : GenK.PField := ⟨f.name, f.compare, f.init⟩

/-- the loop body of the static `get_property_fields` is what the source says -/
theorem propertyFieldYielded_eq_gen (fl : Flags) (f : FDecl) :
    propertyFieldYielded fl f =
      GenK.get_property_fields_keep (toPField f) fl.skipId fl.skipOrigin fl.skipContentId fl.skipNonCompare fl.skipNonInit := by
  simp only [propertyFieldYielded, GenK.get_property_fields_keep, toPField, nmId, nmContentId, nmOrigin]
  grind

example : GenK.get_property_fields_keep ⟨['i', 'd'], false, false⟩ false true true true true = true
    ∧ GenK.get_property_fields_keep ⟨['x'], false, true⟩ true true true true false = false
    ∧ GenK.get_property_fields_keep ⟨['x'], true, false⟩ true true true true false = true := by decide

end PyOak.GenBridge
