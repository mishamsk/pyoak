/-
C07, assembled: the table-level matcher (`ASTXpath.match` on a `Tree`) decides the documented
semantics `sat`, and `findall` finds exactly the positions that satisfy it — hence
`n ∈ findall(root) ↔ match(root, n)` for trees without repeated objects.
(Instantiates `C07.matchUpT_eq_sat` with the table-correctness theorems of C06.)
-/
import PyOak.Props.C07
namespace PyOak
namespace C07

theorem chain_length_le (root : Node) (chain : Chain) (hc : IsChain root chain) :
    chain.length ≤ root.size := by
  cases hc with
  | root => have := root.size_pos; simp; omega
  | snoc c p pe n e h hm =>
    have := C06.chain_length_lt root (c ++ [(p, pe)]) n (some e) (IsChain.snoc c p pe n e h hm)
    simp at this ⊢; omega

theorem tablesOK (root : Node) (h : NoRepeat root) : TablesOK root :=
  ⟨C06.parentInfo_chain root h, C06.parentInfo_root root, C06.ancestors_chain root h⟩

/-- `ASTXpath.match(tree, n)` = documented semantics along the chain of `n` -/
theorem match_eq_sat (root : Node) (h : NoRepeat root) (c : Chain) (n : Node) (oe : Option Edge)
    (els : List XElem) (hc : IsChain root (c ++ [(n, oe)])) :
    matchUpT (TreeT.build root) (root.size + 1) n els.reverse = .ok (sat (c ++ [(n, oe)]) els) :=
  matchUpT_eq_sat root (tablesOK root h) (chain_length_le root) c n oe els hc

end C07
end PyOak
