/-
C13 — Runtime type checking accepts exactly the well-typed constructions.

`isInstance` (Model/IsInstance.lean) follows the order of checks of `pyoak.typing.is_instance`;
`conforms` (Spec/Conforms.lean) is the conformance relation the property lists.  The checker accepts
every conforming value and, beyond those, only values that touch a don't-care point (`between`, one
induction over annotations); hence the two agree outside the don't-care points, `_check_runtime_types`
returns exactly the non-conforming checked fields, and the gate only adds the `InvalidTypes` outcome.
-/
import PyOak.Spec.Conforms
namespace PyOak
namespace C13
open RT

/-! ### `is_instance`, annotation by annotation -/

/-- `b`: what the rule of the annotation falls back to when the early tests do not fire (`false` for a
plain class, `isinstance` again for a bare collection class) -/
theorem pre_plain (v : PyVal) (t : Ty) (hi : t.isInt = false) (hf : t.isFloat = false) (ha : t.isAny = false)
    (b : Bool) (hb : b = true → pyIsinstance v t = true) : (pre v t).getD b = pyIsinstance v t := by
  unfold pre
  rw [hi, hf, ha]
  cases h : pyIsinstance v t
  · cases b with
    | false => rfl
    | true => rw [hb rfl] at h; cases h
  · rfl

theorem isInstance_int (v : PyVal) : isInstance v .int = v.isInt := by cases v <;> exact rfl
theorem isInstance_float (v : PyVal) : isInstance v .float = (v.isFloat || v.isInt || v.isBool) := by
  cases v <;> exact rfl
theorem isInstance_any (v : PyVal) : isInstance v .any = true := by cases v <;> exact rfl
theorem isInstance_str (v : PyVal) : isInstance v .str = v.isStr := pre_plain v .str rfl rfl rfl false nofun
theorem isInstance_bool (v : PyVal) : isInstance v .bool = v.isBool := pre_plain v .bool rfl rfl rfl false nofun
theorem isInstance_bytes (v : PyVal) : isInstance v .bytes = v.isBytes := pre_plain v .bytes rfl rfl rfl _ id
theorem isInstance_noneTy (v : PyVal) : isInstance v .none = v.isNone := pre_plain v .none rfl rfl rfl false nofun
theorem isInstance_cls (v : PyVal) (c : Str) : isInstance v (.cls c) = v.instOf c :=
  pre_plain v (.cls c) rfl rfl rfl false nofun
theorem isInstance_tupleAny (v : PyVal) : isInstance v .tupleAny = v.isTuple := pre_plain v .tupleAny rfl rfl rfl _ id
theorem isInstance_fsetAny (v : PyVal) : isInstance v .fsetAny = v.isFset := pre_plain v .fsetAny rfl rfl rfl _ id
theorem isInstance_seqAny (v : PyVal) : isInstance v .seqAny = v.seqElems.isSome :=
  pre_plain v .seqAny rfl rfl rfl _ id
theorem isInstance_mapAny (v : PyVal) : isInstance v .mapAny = v.isDict := pre_plain v .mapAny rfl rfl rfl _ id

theorem isInstance_lit (v : PyVal) (ms : List Lit) : isInstance v (.lit ms) = ms.any (fun m => pyEqLit v m) := rfl

/-- a NewType is transparent at every depth -/
theorem isInstance_newtype (v : PyVal) (n : Str) (t : Ty) :
    isInstance v (.newtype n t) = isInstance v t := rfl

theorem isInstance_union_eq (v : PyVal) (ts : List Ty) : isInstance v (.union ts) = isInstAny v ts := rfl

theorem isInstAny_cons (v : PyVal) (t : Ty) (r : List Ty) :
    isInstAny v (t :: r) = (isInstance v t || isInstAny v r) := rfl

theorem isInstZip_cons (x : PyVal) (xr : List PyVal) (t : Ty) (r : List Ty) :
    isInstZip (x :: xr) (t :: r) = (isInstance x t && isInstZip xr r) := rfl

theorem len_guard (a b : Nat) (c : Bool) :
    (if (a != b) = true then false else c) = (b == a && c) := by
  by_cases h : a = b
  · subst h; simp
  · have h' : ¬ b = a := fun e => h e.symm
    simp [h, h']

theorem isInstance_tupleFix_eq (v : PyVal) (ts : List Ty) :
    isInstance v (.tupleFix ts) =
      match v with
      | .tuple xs => xs.length == ts.length && isInstZip xs ts
      | _ => false := by
  cases v <;> try exact rfl
  rename_i xs
  show (if ts.isEmpty then xs.isEmpty else if ts.length != xs.length then false else isInstZip xs ts) = _
  cases ts with
  | nil => cases xs <;> rfl
  | cons t r => exact len_guard _ _ _

theorem isInstance_tupleVar_eq (v : PyVal) (u : Ty) :
    isInstance v (.tupleVar u) =
      match v with
      | .tuple xs => xs.all fun x => isInstance x u
      | _ => false := rfl

theorem isInstance_fset_eq (v : PyVal) (u : Ty) :
    isInstance v (.fset u) =
      match v with
      | .fset xs => xs.all fun x => isInstance x u
      | _ => false := rfl

theorem isInstance_seq_eq (v : PyVal) (u : Ty) :
    isInstance v (.seq u) =
      match v.seqElems with
      | some xs => xs.all fun x => isInstance x u
      | Option.none => false := rfl

theorem isInstance_map_eq (v : PyVal) (k w : Ty) :
    isInstance v (.map k w) =
      match v with
      | .dict kvs => kvs.all fun kv => isInstance kv.1 k && isInstance kv.2 w
      | _ => false := rfl

/-- whatever conforms (`b`) is accepted (`a`), and whatever is accepted beyond that touches a
don't-care point (`d`) -/
def Between (a b d : Bool) : Prop := (b = true → a = true) ∧ (a = true → b = true ∨ d = true)

instance (a b d : Bool) : Decidable (Between a b d) := inferInstanceAs (Decidable (_ ∧ _))

theorem Between.refl : ∀ a, Between a a false := by decide
theorem Between.of_eq : ∀ {a b : Bool}, a = b → Between a b false := by decide
theorem Between.or_self : ∀ b d, Between (b || d) b d := by decide
theorem Between.diff : ∀ {a b : Bool}, (b = true → a = true) → Between a b (a && !b) := by decide
theorem Between.or : ∀ {a b d a' b' d' : Bool},
    Between a b d → Between a' b' d' → Between (a || a') (b || b') (d || d') := by decide
theorem Between.and : ∀ {a b d a' b' d' : Bool},
    Between a b d → Between a' b' d' → Between (a && a') (b && b') (d || d') := by decide
theorem Between.guard : ∀ {a b d : Bool} (c : Bool), Between a b d → Between (c && a) (c && b) d := by decide
theorem Between.eq : ∀ {a b : Bool}, Between a b false → a = b := by decide

theorem Between.all {α : Type} {f g d : α → Bool} (h : ∀ x, Between (f x) (g x) (d x)) (xs : List α) :
    Between (xs.all f) (xs.all g) (xs.any d) := by
  induction xs with
  | nil => exact .refl true
  | cons x r ih => exact (h x).and ih

theorem Between.any {α : Type} {f g d : α → Bool} (h : ∀ x, Between (f x) (g x) (d x)) (xs : List α) :
    Between (xs.any f) (xs.any g) (xs.any d) := by
  induction xs with
  | nil => exact .refl false
  | cons x r ih => exact (h x).or ih

theorem strict_imp_pyEq (v : PyVal) (m : Lit) (h : strictEqLit v m = true) : pyEqLit v m = true := by
  -- the cases of `strictEqLit`; only int and bool members go through `num` in `pyEqLit`
  revert h
  fun_cases strictEqLit v m
  · exact id
  · rename_i a b; cases a <;> cases b <;> decide
  · exact id
  · exact id
  · exact id
  · exact nofun

theorem between_lit (v : PyVal) (m : Lit) : Between (pyEqLit v m) (strictEqLit v m) (crossEqLit v m) :=
  .diff (strict_imp_pyEq v m)

theorem pyEqLit_of_not_cross {v : PyVal} {m : Lit} (h : crossEqLit v m = false) :
    pyEqLit v m = strictEqLit v m :=
  (h ▸ between_lit v m).eq

mutual
theorem between (v : PyVal) (t : Ty) : Between (isInstance v t) (conforms v t) (dontCare v t) := by
  match t with
  | .int => exact .of_eq (isInstance_int v)
  | .str => exact .of_eq (isInstance_str v)
  | .bool => exact .of_eq (isInstance_bool v)
  | .bytes => exact .of_eq (isInstance_bytes v)
  | .any => exact .of_eq (isInstance_any v)
  | .none => exact .of_eq (isInstance_noneTy v)
  | .cls c => exact .of_eq (isInstance_cls v c)
  | .tupleAny => exact .of_eq (isInstance_tupleAny v)
  | .fsetAny => exact .of_eq (isInstance_fsetAny v)
  | .seqAny => exact .of_eq (isInstance_seqAny v)
  | .mapAny => exact .of_eq (isInstance_mapAny v)
  | .float => exact isInstance_float v ▸ .or_self _ _
  | .lit ms => exact .any (between_lit v) ms
  | .newtype _ u => exact between v u
  | .union ts => exact betweenAny v ts
  | .tupleFix ts =>
    rw [isInstance_tupleFix_eq]
    cases v with
    | tuple xs => exact (betweenZip xs ts).guard _
    | _ => exact .refl false
  | .tupleVar u =>
    cases v with
    | tuple xs => exact .all (fun x => between x u) xs
    | _ => exact .refl false
  | .fset u =>
    cases v with
    | fset xs => exact .all (fun x => between x u) xs
    | _ => exact .refl false
  | .seq u =>
    cases v with
    | tuple xs | list xs | str xs | bytes xs => exact .all (fun x => between x u) _
    | _ => exact .refl false
  | .map k w =>
    cases v with
    | dict kvs => exact .all (fun kv => (between kv.1 k).and (between kv.2 w)) kvs
    | _ => exact .refl false
theorem betweenAny (v : PyVal) (ts : List Ty) :
    Between (isInstAny v ts) (conformsAny v ts) (dontCareAny v ts) := by
  match ts with
  | [] => exact .refl false
  | t :: r => exact (between v t).or (betweenAny v r)
theorem betweenZip (xs : List PyVal) (ts : List Ty) :
    Between (isInstZip xs ts) (conformsZip xs ts) (dontCareZip xs ts) := by
  match ts, xs with
  | [], _ => exact .refl true
  | _ :: _, [] => exact .refl true
  | t :: r, x :: xr => exact (between x t).and (betweenZip xr r)
end

theorem isInstance_eq_conforms (v : PyVal) (t : Ty) (h : dontCare v t = false) :
    isInstance v t = conforms v t :=
  (h ▸ between v t).eq

theorem isInstAny_eq (v : PyVal) (ts : List Ty) (h : dontCareAny v ts = false) :
    isInstAny v ts = conformsAny v ts :=
  (h ▸ betweenAny v ts).eq

theorem isInstZip_eq (xs : List PyVal) (ts : List Ty) (h : dontCareZip xs ts = false) :
    isInstZip xs ts = conformsZip xs ts :=
  (h ▸ betweenZip xs ts).eq

/-- the statement's reading of the theorem above, with `DontCare` as a proposition -/
def DontCare (v : PyVal) (t : Ty) : Prop := dontCare v t = true

theorem isInstance_iff_conforms (v : PyVal) (t : Ty) (h : ¬ DontCare v t) :
    isInstance v t = true ↔ conforms v t = true := by
  rw [isInstance_eq_conforms v t (Bool.not_eq_true _ ▸ h)]

/-! ### clauses of the statement, read off the model (no hypothesis) -/

/-- unions by any member — also for bools (`is_instance(True, int | str)` is `False`) -/
theorem isInstance_union (v : PyVal) (ts : List Ty) :
    isInstance v (.union ts) = ts.any fun t => isInstance v t := by
  rw [isInstance_union_eq]
  induction ts with
  | nil => rfl
  | cons t r ih => rw [isInstAny_cons, ih]; rfl

/-- `is_instance` takes bool values for `bool` and not for `int` -/
theorem bool_conforms_bool_not_int (b : Bool) :
    isInstance (.bool b) .bool = true ∧ isInstance (.bool b) .int = false :=
  ⟨isInstance_bool _, isInstance_int _⟩

/-- `is_instance` takes ints for `float` and no float for `int` -/
theorem int_conforms_float (i : Int) (tok : Str) (a : Option Int) :
    isInstance (.int i) .float = true ∧ isInstance (.float tok a) .int = false :=
  ⟨isInstance_float _, isInstance_int _⟩

theorem isInstZip_eq_zipWith (xs : List PyVal) (ts : List Ty) :
    isInstZip xs ts = (List.zipWith isInstance xs ts).all id := by
  induction ts generalizing xs with
  | nil => cases xs <;> rfl
  | cons t r ih =>
    cases xs with
    | nil => rfl
    | cons x xr => rw [isInstZip_cons, ih]; rfl

theorem tuple_match_iff (v : PyVal) (f : List PyVal → Bool) :
    (match v with | .tuple xs => f xs | _ => false) = true ↔ ∃ xs, v = .tuple xs ∧ f xs = true := by
  constructor
  · cases v with
    | tuple xs => exact fun h => ⟨xs, rfl, h⟩
    | _ => exact Bool.noConfusion
  · rintro ⟨xs, rfl, h⟩; exact h

/-- fixed tuples: exact length, element-wise -/
theorem isInstance_tupleFix (v : PyVal) (ts : List Ty) :
    isInstance v (.tupleFix ts) = true ↔
      ∃ xs, v = .tuple xs ∧ xs.length = ts.length ∧ (List.zipWith isInstance xs ts).all id = true := by
  rw [isInstance_tupleFix_eq, tuple_match_iff]
  simp only [Bool.and_eq_true, beq_iff_eq, isInstZip_eq_zipWith]

/-- variadic tuples: every element -/
theorem isInstance_tupleVar (v : PyVal) (u : Ty) :
    isInstance v (.tupleVar u) = true ↔ ∃ xs, v = .tuple xs ∧ ∀ x ∈ xs, isInstance x u = true := by
  rw [isInstance_tupleVar_eq, tuple_match_iff]
  simp only [List.all_eq_true]

/-- where `None` is allowed -/
def allowsNone : Ty → Bool
  | .any => true
  | .none => true
  | .lit ms => ms.contains .none
  | .newtype _ u => allowsNone u
  | .union ts => allowsNoneAny ts
  | _ => false
where allowsNoneAny : List Ty → Bool
  | [] => false
  | t :: r => allowsNone t || allowsNoneAny r

theorem pyEqLit_none (m : Lit) : pyEqLit .none m = (Lit.none == m) := by cases m <;> rfl

mutual
/-- None only where the annotation allows it -/
theorem isInstance_none (t : Ty) : isInstance .none t = allowsNone t := by
  match t with
  | .int | .float | .str | .bool | .bytes | .any | .none | .cls _ | .tupleAny | .fsetAny | .seqAny | .mapAny
  | .tupleFix _ | .tupleVar _ | .fset _ | .seq _ | .map _ _ => rfl
  | .lit ms =>
    show ms.any (fun m => pyEqLit .none m) = ms.contains .none
    simp only [pyEqLit_none, List.contains_eq_any_beq]
  | .newtype _ u => exact isInstance_none u
  | .union ts => exact isInstAny_none ts
theorem isInstAny_none (ts : List Ty) : isInstAny .none ts = allowsNone.allowsNoneAny ts := by
  match ts with
  | [] => rfl
  | t :: r =>
    show (isInstance .none t || isInstAny .none r) = (allowsNone t || allowsNone.allowsNoneAny r)
    rw [isInstance_none t, isInstAny_none r]
end

/-! ### `_check_runtime_types` and the gate -/

theorem isInstance_unwrap (v : PyVal) (t : Ty) : isInstance v (unwrapNewtype t) = isInstance v t := by
  fun_induction unwrapNewtype t with
  | case1 n u ih => rw [ih, isInstance_newtype]
  | case2 t h => rfl

/-- the fields the property calls non-conforming -/
def nonConforming (fs : List FieldV) : List Str :=
  ((fs.filter FieldV.checked).filter fun f => !conforms f.val f.ty).map (·.name)

/-- `invalid_fields` are exactly the non-conforming fields (neither `id` nor `content_id` is looked at) -/
theorem invalid_fields_exact_checked (fs : List FieldV)
    (h : ∀ f ∈ fs, f.checked = true → dontCare f.val f.ty = false) :
    checkRuntimeTypes fs = nonConforming fs := by
  unfold checkRuntimeTypes nonConforming
  congr 1
  apply List.filter_congr
  intro f hf
  obtain ⟨hf1, hf2⟩ := List.mem_filter.mp hf
  rw [isInstance_unwrap, isInstance_eq_conforms f.val f.ty (h f hf1 hf2)]

theorem invalid_fields_exact (fs : List FieldV) (h : ∀ f ∈ fs, dontCare f.val f.ty = false) :
    checkRuntimeTypes fs = nonConforming fs :=
  invalid_fields_exact_checked fs fun f hf _ => h f hf

theorem nonConforming_nil_iff (fs : List FieldV) :
    nonConforming fs = [] ↔ ∀ f ∈ fs, f.checked = true → conforms f.val f.ty = true := by
  simp only [nonConforming, List.map_eq_nil_iff, List.filter_eq_nil_iff, List.mem_filter, Bool.not_eq_true',
    Bool.not_eq_false, and_imp]

theorem construct_of_exact (fs : List FieldV) (h : checkRuntimeTypes fs = nonConforming fs) :
    construct true fs =
      if (∀ f ∈ fs, f.checked = true → conforms f.val f.ty = true) then .ok (mkBuilt fs)
      else .error (nonConforming fs) := by
  simp only [construct, if_true, h, List.isEmpty_iff, nonConforming_nil_iff]

/-- with the switch on: success iff every checked field conforms, otherwise `InvalidTypes` with exactly the
non-conforming fields -/
theorem construct_on (fs : List FieldV) (h : ∀ f ∈ fs, dontCare f.val f.ty = false) :
    construct true fs =
      if (∀ f ∈ fs, f.checked = true → conforms f.val f.ty = true) then .ok (mkBuilt fs)
      else .error (nonConforming fs) :=
  construct_of_exact fs (invalid_fields_exact fs h)

theorem construct_on_error_nonempty (fs : List FieldV) (bad : List Str)
    (h : construct true fs = .error bad) : bad ≠ [] ∧ bad = checkRuntimeTypes fs := by
  simp only [construct, if_true] at h
  split at h
  · cases h
  · rename_i hne
    cases h
    exact ⟨by simpa [List.isEmpty_iff] using hne, rfl⟩

/-- with the switch off no validation happens -/
theorem construct_off (fs : List FieldV) : construct false fs = .ok (mkBuilt fs) := rfl

/-- … and the node built is the same as with checking enabled -/
theorem construct_same (fs : List FieldV) (n : Built) (h : construct true fs = .ok n) :
    construct false fs = .ok n := by
  simp only [construct, if_true] at h
  split at h
  · exact h
  · cases h

/-- `id` and `content_id` are never reported -/
theorem id_fields_never_invalid (fs : List FieldV) :
    idName ∉ checkRuntimeTypes fs ∧ cidName ∉ checkRuntimeTypes fs := by
  simp only [checkRuntimeTypes, List.mem_map, List.mem_filter, FieldV.checked]
  constructor <;> (rintro ⟨f, ⟨⟨_, hc⟩, _⟩, hn⟩; simp [hn] at hc)

/-! ### non-vacuity: the hypotheses are satisfiable and both outcomes occur -/

def sA : Str := "a".toList
def leafMro : List Str := ["Leaf".toList, "Expr".toList, "ASTNode".toList]

example : dontCare (.bool false) .bool = false ∧ isInstance (.bool false) .bool = true := by decide
example : isInstance (.bool true) (.union [.int, .str]) = false := by decide
example : isInstance (.int 1) (.union [.int, .str]) = true := by decide
example : isInstance (.dict [(.str sA, .int 1)]) (.map .str .int) = true := by decide
example : isInstance (.dict [(.str sA, .bool true)]) (.map .str .int) = false := by decide
example : isInstance (.tuple [.int 1]) (.tupleVar (.newtype sA .int)) = true := by decide
example : isInstance (.tuple [.int 1, .str sA]) (.tupleFix [.int, .str]) = true := by decide
example : isInstance (.tuple [.int 1, .str sA, .int 2]) (.tupleFix [.int, .str]) = false := by decide
example : isInstance (.tuple []) (.tupleFix []) = true ∧ isInstance (.tuple [.none]) (.tupleFix []) = false := by
  decide
example : isInstance (.obj 1 leafMro) (.cls "Expr".toList) = true
    ∧ isInstance (.obj 1 leafMro) (.cls "Bin".toList) = false := by decide
example : isInstance (.int 1) (.lit [.int 1, .str sA]) = true ∧ isInstance (.int 2) (.lit [.int 1]) = false := by
  decide
example : isInstance .none (.union [.int, .none]) = true ∧ isInstance .none .int = false := by decide
example : isInstance (.str sA) (.seq .str) = true ∧ isInstance (.list [.int 1]) (.seq .int) = true := by decide
-- a don't-care point really is one: model and natural reading differ there
example : dontCare (.bool true) .float = true ∧ isInstance (.bool true) .float ≠ conforms (.bool true) .float := by
  decide
example : dontCare (.bool true) (.lit [.int 1]) = true := by decide
def fsDemo : List FieldV :=
  [⟨"id".toList, .str, .int 5⟩, ⟨"x".toList, .int, .bool true⟩, ⟨"y".toList, .newtype sA .bool, .bool false⟩,
   ⟨"z".toList, .tupleVar (.cls "Expr".toList), .list []⟩]
example : (∀ f ∈ fsDemo, dontCare f.val f.ty = false) := by decide
example : construct true fsDemo = .error ["x".toList, "z".toList] := rfl
example : construct false fsDemo = .ok (mkBuilt fsDemo) := rfl
example : construct true (fsDemo.take 1 ++ (fsDemo.drop 2).take 1)
    = .ok (mkBuilt (fsDemo.take 1 ++ (fsDemo.drop 2).take 1)) := rfl

end C13
end PyOak
