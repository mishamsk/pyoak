/-
C19, transform visitor: the hypothesis `LocalRun` of `tvisit_fail_before_commit_frame_partial` DERIVED from the
shape of the visitor.  For an attached receiver the visitor works on a detached clone; every primitive step of the
visit of a subtree all of whose nodes were created by the call and are detached is clone-local
(`visitGo_local`), whatever the rule table does (provided the nodes it makes are constructor calls without
children: `RulesOk`, decidable).  Hence

  tvisit_fail_in_visit_frame   `transform` of an attached receiver that is rejected while the clone is being visited
                               (callback raises, removes a required child, builds a node that cannot be built):
                               `Inv Hc s'` and `FrameG s s'`, for ALL states, rule tables and receivers,
                               given that the clone registers nothing (`step_dup_clone_reg`, Props/C19.lean), so
  fail_frame_tvisit_in_visit   the same without that hypothesis (`…_exact`: `C19.Frame` if the registry is unchanged)
-/
import PyOak.Props.C19Transform
-- nothing below uses it: harness/props/c19.py audits the theorems of C19Rejected, C19RwithErr and the bridge
-- through this module
import PyOak.Props.C19RejectedBridge
namespace PyOak.Legacy.C19T
open PyOak PyOak.Legacy LState PyOak.Legacy.C19

/-- what the visit of one clone subtree does to everything that existed before it: the records stay,
detached nodes stay detached -/
structure Stable (t t' : LState) : Prop where
  size : t.size ≤ t'.size
  obj : ∀ v, v < t.size → t'.obj v = t.obj v
  det : ∀ v, v < t.size → t.detached v = true → t'.detached v = true

theorem Stable.refl (t : LState) : Stable t t := ⟨Nat.le_refl _, fun _ _ => rfl, fun _ _ h => h⟩

theorem Stable.trans {a b c : LState} (h1 : Stable a b) (h2 : Stable b c) : Stable a c :=
  ⟨Nat.le_trans h1.size h2.size,
   fun v hv => (h2.obj v (Nat.lt_of_lt_of_le hv h1.size)).trans (h1.obj v hv),
   fun v hv hd => h2.det v (Nat.lt_of_lt_of_le hv h1.size) (h1.det v hv hd)⟩

theorem stable_of_reg {t t' : LState} (hs : t.size ≤ t'.size) (hr : t'.reg = t.reg)
    (ho : ∀ v, v < t.size → t'.obj v = t.obj v) : Stable t t' := by
  refine ⟨hs, ho, ?_⟩
  intro v hv hd
  unfold LState.detached LState.lookup LState.idOf at hd ⊢
  rw [hr, ho v hv]; exact hd

section
variable (H Hc : Str → Str)

/-- `replace` on a detached node without parent: nothing but the new record changes -/
theorem replace_detached_stable {t t' : LState} {c : Nat} {ch : Changes} {r : Except Err Nat} {fuel : Nat}
    (hpar : t.parent c = none) (hd : t.detached c = true) (h : replace H Hc fuel t c ch = (t', r)) :
    Stable t t' ∧ ∀ x, r = .ok x → x = t.size ∧ t'.size = t.size + 1 := by
  unfold replace at h
  split at h
  · simp only [Prod.mk.injEq] at h; obtain ⟨rfl, rfl⟩ := h; exact ⟨Stable.refl _, fun x hx => by cases hx⟩
  · simp only [hpar, Option.isSome_none, Bool.false_eq_true, if_false, hd, Bool.not_true] at h
    split at h
    · next s3 e hcs =>
      simp only [Prod.mk.injEq] at h
      obtain ⟨rfl, rfl⟩ := h
      obtain ⟨hr, hs, ho, _⟩ := construct_detached_eff H Hc (by simp) hcs
      exact ⟨stable_of_reg (by omega) hr (fun v hv => ho v (by omega)), fun x hx => by cases hx⟩
    · next s3 n hcs =>
      simp only [if_true, Prod.mk.injEq] at h
      obtain ⟨rfl, rfl⟩ := h
      obtain ⟨hr, hs, ho, hn⟩ := construct_detached_eff H Hc (by simp) hcs
      have hn' := hn n rfl
      refine ⟨stable_of_reg (by rw [modify_size]; omega) (by rw [modify_reg]; exact hr) ?_, ?_⟩
      · intro v hv
        rw [modify_obj_ne _ _ _ _ (by omega)]
        exact ho v (by omega)
      · intro x hx; cases hx; exact ⟨hn', by rw [modify_size]; exact hs⟩

theorem new_kidless_stable {t t' : LState} {sp : NewSpec} {out : LOut} (hI : Inv Hc t)
    (hk : sp.fields.flatMap (·.kids) = []) (hwf : (newObj sp).wf) (h : step H Hc t (.new sp) = (t', out)) :
    Stable t t' ∧ ∀ x, out = .node x → x = t.size ∧ t'.size = t.size + 1 := by
  rcases step_cases H Hc t (.new sp) with hb | ⟨_, hs⟩
  · rw [hb] at h; cases h; exact ⟨Stable.refl _, fun x hx => by cases hx⟩
  · rw [hs] at h
    cases hc : construct H Hc (fuelOf t) t sp with
    | mk t1 r1 =>
      simp only [hc] at h
      obtain ⟨rfl, hn⟩ := ofNode_eq h
      obtain ⟨_, hN1, hs1, hn1⟩ := construct_newOnly H Hc hI (NewOnly.refl t) (by rw [hk]; intro c hc; cases hc) hwf hc
      refine ⟨⟨hN1.size, hN1.obj, ?_⟩, fun x hx => ⟨hn1 x (hn x hx), hs1⟩⟩
      -- a node registered afterwards under an old id was registered before: new entries point to new objects
      intro v hv hd
      rw [detached_eq_true_iff] at hd ⊢
      intro ha
      apply hd
      unfold Att at ha ⊢
      have hid : t'.idOf v = t.idOf v := by unfold LState.idOf; rw [hN1.obj v hv]
      rw [hid] at ha
      rcases hN1.fresh _ _ ha with h1 | h1
      · exact h1
      · omega

end

/-! ### the visit of a clone is clone-local -/

/-- the whole subtree of `c` is detached -/
def CloneSub (t : LState) (c : Nat) : Prop := ∀ q, Desc t c q → t.detached q = true

theorem cloneSub_kid {t : LState} {c k : Nat} (h : CloneSub t c) (hk : k ∈ (t.obj c).kidList) : CloneSub t k :=
  fun q hd => h q (Desc.trans_kid hk hd)

section
variable (H Hc : Str → Str)

theorem cloneSub_stable {t t' : LState} (hI : Inv Hc t) (hS : Stable t t') {k : Nat} (hk : k < t.size)
    (h : CloneSub t k) : CloneSub t' k := by
  have key : ∀ q, Desc t' k q → q < t.size ∧ Desc t k q := by
    intro q hd
    induction hd with
    | refl => exact ⟨hk, .refl⟩
    | step _ hkq ih =>
      obtain ⟨h1, h2⟩ := ih
      rw [hS.obj _ h1] at hkq
      exact ⟨hI.closed _ h1 _ hkq, .step h2 hkq⟩
  intro q hd
  obtain ⟨h1, h2⟩ := key q hd
  exact hS.det q h1 (h q h2)

theorem clone_stable {s t t' : LState} (hI : Inv Hc t) (hS : Stable t t') {k : Nat}
    (h : s.size ≤ k ∧ k < t.size ∧ CloneSub t k) : s.size ≤ k ∧ k < t'.size ∧ CloneSub t' k :=
  ⟨h.1, Nat.lt_of_lt_of_le h.2.1 hS.size, cloneSub_stable Hc hI hS h.2.1 h.2.2⟩

theorem localRun_append {s : LState} : ∀ (a b : List LOp) (t : LState),
    LocalRun H Hc s t (a ++ b) ↔ LocalRun H Hc s t a ∧ LocalRun H Hc s (run H Hc t a) b := by
  intro a
  induction a with
  | nil => intro b t; simp [LocalRun, run]
  | cons op r ih =>
    intro b t
    simp only [List.cons_append, LocalRun, run_cons, ih, and_assoc]

theorem localRun_seq {s t s1 : LState} {t1 t2 : List LOp} (hrun : s1 = run H Hc t t1) (hl1 : LocalRun H Hc s t t1)
    (hl2 : LocalRun H Hc s s1 t2) : LocalRun H Hc s t (t1 ++ t2) :=
  (localRun_append H Hc _ _ _).mpr ⟨hl1, hrun ▸ hl2⟩

/-- the state after a traced, clone-local piece of work -/
theorem after_local {α : Type} {s t : LState} {r : TOut α} (hI : Inv Hc t) (hN : NewOnly s t) (htr : Tr H Hc t r)
    (hl : LocalRun H Hc s t r.ops) : Inv Hc r.s ∧ NewOnly s r.s := by
  rw [htr.1]; exact localRun_frameG H Hc _ t hI hN hl

/-- what is shown of `self.transform` on a node of a clone -/
def RecOk (s : LState) (rec : LState → Nat → TOut (Option Nat)) : Prop :=
  ∀ t c, Inv Hc t → NewOnly s t → s.size ≤ c → c < t.size → CloneSub t c →
    LocalRun H Hc s t (rec t c).ops ∧ Stable t (rec t c).s ∧
    ∀ x, (rec t c).res = .ok (some x) → s.size ≤ x ∧ x < (rec t c).s.size

theorem tKids_local {s : LState} (rec : LState → Nat → TOut (Option Nat)) (htr : ∀ t c, Tr H Hc t (rec t c))
    (hrec : RecOk H Hc s rec) : ∀ (ks : List Nat) (t : LState) (r : TOut (List Nat × Bool)), Inv Hc t → NewOnly s t →
      (∀ k ∈ ks, s.size ≤ k ∧ k < t.size ∧ CloneSub t k) → tKids rec t ks = r →
      LocalRun H Hc s t r.ops ∧ Stable t r.s ∧
      ∀ ks' ch, r.res = .ok (ks', ch) → (∀ x ∈ ks', s.size ≤ x ∧ x < r.s.size) ∧ ks'.length ≤ ks.length := by
  intro ks
  induction ks with
  | nil =>
    intro t r _ _ _ h
    simp only [tKids] at h; subst h
    refine ⟨trivial, Stable.refl _, ?_⟩
    intro ks' ch hr; cases hr
    exact ⟨fun x hx => (by cases hx), Nat.le_refl _⟩
  | cons c cs ih =>
    intro t r hI hN hks h
    obtain ⟨hc1, hc2, hc3⟩ := hks c (List.mem_cons_self ..)
    obtain ⟨hl1, hs1, hr1⟩ := hrec t c hI hN hc1 hc2 hc3
    have htr1 := htr t c
    obtain ⟨hI1, hN1⟩ := after_local H Hc hI hN htr1 hl1
    unfold tKids at h
    split at h
    · next s1 t1 e heq =>
      subst h; rw [heq] at hl1 hs1
      exact ⟨hl1, hs1, fun ks' ch hr => by cases hr⟩
    · next s1 t1 rr heq =>
      rw [heq] at hl1 hs1 hr1 htr1 hI1 hN1
      simp only at hl1 hs1 hr1 hI1 hN1
      obtain ⟨hl2, hs2, hr2⟩ := ih s1 _ hI1 hN1
        (fun k hk => clone_stable Hc hI hs1 (hks k (List.mem_cons_of_mem _ hk))) rfl
      split at h
      · next s2 t2 e heq2 =>
        subst h; rw [heq2] at hl2 hs2
        refine ⟨localRun_seq H Hc htr1.1 hl1 hl2, hs1.trans hs2, ?_⟩
        intro ks' ch hr; cases hr
      · next s2 t2 ks2 ch2 heq2 =>
        rw [heq2] at hl2 hs2 hr2
        simp only at hl2 hs2 hr2
        obtain ⟨hx2, hlen2⟩ := hr2 ks2 ch2 rfl
        have hloc : LocalRun H Hc s t (t1 ++ t2) := localRun_seq H Hc htr1.1 hl1 hl2
        split at h
        · subst h
          refine ⟨hloc, hs1.trans hs2, ?_⟩
          intro ks' ch hr
          simp only [Except.ok.injEq, Prod.mk.injEq] at hr
          obtain ⟨rfl, _⟩ := hr
          exact ⟨hx2, by simp only [List.length_cons]; omega⟩
        · next c' =>
          subst h
          refine ⟨hloc, hs1.trans hs2, ?_⟩
          intro ks' ch hr
          simp only [Except.ok.injEq, Prod.mk.injEq] at hr
          obtain ⟨rfl, _⟩ := hr
          refine ⟨?_, by simp only [List.length_cons]; omega⟩
          intro x hx
          rcases List.mem_cons.mp hx with rfl | hx
          · have := hr1 x rfl
            exact ⟨this.1, Nat.lt_of_lt_of_le this.2 hs2.size⟩
          · exact hx2 x hx

theorem tFields_local {s : LState} (rec : LState → Nat → TOut (Option Nat)) (htr : ∀ t c, Tr H Hc t (rec t c))
    (hrec : RecOk H Hc s rec) : ∀ (fs : List LField) (t : LState) (r : TOut (List (Str × List Nat))), Inv Hc t →
      NewOnly s t → (∀ k ∈ fs.flatMap (·.kids), s.size ≤ k ∧ k < t.size ∧ CloneSub t k) → tFields rec t fs = r →
      LocalRun H Hc s t r.ops ∧ Stable t r.s ∧
      ∀ chs, r.res = .ok chs → ∀ e ∈ chs, (∀ x ∈ e.2, s.size ≤ x ∧ x < r.s.size) ∧
        ∃ f ∈ fs, f.name = e.1 ∧ e.2.length ≤ f.kids.length := by
  intro fs
  induction fs with
  | nil =>
    intro t r _ _ _ h
    simp only [tFields] at h; subst h
    refine ⟨trivial, Stable.refl _, ?_⟩
    intro chs hr; cases hr
    intro e he; cases he
  | cons f fr ih =>
    intro t r hI hN hks h
    have hkf : ∀ k ∈ f.kids, s.size ≤ k ∧ k < t.size ∧ CloneSub t k :=
      fun k hk => hks k (by simp only [List.flatMap_cons]; exact List.mem_append_left _ hk)
    obtain ⟨hl1, hs1, hr1⟩ := tKids_local H Hc rec htr hrec f.kids t _ hI hN hkf rfl
    have htr1 := tKids_tr H Hc rec htr f.kids t
    obtain ⟨hI1, hN1⟩ := after_local H Hc hI hN htr1 hl1
    unfold tFields at h
    split at h
    · next s1 t1 e heq =>
      subst h; rw [heq] at hl1 hs1
      exact ⟨hl1, hs1, fun chs hr => by cases hr⟩
    · next s1 t1 ks ch heq =>
      rw [heq] at hl1 hs1 hr1 htr1 hI1 hN1
      simp only at hl1 hs1 hr1 hI1 hN1
      obtain ⟨hx1, hlen1⟩ := hr1 ks ch rfl
      obtain ⟨hl2, hs2, hr2⟩ := ih s1 _ hI1 hN1 (fun k hk => clone_stable Hc hI hs1
        (hks k (by simp only [List.flatMap_cons]; exact List.mem_append_right _ hk))) rfl
      split at h
      · next s2 t2 e heq2 =>
        subst h; rw [heq2] at hl2 hs2
        refine ⟨localRun_seq H Hc htr1.1 hl1 hl2, hs1.trans hs2, ?_⟩
        intro chs hr; cases hr
      · next s2 t2 chs2 heq2 =>
        rw [heq2] at hl2 hs2 hr2
        simp only at hl2 hs2 hr2
        have h2 := hr2 chs2 rfl
        subst h
        refine ⟨localRun_seq H Hc htr1.1 hl1 hl2, hs1.trans hs2, ?_⟩
        intro chs hr
        simp only [Except.ok.injEq] at hr
        subst hr
        intro e he
        have hrest : e ∈ chs2 → (∀ x ∈ e.2, s.size ≤ x ∧ x < s2.size) ∧
            ∃ f' ∈ f :: fr, f'.name = e.1 ∧ e.2.length ≤ f'.kids.length := by
          intro he2
          obtain ⟨a, f', hf', b⟩ := h2 e he2
          exact ⟨a, f', List.mem_cons_of_mem _ hf', b⟩
        split at he
        · rcases List.mem_cons.mp he with rfl | he2
          · exact ⟨fun x hx => ⟨(hx1 x hx).1, Nat.lt_of_lt_of_le (hx1 x hx).2 hs2.size⟩,
              f, List.mem_cons_self .., rfl, hlen1⟩
          · exact hrest he2
        · exact hrest he

/-- the nodes a callback makes are constructor calls without children (what the harness' rule interpreters do) -/
def actOk : Act → Prop
  | .make sp => sp.fields.flatMap (·.kids) = [] ∧ (newObj sp).wf
  | _ => True

instance (a : Act) : Decidable (actOk a) := by cases a <;> unfold actOk <;> infer_instance

def RulesOk (rules : List Rule) : Prop := ∀ r ∈ rules, actOk r.act

instance (rules : List Rule) : Decidable (RulesOk rules) := by unfold RulesOk; infer_instance

theorem ruleOf_mem {rules : List Rule} {o : LObj} {a : Act} (h : ruleOf rules o = some a) : ∃ r ∈ rules, r.act = a := by
  unfold ruleOf at h
  split at h
  · next r hf => exact ⟨r, List.mem_of_find?_eq_some hf, by simpa using h⟩
  · cases h

/-- the changes `_transform_children` produces fit the node they were computed from -/
theorem wfFor_of {o : LObj} (ho : o.wf) {chs : List (Str × List Nat)} {ps : List LProp}
    (h : ∀ e ∈ chs, ∃ f ∈ o.fields, f.name = e.1 ∧ e.2.length ≤ f.kids.length) :
    (⟨ps, chs, false⟩ : Changes).wfFor o := by
  unfold Changes.wfFor applyFields
  intro f hf
  obtain ⟨f0, hf0, rfl⟩ := List.mem_map.mp hf
  split
  · next nm ks hfind =>
    have hm := List.mem_of_find?_eq_some hfind
    have hp := List.find?_some hfind
    simp only [decide_eq_true_eq] at hp
    obtain ⟨f1, hf1, hn1, hlen⟩ := h (nm, ks) hm
    have : f1 = f0 := eq_of_nodup_map LField.name o.fields ho.1 f1 hf1 f0 hf0 (by rw [hn1]; exact hp)
    subst this
    rcases ho.2 f1 hf1 with h1 | h1
    · exact .inl h1
    · exact .inr (by simp only at hlen ⊢; omega)
  · exact ho.2 f0 hf0

theorem primNode_facts (s : LState) (op : LOp) : (primNode H Hc s op).ops = [op] ∧
    (primNode H Hc s op).s = (step H Hc s op).1 ∧
    ∀ x, (primNode H Hc s op).res = .ok x → ∃ n, x = some n ∧ (step H Hc s op).2 = .node n := by
  unfold primNode
  split
  · next s1 n h => rw [h]; exact ⟨rfl, rfl, fun x hx => by cases hx; exact ⟨n, rfl, rfl⟩⟩
  · next s1 e h => rw [h]; exact ⟨rfl, rfl, fun x hx => by cases hx⟩
  · next s1 o _ _ h => rw [h]; exact ⟨rfl, rfl, fun x hx => by cases hx⟩

theorem step_replace_stable {t t' : LState} {c : Nat} {ch : Changes} {out : LOut}
    (hpar : t.parent c = none) (hd : t.detached c = true) (h : step H Hc t (.replace c ch) = (t', out)) :
    Stable t t' ∧ ∀ x, out = .node x → x = t.size ∧ t'.size = t.size + 1 := by
  rcases step_cases H Hc t (.replace c ch) with hb | ⟨_, hs⟩
  · rw [hb] at h; cases h; exact ⟨Stable.refl _, fun x hx => by cases hx⟩
  · rw [hs] at h
    cases hc : replace H Hc (fuelOf t) t c ch with
    | mk t1 r1 =>
      simp only [hc] at h
      obtain ⟨rfl, hn⟩ := ofNode_eq h
      obtain ⟨hst, hx⟩ := replace_detached_stable H Hc hpar hd hc
      exact ⟨hst, fun x hx' => hx x (hn x hx')⟩

/-- `node.replace(**changes)` after `_transform_children`, on a node of the clone -/
theorem replace_step_local {s t s1 : LState} {c : Nat} {ps : List LProp} {chs : List (Str × List Nat)} {t1 : List LOp}
    (hI1 : Inv Hc s1) (hrun : s1 = run H Hc t t1) (hl1 : LocalRun H Hc s t t1) (hs1 : Stable t s1)
    (hc1 : s.size ≤ c) (hc2 : c < t.size) (hdet : t.detached c = true) (hwf : (t.obj c).wf)
    (hch : ∀ e ∈ chs, (∀ x ∈ e.2, s.size ≤ x ∧ x < s1.size) ∧
      ∃ f ∈ (t.obj c).fields, f.name = e.1 ∧ e.2.length ≤ f.kids.length)
    (r : TOut (Option Nat)) (hr : (primNode H Hc s1 (.replace c ⟨ps, chs, false⟩)).after t1 = r) :
    LocalRun H Hc s t r.ops ∧ Stable t r.s ∧ ∀ x, r.res = .ok (some x) → s.size ≤ x ∧ x < r.s.size := by
  obtain ⟨ho, hs, hres⟩ := primNode_facts H Hc s1 (.replace c ⟨ps, chs, false⟩)
  have hd1 : s1.detached c = true := hs1.det c hc2 hdet
  have hpar1 : s1.parent c = none := parent_of_pid_none (hI1.pid_none ((detached_eq_true_iff _ _).mp hd1))
  cases hstep : step H Hc s1 (.replace c ⟨ps, chs, false⟩) with
  | mk t2 o2 =>
    rw [hstep] at hs hres
    simp only at hs hres
    obtain ⟨hst, hn⟩ := step_replace_stable H Hc hpar1 hd1 hstep
    have hloc : LocalOp s s1 (.replace c ⟨ps, chs, false⟩) := by
      refine ⟨hc1, Nat.lt_of_lt_of_le hc2 hs1.size, hd1, ?_, ?_⟩
      · intro k hk
        obtain ⟨e, he, hke⟩ := List.mem_flatMap.mp hk
        exact (hch e he).1 k hke
      · rw [hs1.obj c hc2]
        exact wfFor_of hwf (fun e he => (hch e he).2)
    subst hr
    refine ⟨?_, ?_, ?_⟩
    · show LocalRun H Hc s t (t1 ++ (primNode H Hc s1 (.replace c ⟨ps, chs, false⟩)).ops)
      rw [ho, localRun_append, ← hrun]
      exact ⟨hl1, hloc, trivial⟩
    · show Stable t (primNode H Hc s1 (.replace c ⟨ps, chs, false⟩)).s
      rw [hs]; exact hs1.trans hst
    · intro x hx
      change (primNode H Hc s1 (.replace c ⟨ps, chs, false⟩)).res = .ok (some x) at hx
      obtain ⟨n, hn1, hn2⟩ := hres _ hx
      cases hn1
      obtain ⟨h1, h2⟩ := hn x hn2
      show s.size ≤ x ∧ x < (primNode H Hc s1 (.replace c ⟨ps, chs, false⟩)).s.size
      rw [hs, h2, h1]
      have := hs1.size
      omega

/-- the visitor's `generic_visit` (rule table, then the library's own) on a node of the clone -/
theorem visitBody_local {s : LState} {rules : List Rule} (hrules : RulesOk rules)
    (rec : LState → Nat → TOut (Option Nat)) (htr : ∀ t c, Tr H Hc t (rec t c)) (hrec : RecOk H Hc s rec) :
    RecOk H Hc s (visitBody H Hc rules rec) := by
  intro t c hI hN hc1 hc2 hsub
  obtain ⟨hl1, hs1, hr1⟩ := tFields_local H Hc rec htr hrec (t.obj c).fields t _ hI hN
    (fun k hk => ⟨hN.closed c hc1 hc2 k hk, hI.closed c hc2 k hk, cloneSub_kid hsub hk⟩) rfl
  have htr1 := tFields_tr H Hc rec htr (t.obj c).fields t
  have hI1 := (after_local H Hc hI hN htr1 hl1).1
  have hdet : t.detached c = true := hsub c .refl
  generalize hr : visitBody H Hc rules rec t c = r
  unfold visitBody at hr
  split at hr
  · subst hr; exact ⟨trivial, Stable.refl _, fun x hx => by cases hx⟩
  · subst hr; exact ⟨trivial, Stable.refl _, fun x hx => by cases hx⟩
  · next sp hrule =>
    obtain ⟨rl, hrl, hact⟩ := ruleOf_mem hrule
    have hok := hrules rl hrl
    rw [hact] at hok
    obtain ⟨hk, hwf⟩ := hok
    obtain ⟨ho, hs, hres⟩ := primNode_facts H Hc t (.new sp)
    cases hstep : step H Hc t (.new sp) with
    | mk t2 o2 =>
      rw [hstep] at hs hres
      simp only at hs hres
      obtain ⟨hst, hn⟩ := new_kidless_stable H Hc hI hk hwf hstep
      subst hr
      refine ⟨?_, ?_, ?_⟩
      · rw [ho]; exact ⟨⟨(by rw [hk]; intro x hx; cases hx), hwf⟩, trivial⟩
      · rw [hs]; exact hst
      · intro x hx
        obtain ⟨n, hn1, hn2⟩ := hres _ hx
        cases hn1
        obtain ⟨h1, h2⟩ := hn x hn2
        rw [hs, h2, h1]
        have := hN.size
        omega
  · next ps hrule =>
    split at hr
    · next s1 t1 e heq =>
      subst hr; rw [heq] at hl1 hs1
      exact ⟨hl1, hs1, fun x hx => by cases hx⟩
    · next s1 t1 chs heq =>
      rw [heq] at hl1 hs1 hr1 htr1 hI1
      exact replace_step_local H Hc hI1 htr1.1 hl1 hs1 hc1 hc2 hdet (hI.wf c) (hr1 chs rfl) r hr
  · next hrule =>
    split at hr
    · next s1 t1 e heq =>
      subst hr; rw [heq] at hl1 hs1
      exact ⟨hl1, hs1, fun x hx => by cases hx⟩
    · next s1 t1 chs heq =>
      rw [heq] at hl1 hs1 hr1 htr1 hI1
      split at hr
      · subst hr
        refine ⟨hl1, hs1, ?_⟩
        intro x hx
        simp only [Except.ok.injEq, Option.some.injEq] at hx
        subst hx
        exact ⟨hc1, Nat.lt_of_lt_of_le hc2 hs1.size⟩
      · exact replace_step_local H Hc hI1 htr1.1 hl1 hs1 hc1 hc2 hdet (hI.wf c) (hr1 chs rfl) r hr

/-- `transform` on a node of the clone: never a second clone, never a `replace_with` -/
theorem visitGo_local {s : LState} {rules : List Rule} (hrules : RulesOk rules) :
    ∀ fuel, RecOk H Hc s (visitGo H Hc rules fuel) := by
  intro fuel
  induction fuel with
  | zero =>
    intro t c _ _ _ _ _
    exact ⟨trivial, Stable.refl _, fun x hx => by cases hx⟩
  | succ fuel ih =>
    intro t c hI hN hc1 hc2 hsub
    have hb := visitBody_local H Hc hrules (visitGo H Hc rules fuel) (visitGo_tr H Hc rules fuel) ih t c hI hN hc1 hc2 hsub
    unfold visitGo
    rw [if_pos (hsub c .refl)]
    split
    · next s1 t1 e heq => rw [heq] at hb; exact ⟨hb.1, hb.2.1, fun x hx => by cases hx⟩
    · next s1 t1 r heq => rw [heq] at hb; exact hb

/-- `transform` of an ATTACHED receiver that is rejected while its clone is being visited (before the
one and only `replace_with`): every pre-existing record and registry entry is untouched, every additional
entry belongs to a temporary of the call, and the invariant still holds — for all states, receivers and rule
tables (whose made nodes are plain constructor calls).  `hreg`: `duplicate(as_detached_clone=True)` registers
nothing (`step_dup_clone_reg` below; `fail_frame_tvisit_in_visit` is this theorem without the hypothesis). -/
theorem tvisit_fail_in_visit_frame {rules : List Rule} {s s1 : LState} {u n : Nat} {e : Err} (hI : Inv Hc s)
    (hrules : RulesOk rules) (hatt : s.detached u = false) (hd : step H Hc s (.dup u true) = (s1, .node n))
    (hreg : s1.reg = s.reg)
    (hfail : (visitBody H Hc rules (visitGo H Hc rules s.size) s1 n).res = .error e) :
    (tvisit H Hc rules s u).res = .error (inTry e) ∧
    Inv Hc (tvisit H Hc rules s u).s ∧ FrameG s (tvisit H Hc rules s u).s := by
  have hu : u < s.size := by
    have := (detached_eq_false_iff _ _).mp hatt
    exact (hI.regSound _ _ this).1
  have hdl : LocalOp s s (.dup u true) := ⟨rfl, hu⟩
  obtain ⟨hI1, hN1⟩ := local_step H Hc hI (NewOnly.refl s) hdl hd
  have hn : s.size ≤ n ∧ n < s1.size := by
    rcases step_cases H Hc s (.dup u true) with hb | ⟨_, hs⟩
    · rw [hb] at hd; cases hd
    · rw [hs] at hd
      obtain ⟨rfl, hr⟩ := ofNode_eq hd
      exact (duplicate_all H Hc _ _ _ s u _ _ hI (NewOnly.refl s) hu (Prod.ext rfl rfl)).2 n (hr n rfl)
  have hnew_det : ∀ q, s.size ≤ q → s1.detached q = true := by
    intro q hq
    rw [detached_eq_true_iff]
    intro ha
    unfold Att LState.lookup at ha
    rw [hreg] at ha
    have := (hI.regSound _ _ ha).1
    omega
  have hsub : CloneSub s1 n := by
    have key : ∀ q, Desc s1 n q → s.size ≤ q ∧ q < s1.size := by
      intro q hq
      induction hq with
      | refl => exact hn
      | step _ hkq ih => exact ⟨hN1.closed _ ih.1 ih.2 _ hkq, hI1.closed _ ih.2 _ hkq⟩
    intro q hq
    exact hnew_det q (key q hq).1
  have hb := visitBody_local H Hc hrules (visitGo H Hc rules s.size) (visitGo_tr H Hc rules s.size)
    (visitGo_local H Hc hrules s.size) s1 n hI1 hN1 hn.1 hn.2 hsub
  have htrb := visitBody_tr H Hc rules (visitGo H Hc rules s.size) (visitGo_tr H Hc rules s.size) s1 n
  obtain ⟨hI2, hN2⟩ := after_local H Hc hI1 hN1 htrb hb.1
  have h1 : primNode H Hc s (.dup u true) = ⟨s1, [.dup u true], .ok (some n)⟩ := by
    unfold primNode; rw [hd]
  have hres : tvisit H Hc rules s u =
      ⟨(visitBody H Hc rules (visitGo H Hc rules s.size) s1 n).s,
       [.dup u true] ++ (visitBody H Hc rules (visitGo H Hc rules s.size) s1 n).ops, .error (inTry e)⟩ := by
    unfold tvisit fuelOf visitGo
    rw [if_neg (by simp [hatt]), h1]
    simp only
    cases hvb : visitBody H Hc rules (visitGo H Hc rules s.size) s1 n with
    | mk s2 t2 r2 =>
      rw [hvb] at hfail
      simp only at hfail
      subst hfail
      rfl
  rw [hres]
  exact ⟨rfl, hI2, frameG_of_newOnly hN2⟩

theorem step_dup_clone_stable {s s1 : LState} {u : Nat} {out : LOut} (hI : Inv Hc s)
    (h : step H Hc s (.dup u true) = (s1, out)) : Stable s s1 := by
  by_cases hu : u < s.size
  · have hN := (local_step H Hc hI (NewOnly.refl s) (op := .dup u true) ⟨rfl, hu⟩ h).2
    exact stable_of_reg hN.size (step_dup_clone_reg H Hc h) hN.obj
  · rcases step_cases H Hc s (.dup u true) with hb | ⟨hlt, _⟩
    · rw [hb] at h; cases h; exact Stable.refl _
    · exact absurd (hlt u (List.mem_singleton.mpr rfl)) hu

/-- without the side hypothesis: `transform` of an attached receiver rejected during the visit of its
clone satisfies the frame (modulo the call's temporaries) and keeps the invariant -/
theorem fail_frame_tvisit_in_visit {rules : List Rule} {s s1 : LState} {u n : Nat} {e : Err} (hI : Inv Hc s)
    (hrules : RulesOk rules) (hatt : s.detached u = false) (hd : step H Hc s (.dup u true) = (s1, .node n))
    (hfail : (visitBody H Hc rules (visitGo H Hc rules s.size) s1 n).res = .error e) :
    (tvisit H Hc rules s u).res = .error (inTry e) ∧
    Inv Hc (tvisit H Hc rules s u).s ∧ FrameG s (tvisit H Hc rules s u).s :=
  tvisit_fail_in_visit_frame H Hc hI hrules hatt hd (step_dup_clone_reg H Hc hd) hfail

/-- … and it is the plain `C19.Frame` when no callback made an attached node (the registry is literally the same) -/
theorem fail_frame_tvisit_in_visit_exact {rules : List Rule} {s s1 : LState} {u n : Nat} {e : Err} (hI : Inv Hc s)
    (hrules : RulesOk rules) (hatt : s.detached u = false) (hd : step H Hc s (.dup u true) = (s1, .node n))
    (hfail : (visitBody H Hc rules (visitGo H Hc rules s.size) s1 n).res = .error e)
    (hr : (tvisit H Hc rules s u).s.reg = s.reg) : Frame s (tvisit H Hc rules s u).s :=
  (fail_frame_tvisit_in_visit H Hc hI hrules hatt hd hfail).2.2.frame_of_reg hr

end

/-! ### non-vacuity -/
section examples
open PyOak.Legacy.Ex PyOak.Legacy.C18T

/-- results are compared by evaluation in the examples -/
@[reducible] def decEqRes : DecidableEq (Except Err (Option Nat))
  | .ok a, .ok b => if h : a = b then isTrue (by rw [h]) else isFalse (fun h' => h (by cases h'; rfl))
  | .error a, .error b => if h : a = b then isTrue (by rw [h]) else isFalse (fun h' => h (by cases h'; rfl))
  | .ok _, .error _ => isFalse (fun h => by cases h)
  | .error _, .ok _ => isFalse (fun h => by cases h)
attribute [local instance] decEqRes

-- the attached tuple of histK (objects 0, 1 under 2); rulesKD: leaf 1 → v = 7 on the clone, leaf 2 → the callback raises
private theorem rulesOk_KD : RulesOk rulesKD := by decide

private theorem att_K2 : (st histK).detached 2 = false := by decide +kernel

private theorem dup_K2 : step id id (st histK) (.dup 2 true) = ((step id id (st histK) (.dup 2 true)).1, .node 5) :=
  Prod.ext rfl (by decide)

private theorem tvisit_KD : (tvisit id id rulesKD (st histK) 2).res = .error .transformError ∧
    Inv id (tvisit id id rulesKD (st histK) 2).s ∧ FrameG (st histK) (tvisit id id rulesKD (st histK) 2).s :=
  fail_frame_tvisit_in_visit id id (e := .transformError) inv_histK rulesOk_KD att_K2 dup_K2 (by decide +kernel)

example : RulesOk rulesKD := rulesOk_KD
example : RulesOk rulesK := by decide
example : Inv id (tvisit id id rulesKD (st histK) 2).s ∧ FrameG (st histK) (tvisit id id rulesKD (st histK) 2).s :=
  tvisit_KD.2
example : (tvisit id id rulesKD (st histK) 2).res = .error .transformError := tvisit_KD.1
example : Frame (st histK) (tvisit id id rulesKD (st histK) 2).s := tvisit_KD.2.2.frame_of_reg (by decide +kernel)
example : (step id id (st histK) (.dup 2 true)).1.reg = (st histK).reg := step_dup_clone_reg id id dup_K2
-- the callback raises on the receiver itself (the rule matches the clone of the tuple): inner error = the callback's
example : FrameG (st histK) (tvisit id id [⟨"T".toList, none, .raise⟩] (st histK) 2).s :=
  (fail_frame_tvisit_in_visit id id (rules := [⟨"T".toList, none, .raise⟩]) (e := .internal)
    inv_histK (by decide +kernel) att_K2 dup_K2 (by decide +kernel)).2.2
example := visitGo_local id id (s := st histK) (rules := rulesKD) rulesOk_KD 4
example : Stable (st histK) (step id id (st histK) (.dup 2 true)).1 :=
  step_dup_clone_stable id id inv_histK dup_K2

end examples

end PyOak.Legacy.C19T
