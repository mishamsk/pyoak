/-
C08: the inductive relation `Matches` (Spec/PatternRel.lean, one rule per clause of the property text)
is equivalent to the functional specification `specPat` (Spec/Pattern.lean), hence — through
`C08.run_eq_spec` — to the matcher graph the interpreter builds:

 * `matches_iff`       : `specPat S p v ctx = .ok (some caps) ↔ Matches S p v ctx caps`  (no hypothesis);
 * `matches_unique`    : the captures of a match are determined;
 * `no_match_iff`      : where the specification raises no definition error, `.ok none ↔ ¬ ∃ caps, Matches …`;
 * `match_iff_matches` : **`matcher.match(node)` succeeds with `caps` exactly when `Matches p node {} caps`**,
 * `nomatch_iff_matches`: **and returns `(False, {})` exactly when no derivation exists** — for every
                          pattern the interpreter accepts (no unbound variable: `C08.no_unbound`).
-/
import PyOak.Props.C08
import PyOak.Spec.PatternRel
namespace PyOak
namespace C08
open PM

mutual
theorem pat_rel (S : Sem) : ∀ (p : Pat) (v : MVal) (ctx caps : Ctx),
    specPat S p v ctx = .ok (some caps) ↔ Matches S p v ctx caps
  | .mk cls fields => fun v ctx caps => by
    constructor
    · intro h
      obtain ⟨n, rfl, hc, hf⟩ := specPat_some h
      exact .tree hc ((fields_rel S fields n ctx caps).1 hf)
    · rintro ⟨hc, hf⟩
      simp only [specPat, hc, if_true]
      exact (fields_rel S fields _ ctx caps).2 hf
theorem fields_rel (S : Sem) : ∀ (fs : Fields) (n : Node) (ctx caps : Ctx),
    specFields S fs n ctx = .ok (some caps) ↔ MatchesFields S fs n ctx caps
  | .nil => fun n ctx caps => ⟨fun h => by cases h; exact .nil, fun h => by cases h; rfl⟩
  | .cons f spec cap rest => fun n ctx caps => by
    constructor
    · intro h
      obtain ⟨fv, c0, c2, hg, h0, h2, rfl⟩ := specFields_cons_some h
      exact .cons hg ((fspec_rel S spec fv ctx c0).1 h0) ((fields_rel S rest n _ c2).1 h2)
    · intro h
      cases h with
      | cons hg h0 h2 => simp only [specFields, hg, (fspec_rel S spec _ ctx _).2 h0, (fields_rel S rest n _ _).2 h2]
theorem fspec_rel (S : Sem) : ∀ (spec : FSpec) (v : MVal) (ctx caps : Ctx),
    specFSpec S spec v ctx = .ok (some caps) ↔ MatchesFSpec S spec v ctx caps
  | .any => fun v ctx caps => ⟨fun h => by cases h; exact .any, fun h => by cases h; rfl⟩
  | .val pv => fun v ctx caps =>
    ⟨fun h => .val ((val_rel S pv v ctx caps).1 h), fun h => by cases h with | val hv => exact (val_rel S pv v ctx caps).2 hv⟩
  | .seq items none => fun v ctx caps => by
    constructor
    · intro h
      obtain ⟨xs, rfl, hl, hi⟩ := specFSpec_seqExact_some h
      exact .seqExact hl ((items_rel S items xs ctx caps).1 hi)
    · intro h
      cases h with
      | seqExact hl hi =>
        simp only [specFSpec, hl, if_true]
        exact (items_rel S items _ ctx caps).2 hi
  | .seq items (some t) => fun v ctx caps => by
    constructor
    · intro h
      obtain ⟨xs, c, rfl, hl, hi, rfl⟩ := specFSpec_seqTail_some h
      exact .seqTail hl ((items_rel S items xs ctx c).1 hi)
    · intro h
      cases h with
      | seqTail hl hi => simp only [specFSpec, hl, if_true, (items_rel S items _ ctx _).2 hi]
theorem items_rel (S : Sem) : ∀ (items : Items) (xs : List MVal) (ctx caps : Ctx),
    specItems S items xs ctx = .ok (some caps) ↔ MatchesItems S items xs ctx caps
  | .nil => fun xs ctx caps => ⟨fun h => by cases h; exact .nil, fun h => by cases h; rfl⟩
  | .cons pv cap rest => fun ys ctx caps => by
    constructor
    · intro h
      obtain ⟨x, xs, c0, c2, rfl, h0, h2, rfl⟩ := specItems_cons_some h
      exact .cons ((val_rel S pv x ctx c0).1 h0) ((items_rel S rest xs _ c2).1 h2)
    · intro h
      cases h with
      | cons h0 h2 => simp only [specItems, (val_rel S pv _ ctx _).2 h0, (items_rel S rest _ _ _).2 h2]
theorem val_rel (S : Sem) : ∀ (pv : PVal) (v : MVal) (ctx caps : Ctx),
    specVal S pv v ctx = .ok (some caps) ↔ MatchesVal S pv v ctx caps
  | .tree p => fun v ctx caps =>
    ⟨fun h => .tree ((pat_rel S p v ctx caps).1 h), fun h => by cases h with | tree hp => exact (pat_rel S p v ctx caps).2 hp⟩
  | .var x => fun v ctx caps => by
    constructor
    · intro h
      obtain ⟨cv, hl, he, rfl⟩ := specVal_var_some h
      exact .var hl he
    · intro h
      cases h with
      | var hl he => simp only [specVal, hl, he, if_true]
  | .none => fun v ctx caps => by
    constructor
    · intro h
      obtain ⟨he, rfl⟩ := test_some h
      exact .none he
    · intro h
      cases h with
      | none he => simp only [specVal, he, if_true]
  | .re s => fun v ctx caps => by
    constructor
    · intro h
      obtain ⟨he, rfl⟩ := test_some h
      exact .re he
    · intro h
      cases h with
      | re he => simp only [specVal, he, if_true]
end

theorem matches_iff (S : Sem) (p : Pat) (v : MVal) (ctx caps : Ctx) :
    specPat S p v ctx = .ok (some caps) ↔ Matches S p v ctx caps := pat_rel S p v ctx caps

theorem matches_unique (S : Sem) (p : Pat) (v : MVal) (ctx c1 c2 : Ctx)
    (h1 : Matches S p v ctx c1) (h2 : Matches S p v ctx c2) : c1 = c2 := by
  have e1 := (matches_iff S p v ctx c1).2 h1
  have e2 := (matches_iff S p v ctx c2).2 h2
  rw [e1] at e2
  injection e2 with e2; injection e2

theorem no_match_iff (S : Sem) (p : Pat) (v : MVal) (ctx : Ctx) (r : Option Ctx)
    (h : specPat S p v ctx = .ok r) : r = none ↔ ¬ ∃ caps, Matches S p v ctx caps := by
  constructor
  · rintro rfl ⟨caps, hm⟩
    have := (matches_iff S p v ctx caps).2 hm
    rw [h] at this; injection this with this; cases this
  · intro hn
    cases r with
    | none => rfl
    | some caps => exact absurd ⟨caps, (matches_iff S p v ctx caps).1 h⟩ hn

/-- **`matcher.match(node) = (True, caps)` exactly when the pattern `Matches` the node with `caps`** -/
theorem match_iff_matches (K : CEnv) (S : Sem) (p : Pat) (m : Matcher) (h : compile K p = .ok m) (n : Node) (caps : Ctx) :
    matchNode S m n = .ok (true, caps) ↔ Matches S p (.node n) [] caps := by
  rw [match_iff K S p m h n caps, specMatch, matches_iff]

/-- **`matcher.match(node) = (False, {})` exactly when no derivation exists**; and these are the only two
outcomes (no definition error at match time) -/
theorem nomatch_iff_matches (K : CEnv) (S : Sem) (p : Pat) (m : Matcher) (h : compile K p = .ok m) (n : Node) :
    (matchNode S m n = .ok (false, []) ↔ ¬ ∃ caps, Matches S p (.node n) [] caps)
    ∧ ((∃ caps, matchNode S m n = .ok (true, caps)) ∨ matchNode S m n = .ok (false, [])) := by
  obtain ⟨r, hr, hm⟩ := no_unbound K S p m h n
  have hiff := no_match_iff S p (.node n) [] r hr
  cases r with
  | none =>
    refine ⟨⟨fun _ => hiff.1 rfl, fun _ => hm⟩, Or.inr hm⟩
  | some caps =>
    refine ⟨⟨fun hf => ?_, fun hn => ?_⟩, Or.inl ⟨caps, hm⟩⟩
    · rw [hm] at hf; simp [specRes] at hf
    · exact absurd (hiff.2 hn) (by simp)

section Examples
-- `(T @i=[*] -> c)` against `T(i=(L1, L2))`: a derivation, built rule by rule
example : Matches exS exP8 (.node (exTup [exLeaf 1, exLeaf 2])) []
    [(['c'], .tup [.node (exLeaf 1), .node (exLeaf 2)])] :=
  .tree (by decide)
    (.cons (fv := .tup [.node (exLeaf 1), .node (exLeaf 2)]) (c0 := []) (c2 := []) (by rfl)
      (.seqTail (c := []) (by decide) .nil) .nil)
-- `(T @i=[(L) (L) *])` does not match `T(i=(L1,))`: no derivation
example : ¬ ∃ caps, Matches exS exP7 (.node (exTup [exLeaf 1])) [] caps :=
  (no_match_iff exS exP7 _ [] none (by rfl)).1 rfl
end Examples

end C08
end PyOak
