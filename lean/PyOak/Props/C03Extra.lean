/-
C03 — lookups and `detach` (cf. AUDIT.md C03 §4):

* `lookup_complete` — the positive direction of the lookup clause: every live, not detached node
  is returned under its id by `get_any`, by `get` for its own class (strict) and for every class
  of its mro (non-strict); `lookup_only_own_class` — and for no other class;
  `lookup_unique` — nothing else is returned under that id.
* `registered_ids_distinct`, `live_ids_distinct` — ids of simultaneously registered (resp. live,
  not detached) nodes are pairwise different.
* `detach_unregisters` — after `x.detach()` neither `x` nor any of its (computed) descendants is
  returned under its id (`get_any`, `get` strict / non-strict).  The descendants are those computed
  by the model's `descendants` with fuel `heap.length + 1`, which finds every node below `x` when the heap is
  well-founded (`RegOrd.descendants_complete`).  It is the case `k := idOf c` of `C10X.detach_unregisters`.
-/
import PyOak.Props.C03
namespace PyOak
namespace C03
open RState RegL

theorem regGet_of_live {s : RState} (hI : Inv s) (hL : LiveRegistered s) {o : RObj} (ho : o ∈ s.heap)
    (hl : s.isLive o.uid = true) (hd : o.uid ∉ s.detached) : s.regGet o.id = some o.uid :=
  rget_of_mem hI.keysNodup (hL o ho hl hd)

/-- every live, not detached node is returned (the identical object) by `get_any(id)`, by
`Cls.get(id)` for its own class and by `Cls.get(id, strict=False)` for every class of its mro -/
theorem lookup_complete {s : RState} (hI : Inv s) (hL : LiveRegistered s) {o : RObj} (ho : o ∈ s.heap)
    (hl : s.isLive o.uid = true) (hd : o.uid ∉ s.detached) :
    s.getAny o.id = some o.uid ∧ s.get o.cls o.id true = some o.uid ∧
    ∀ c ∈ o.mro, s.get c o.id false = some o.uid := by
  have hg := regGet_of_live hI hL ho hl hd
  have hobj := obj?_of_mem hI.heapNodup ho
  refine ⟨hg, ?_, ?_⟩
  · simp [RState.get, hg, hobj]
  · intro c hc
    simp [RState.get, hg, hobj, hc]

/-- a live, not detached node is returned by `get` for no other class: strict lookups under another
class name, and non-strict lookups under a class outside the mro, answer nothing -/
theorem lookup_only_own_class {s : RState} (hI : Inv s) (hL : LiveRegistered s) {o : RObj} (ho : o ∈ s.heap)
    (hl : s.isLive o.uid = true) (hd : o.uid ∉ s.detached) (c : Str) :
    (c ≠ o.cls → s.get c o.id true = none) ∧ (c ∉ o.mro → s.get c o.id false = none) := by
  have hg := regGet_of_live hI hL ho hl hd
  have hobj := obj?_of_mem hI.heapNodup ho
  constructor
  · intro hc
    have : ¬ o.cls = c := fun e => hc e.symm
    simp [RState.get, hg, hobj, this]
  · intro hc
    simp [RState.get, hg, hobj, hc]

/-- no other object is returned under the id of a live, not detached node -/
theorem lookup_unique {s : RState} (hI : Inv s) (hL : LiveRegistered s) {o : RObj} (ho : o ∈ s.heap)
    (hl : s.isLive o.uid = true) (hd : o.uid ∉ s.detached) {w : Nat} :
    (s.getAny o.id = some w → w = o.uid) ∧ (∀ c strict, s.get c o.id strict = some w → w = o.uid) := by
  have hg := regGet_of_live hI hL ho hl hd
  constructor
  · intro h
    rw [getAny_eq, hg] at h
    exact (Option.some.inj h).symm
  · intro c strict h
    have := (get_sound h).1
    rw [hg] at this
    exact (Option.some.inj this).symm

theorem registered_ids_distinct {s : RState} (hI : Inv s) {k k' : Str} {u u' : Nat}
    (h1 : (k, u) ∈ s.reg) (h2 : (k', u') ∈ s.reg) (hne : u ≠ u') : s.idOf u ≠ s.idOf u' := by
  rw [key_of_mem hI h1, key_of_mem hI h2]
  intro e
  subst e
  exact hne (reg_functional hI h1 h2)

/-- two different live, not detached nodes carry different ids (whatever the digests were) -/
theorem live_ids_distinct {s : RState} (hI : Inv s) (hL : LiveRegistered s) {o1 o2 : RObj}
    (h1 : o1 ∈ s.heap) (h2 : o2 ∈ s.heap) (l1 : s.isLive o1.uid = true) (l2 : s.isLive o2.uid = true)
    (d1 : o1.uid ∉ s.detached) (d2 : o2.uid ∉ s.detached) (hne : o1.uid ≠ o2.uid) : o1.id ≠ o2.id := by
  have := registered_ids_distinct hI (hL o1 h1 l1 d1) (hL o2 h2 l2 d2) hne
  rwa [idOf_of_mem hI.heapNodup h1, idOf_of_mem hI.heapNodup h2] at this

/-- **detach**: after `x.detach()`, neither `x` nor any descendant of `x` is registered under its id
(`C10X.detach_unregisters` says it for every key) -/
theorem detach_unregisters {s : RState} (hI : Inv s) {x : Nat} (hx : s.isLive x = true) :
    ∀ c ∈ x :: s.descendants (s.heap.length + 1) x,
      (s.step (.detach x)).1.regGet ((s.step (.detach x)).1.idOf c) ≠ some c := by
  intro c hc hg
  rw [step_detach hx] at hg
  exact detachAll_unreg _ hI c hc _ (List.mem_filter.mp (rget_some_mem hg)).1

/-- after `x.detach()`, `x` and its descendants are returned neither by `get_any` nor by `get` (strict
or not, whatever the class) under their ids -/
theorem detach_not_returned {s : RState} (hI : Inv s) {x : Nat} (hx : s.isLive x = true) :
    ∀ c ∈ x :: s.descendants (s.heap.length + 1) x,
      (s.step (.detach x)).1.getAny ((s.step (.detach x)).1.idOf c) ≠ some c ∧
      ∀ cls strict, (s.step (.detach x)).1.get cls ((s.step (.detach x)).1.idOf c) strict ≠ some c := by
  intro c hc
  refine ⟨detach_unregisters hI hx c hc, ?_⟩
  intro cls strict h
  exact detach_unregisters hI hx c hc (get_sound h).1

/-- the direct children are among the computed descendants (first level of `descendants`) -/
theorem kids_sub_descendants (s : RState) (n x : Nat) : ∀ k ∈ s.kidsOf x, k ∈ s.descendants (n + 1) x := by
  intro k hk
  simp only [descendants, List.mem_flatMap]
  exact ⟨k, hk, by simp⟩

/-- the children of every computed descendant are computed descendants, as long as the fuel lasts -/
theorem descendants_step (s : RState) : ∀ (n x c : Nat), c ∈ s.descendants n x →
    ∀ k ∈ s.kidsOf c, k ∈ s.descendants (n + 1) x
  | 0, _, _, h => by simp [descendants] at h
  | n + 1, x, c, h => by
    intro k hk
    simp only [descendants, List.mem_flatMap, List.mem_cons] at h
    obtain ⟨a, ha, hc⟩ := h
    rw [descendants]
    refine List.mem_flatMap.mpr ⟨a, ha, ?_⟩
    rcases hc with rfl | hc
    · exact List.mem_cons_of_mem _ (kids_sub_descendants s n c k hk)
    · exact List.mem_cons_of_mem _ (descendants_step s n a c hc k hk)

/-! ### non-vacuity -/

section Examples
private def A : Str := "A".toList
private def B : Str := "B".toList

/-- a depth-2 tree `p(m(l))`, all bound, then `p.detach()` -/
def deep : List ROp :=
  [ .construct 0 A [A, B] [] [(1, "l".toList)],
    .construct 1 A [A, B] [1] [(2, "m".toList)],
    .construct 2 B [B] [2] [(3, "p".toList)] ]

example : AllOkK {} deep := by decide
example : (run {} deep).descendants ((run {} deep).heap.length + 1) 3 = [2, 1] := by decide
example : (run {} deep).isLive 3 = true ∧ (run {} deep).isLive 1 = true ∧ 1 ∉ (run {} deep).detached := by decide
example : (run {} deep).getAny "l".toList = some 1 ∧ (run {} deep).get A "l".toList true = some 1 ∧
    (run {} deep).get B "l".toList false = some 1 ∧ (run {} deep).get B "l".toList true = none := by decide +kernel
example : ((run {} deep).step (.detach 3)).1.reg = [] ∧ ((run {} deep).step (.detach 3)).1.isLive 1 = true := by decide +kernel
end Examples

end C03
end PyOak

#print axioms PyOak.C03.lookup_complete
#print axioms PyOak.C03.lookup_only_own_class
#print axioms PyOak.C03.lookup_unique
#print axioms PyOak.C03.registered_ids_distinct
#print axioms PyOak.C03.live_ids_distinct
#print axioms PyOak.C03.detach_unregisters
#print axioms PyOak.C03.detach_not_returned
