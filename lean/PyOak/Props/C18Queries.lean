/-
C18 — `ancestors`, `is_ancestor`, `get_depth` (Model/LegacyQueries.lean, a conservative extension of the model, not tied
by the harness) agree with the parent chain, and the parent chain agrees with the downward structure.

The specification is `UpChain s u l`: `l = [p₁, …, p_k]` with `parent u = p₁`, `parent p_i = p_{i+1}`, `parent p_k = None`
(unique).  With fuel beyond the length of the chain the walks answer the chain, membership in it, its length resp. the
position of `relative_to`, and ValueError exactly when `check_ancestor` is set and `relative_to` is not in the chain
(`ancestorsGo_eq`, `isAncestorGo_eq`, `getDepthGo_*_eq`, `getDepth_eq`: no invariant needed; `ancestorsGo_sound`: a
finished walk IS the chain).  Under `Inv` consecutive members are child / holder at the child's reported position
(`chain_holds`) and `is_ancestor` is "proper structural ancestor" (`mem_chain_iff`).  Under `Inv ∧ Ranked` every attached
node has a chain shorter than `size`, so with the model's fuel the walks never answer `hang` (`chain_exists`,
`ancestors_total`); on the cyclic state of `cyclic_reachable` they do (`cyclic_walk_hangs`).
-/
import PyOak.Model.LegacyQueries
import PyOak.Props.C18Acyclic
namespace PyOak.Legacy.C18
open PyOak PyOak.Legacy LState

variable (Hc : Str → Str)

/-- **the parent chain** of `u`, nearest ancestor first, ending at a node without parent -/
inductive UpChain (s : LState) : Nat → List Nat → Prop
  | root {u : Nat} : s.parent u = none → UpChain s u []
  | step {u p : Nat} {l : List Nat} : s.parent u = some p → UpChain s p l → UpChain s u (p :: l)

theorem upChain_unique {s : LState} {u : Nat} {l l' : List Nat} (h : UpChain s u l) (h' : UpChain s u l') : l = l' := by
  induction h generalizing l' with
  | root hp =>
    cases h' with
    | root _ => rfl
    | step hp' _ => rw [hp] at hp'; cases hp'
  | step hp _ ih =>
    cases h' with
    | root hp' => rw [hp] at hp'; cases hp'
    | step hp' hc' =>
      rw [hp] at hp'; cases hp'
      rw [ih hc']

/-- induction along the chain for a walk with fuel: one unit of fuel per member, one more for the root -/
theorem UpChain.walk {s : LState} {P : Nat → List Nat → Nat → Prop}
    (root : ∀ u f, s.parent u = none → P u [] (f + 1))
    (step : ∀ u p l f, s.parent u = some p → P p l f → P u (p :: l) (f + 1))
    {u : Nat} {l : List Nat} (h : UpChain s u l) : ∀ fuel, l.length < fuel → P u l fuel := by
  induction h with
  | root hp => intro fuel hf; cases fuel with
    | zero => omega
    | succ f => exact root _ f hp
  | step hp _ ih =>
    intro fuel hf
    cases fuel with
    | zero => omega
    | succ f => exact step _ _ _ f hp (ih f (by simp only [List.length_cons] at hf; omega))

theorem ancestorsGo_eq {s : LState} {u : Nat} {l : List Nat} (h : UpChain s u l) :
    ∀ fuel, l.length < fuel → ancestorsGo s fuel u = some l :=
  h.walk (P := fun u l fuel => ancestorsGo s fuel u = some l) (fun u f hp => by simp [ancestorsGo, hp])
    (fun u p l f hp ih => by simp [ancestorsGo, hp, ih])

theorem ancestorsGo_sound {s : LState} : ∀ (fuel u : Nat) (l : List Nat), ancestorsGo s fuel u = some l → UpChain s u l := by
  intro fuel
  induction fuel with
  | zero => intro u l h; simp [ancestorsGo] at h
  | succ f ih =>
    intro u l h
    unfold ancestorsGo at h
    cases hp : s.parent u with
    | none => rw [hp] at h; simp at h; subst h; exact .root hp
    | some p =>
      rw [hp] at h
      simp only [Option.map_eq_some_iff] at h
      obtain ⟨l', hl', rfl⟩ := h
      exact .step hp (ih p l' hl')

theorem isAncestorGo_eq {s : LState} {u : Nat} {l : List Nat} (a : Nat) (h : UpChain s u l) :
    ∀ fuel, l.length < fuel → isAncestorGo s a fuel u = some (decide (a ∈ l)) :=
  h.walk (P := fun u l fuel => isAncestorGo s a fuel u = some (decide (a ∈ l)))
    (fun u f hp => by simp [isAncestorGo, hp]) fun u p l f hp ih => by
      unfold isAncestorGo
      rw [hp]
      simp only
      by_cases hpa : p = a
      · simp [hpa]
      · rw [if_neg hpa, ih]
        have : a ≠ p := fun e => hpa e.symm
        simp [this]

theorem getDepthGo_none_eq {s : LState} {u : Nat} {l : List Nat} (h : UpChain s u l) :
    ∀ fuel, l.length < fuel → getDepthGo s none fuel u = some l.length :=
  h.walk (P := fun u l fuel => getDepthGo s none fuel u = some l.length) (fun u f hp => by simp [getDepthGo, hp])
    (fun u p l f hp ih => by simp [getDepthGo, hp, ih])

/-- the depth relative to `a`: one more than the number of chain members before the first occurrence of `a`;
the whole length when `a` does not occur (the recursion then runs up to the root) -/
def depthTo (a : Nat) : List Nat → Nat
  | [] => 0
  | p :: r => if p = a then 1 else depthTo a r + 1

theorem depthTo_of_not_mem (a : Nat) : ∀ l : List Nat, a ∉ l → depthTo a l = l.length := by
  intro l
  induction l with
  | nil => intro _; rfl
  | cons p r ih =>
    intro h
    simp only [List.mem_cons, not_or] at h
    have : p ≠ a := fun e => h.1 e.symm
    simp [depthTo, this, ih h.2]

theorem depthTo_spec (a : Nat) : ∀ l : List Nat, a ∈ l →
    ∃ pre post, l = pre ++ a :: post ∧ a ∉ pre ∧ depthTo a l = pre.length + 1 := by
  intro l
  induction l with
  | nil => intro h; cases h
  | cons p r ih =>
    intro h
    by_cases hpa : p = a
    · subst hpa; exact ⟨[], r, rfl, by simp, by simp [depthTo]⟩
    · have hr : a ∈ r := by
        rcases List.mem_cons.mp h with e | e
        · exact absurd e.symm hpa
        · exact e
      obtain ⟨pre, post, e1, e2, e3⟩ := ih hr
      refine ⟨p :: pre, post, by rw [e1]; rfl, ?_, by simp [depthTo, hpa, e3]⟩
      simp only [List.mem_cons, not_or]
      exact ⟨fun e => hpa e.symm, e2⟩

theorem getDepthGo_some_eq {s : LState} {u : Nat} {l : List Nat} (a : Nat) (h : UpChain s u l) :
    ∀ fuel, l.length < fuel → getDepthGo s (some a) fuel u = some (depthTo a l) :=
  h.walk (P := fun u l fuel => getDepthGo s (some a) fuel u = some (depthTo a l))
    (fun u f hp => by simp [getDepthGo, hp, depthTo]) fun u p l f hp ih => by
      unfold getDepthGo
      rw [hp]
      simp only
      by_cases hpa : p = a
      · subst hpa; simp [depthTo]
      · have : ¬ (some a = some p) := fun e => hpa (Option.some.inj e).symm
        rw [if_neg this, ih]
        simp [depthTo, hpa]

/-- **`get_depth`** with the model's fuel, given the chain: depth to the root / to `relative_to`, `ValueError`
exactly when the check is on and `relative_to` is not an ancestor -/
theorem getDepth_eq {s : LState} {u : Nat} {l : List Nat} (h : UpChain s u l) (hl : l.length < fuelOf s)
    (rel : Option Nat) (check : Bool) :
    getDepth s u rel check =
      match rel with
      | none => .depth l.length
      | some a => if check = true ∧ a ∉ l then .valueError else .depth (depthTo a l) := by
  unfold getDepth
  cases rel with
  | none => simp only; rw [getDepthGo_none_eq h _ hl]
  | some a =>
    simp only
    cases check with
    | false => simp only [Bool.false_eq_true, if_false, false_and]; rw [getDepthGo_some_eq a h _ hl]
    | true =>
      simp only [if_true, true_and]
      unfold isAncestor
      rw [isAncestorGo_eq a h _ hl]
      by_cases ha : a ∈ l
      · simp only [ha, decide_true, not_true_eq_false, if_false]; rw [getDepthGo_some_eq a h _ hl]
      · simp [ha]

/-- consecutive members: the next one is attached and stores the previous one at its reported field and index -/
def ChainHolds (s : LState) : List Nat → Prop
  | [] => True
  | [_] => True
  | x :: p :: r =>
    (Att s p ∧ ∃ f, (s.obj x).pfield = some f ∧ (x, f, (s.obj x).pindex) ∈ (s.obj p).kidsPos) ∧ ChainHolds s (p :: r)

theorem chain_holds {s : LState} (hI : Inv Hc s) {u : Nat} {l : List Nat} (hu : Att s u) (h : UpChain s u l) :
    ChainHolds s (u :: l) ∧ ∀ p ∈ l, Att s p := by
  induction h with
  | root _ => exact ⟨trivial, fun p hp => by cases hp⟩
  | step hp _ ih =>
    obtain ⟨hpa, f, hf, hm⟩ := parent_is_holder Hc hI hu hp
    obtain ⟨i1, i2⟩ := ih hpa
    refine ⟨⟨⟨hpa, f, hf, hm⟩, i1⟩, fun q hq => ?_⟩
    rcases List.mem_cons.mp hq with rfl | hq
    · exact hpa
    · exact i2 q hq

theorem mem_chain_desc {s : LState} (hI : Inv Hc s) {u : Nat} {l : List Nat} (hu : Att s u) (h : UpChain s u l) :
    ∀ a ∈ l, Att s a ∧ Desc s a u := by
  induction h with
  | root _ => intro a ha; cases ha
  | @step u p l hp _ ih =>
    obtain ⟨hpa, hup⟩ := parent_kid Hc hI hp
    intro a ha
    rcases List.mem_cons.mp ha with rfl | ha
    · exact ⟨hpa, .step .refl hup⟩
    · obtain ⟨a1, a2⟩ := ih hpa a ha
      exact ⟨a1, .step a2 hup⟩

/-- conversely an attached node from which `u` is reachable along child links (and which is not `u`) is in
the chain of `u` -/
theorem desc_mem_chain {s : LState} (hI : Inv Hc s) {a u : Nat} (ha : Att s a) (hd : Desc s a u) :
    ∀ l, UpChain s u l → a ≠ u → a ∈ l := by
  induction hd with
  | refl => intro l _ hne; exact absurd rfl hne
  | @step q' q hd' hk ih =>
    intro l hl _
    have hq' : Att s q' := (upFree_of_desc hI ha hd' (fun _ _ hx => hx.elim)).1
    obtain ⟨e, he, he1⟩ := (mem_kidList_iff _ _).mp hk
    have hpar : s.parent q = some q' := by rw [← he1]; exact holder_is_parent Hc hI hq' he
    cases hl with
    | root hp => rw [hpar] at hp; cases hp
    | step hp hc =>
      rw [hpar] at hp; cases hp
      by_cases haq : a = q'
      · rw [haq]; exact List.mem_cons_self ..
      · exact List.mem_cons_of_mem _ (ih _ hc haq)

/-- **`is_ancestor` is "proper structural ancestor"**: for attached `a`, `u` on an acyclic state -/
theorem mem_chain_iff {s : LState} (hI : Inv Hc s) (hR : Ranked s) {a u : Nat} {l : List Nat} (hu : Att s u)
    (h : UpChain s u l) : a ∈ l ↔ (Att s a ∧ Desc s a u ∧ a ≠ u) := by
  constructor
  · intro ha
    obtain ⟨h1, h2⟩ := mem_chain_desc Hc hI hu h a ha
    refine ⟨h1, h2, ?_⟩
    rintro rfl
    -- a proper cycle contradicts the rank
    obtain ⟨r, hr⟩ := hR
    cases h with
    | root _ => cases ha
    | @step _ p l' hp hc =>
      obtain ⟨hpa, hup⟩ := parent_kid Hc hI hp
      have h3 := hr p (att_lt hI hpa) a hup
      have hdp : Desc s a p := by
        rcases List.mem_cons.mp ha with e | e
        · rw [e]; exact .refl
        · exact (mem_chain_desc Hc hI hpa hc a e).2
      have := (ranked_desc_le hr hI.closed (att_lt hI hu) hdp).1
      omega
  · rintro ⟨h1, h2, h3⟩
    exact desc_mem_chain Hc hI h1 h2 l h h3

/-- pigeonhole: a duplicate-free list of numbers below `n` has at most `n` elements -/
theorem length_le_of_nodup_lt (n : Nat) (l : List Nat) (hnd : l.Nodup) (h : ∀ x ∈ l, x < n) : l.length ≤ n := by
  have := hnd.length_le_of_subset (l₂ := List.range n) fun x hx => List.mem_range.mpr (h x hx)
  rwa [List.length_range] at this


theorem chain_ranks {s : LState} (hI : Inv Hc s) {r : Nat → Nat}
    (hr : ∀ x, x < s.size → ∀ c ∈ (s.obj x).kidList, r c < r x) {u : Nat} {l : List Nat} (hu : Att s u)
    (h : UpChain s u l) : ((u :: l).map r).Pairwise (· < ·) ∧ ∀ p ∈ l, p < s.size := by
  induction h with
  | root _ => exact ⟨List.pairwise_singleton _ _, fun p hp => by cases hp⟩
  | @step u p l hp _ ih =>
    obtain ⟨hpa, hup⟩ := parent_kid Hc hI hp
    have hlt := hr p (att_lt hI hpa) u hup
    obtain ⟨i1, i2⟩ := ih hpa
    refine ⟨List.pairwise_cons.mpr ⟨fun y hy => ?_, i1⟩, fun q hq => ?_⟩
    · rcases List.mem_cons.mp hy with rfl | hy
      · exact hlt
      · exact Nat.lt_trans hlt ((List.pairwise_cons.mp i1).1 y hy)
    · rcases List.mem_cons.mp hq with rfl | hq
      · exact att_lt hI hpa
      · exact i2 q hq

/-- **the chain exists and is shorter than `size`** -/
theorem chain_exists {s : LState} (hI : Inv Hc s) (hR : Ranked s) {u : Nat} (hu : Att s u) :
    ∃ l, UpChain s u l ∧ l.length < s.size := by
  obtain ⟨r, hr⟩ := hR
  -- existence: the rank grows along `parent` and is bounded on existing objects
  have ex : ∀ k u, Att s u → bnd r s.size ≤ r u + k → ∃ l, UpChain s u l := by
    intro k
    induction k with
    | zero =>
      intro u hu hb
      have := lt_bnd r s.size u (att_lt hI hu)
      omega
    | succ k ih =>
      intro u hu hb
      cases hp : s.parent u with
      | none => exact ⟨[], .root hp⟩
      | some p =>
        obtain ⟨hpa, hup⟩ := parent_kid Hc hI hp
        have hlt := hr p (att_lt hI hpa) u hup
        obtain ⟨l, hl⟩ := ih p hpa (by omega)
        exact ⟨p :: l, .step hp hl⟩
  obtain ⟨l, hl⟩ := ex (bnd r s.size) u hu (by omega)
  refine ⟨l, hl, ?_⟩
  obtain ⟨c1, c2⟩ := chain_ranks Hc hI hr hu hl
  -- `u :: l` is duplicate-free (strictly increasing ranks) and below `size`
  have := length_le_of_nodup_lt s.size (u :: l) (nodup_of_nodup_map r _ (c1.imp fun h => Nat.ne_of_lt h))
    (fun x hx => (List.mem_cons.mp hx).elim (fun e => e ▸ att_lt hI hu) (c2 x))
  simp only [List.length_cons] at this
  omega

/-- **with the model's fuel the walks of an attached node of an acyclic state end**, and answer the chain -/
theorem ancestors_total {s : LState} (hI : Inv Hc s) (hR : Ranked s) {u : Nat} (hu : Att s u) :
    ∃ l, UpChain s u l ∧ Legacy.ancestors s u = some l ∧ (∀ a, isAncestor s a u = some (decide (a ∈ l))) ∧
      (∀ rel check, getDepth s u rel check ≠ .hang) ∧ getDepth s u none true = .depth l.length := by
  obtain ⟨l, hl, hlen⟩ := chain_exists Hc hI hR hu
  have hf : l.length < fuelOf s := by unfold fuelOf; omega
  refine ⟨l, hl, ancestorsGo_eq hl _ hf, fun a => isAncestorGo_eq a hl _ hf, fun rel check => ?_, ?_⟩
  · rw [getDepth_eq hl hf]
    cases rel with
    | none => simp
    | some a => simp only; split <;> simp
  · rw [getDepth_eq hl hf]

section examples
open PyOak.Legacy.Ex

/-- a chain of depth 3: leaf 0 under 1 under 2 under 3 -/
def histQ : List LOp := [.new (leaf "1"), .new (un 0), .new (un 1), .new (un 2), .new (leaf "9")]

theorem inv_histQ : Inv id (st histQ) ∧ Ranked (st histQ) :=
  inv_ranked_run_init id id _ (admRun_of_B id id _ init (by decide +kernel))

private theorem histQ_facts : (Att (st histQ) 0 ∧ [1, 2, 3].length < fuelOf (st histQ)) ∧
    (st histQ).parent 0 = some 1 ∧ (st histQ).parent 1 = some 2 ∧ (st histQ).parent 2 = some 3 ∧
    (st histQ).parent 3 = none := by decide +kernel

theorem chainQ : UpChain (st histQ) 0 [1, 2, 3] :=
  .step histQ_facts.2.1 (.step histQ_facts.2.2.1 (.step histQ_facts.2.2.2.1 (.root histQ_facts.2.2.2.2)))

example : Legacy.ancestors (st histQ) 0 = some [1, 2, 3] := by decide +kernel
example : Legacy.ancestors (st histQ) 0 = some [1, 2, 3] := ancestorsGo_eq chainQ _ histQ_facts.1.2
example : isAncestor (st histQ) 3 0 = some true ∧ isAncestor (st histQ) 0 3 = some false ∧
    isAncestor (st histQ) 4 0 = some false := by decide +kernel
example : getDepth (st histQ) 0 none true = .depth 3 ∧ getDepth (st histQ) 0 (some 2) true = .depth 2 ∧
    getDepth (st histQ) 0 (some 4) true = .valueError ∧ getDepth (st histQ) 0 (some 4) false = .depth 3 ∧
    getDepth (st histQ) 3 none true = .depth 0 := by decide +kernel
example := getDepth_eq chainQ histQ_facts.1.2 (some 2) true
example := chain_holds id inv_histQ.1 (u := 0) histQ_facts.1.1 chainQ
example := (mem_chain_iff id inv_histQ.1 inv_histQ.2 (a := 2) (u := 0) histQ_facts.1.1 chainQ).mp (by decide)
example := chain_exists id inv_histQ.1 inv_histQ.2 (u := 0) histQ_facts.1.1
example := ancestors_total id inv_histQ.1 inv_histQ.2 (u := 0) histQ_facts.1.1
example := ancestorsGo_sound 6 0 [1, 2, 3] (s := st histQ) (by decide +kernel)
example := upChain_unique chainQ chainQ

/-- on the cyclic state of `cyclic_reachable` there is no chain, so the walk does not end: the model answers `hang` -/
theorem cyclic_walk_hangs : Legacy.ancestors (run id K init histCyc) 1 = none ∧
    getDepth (run id K init histCyc) 1 none true = .hang ∧ ¬ ∃ l, UpChain (run id K init histCyc) 1 l := by
  obtain ⟨_, _, h2, h1, _⟩ := histCyc_shape
  -- the parent chain alternates 2, 1, 2, 1, …: a chain of either node would give a shorter chain of the other
  have key : ∀ l, ¬ UpChain (run id K init histCyc) 1 l ∧ ¬ UpChain (run id K init histCyc) 2 l := by
    intro l
    induction l with
    | nil =>
      refine ⟨fun h => ?_, fun h => ?_⟩
      · cases h with | root hp => rw [h2] at hp; cases hp
      · cases h with | root hp => rw [h1] at hp; cases hp
    | cons a r ih =>
      refine ⟨fun h => ?_, fun h => ?_⟩
      · cases h with | step hp hc => rw [h2] at hp; cases hp; exact ih.2 hc
      · cases h with | step hp hc => rw [h1] at hp; cases hp; exact ih.1 hc
  refine ⟨?_, by decide +kernel, fun ⟨l, hl⟩ => (key l).1 hl⟩
  -- a finished walk would be a chain
  cases h : Legacy.ancestors (run id K init histCyc) 1 with
  | none => rfl
  | some l => exact absurd (ancestorsGo_sound _ _ _ h) (key l).1

end examples

#print axioms upChain_unique
#print axioms ancestorsGo_eq
#print axioms ancestorsGo_sound
#print axioms isAncestorGo_eq
#print axioms getDepthGo_none_eq
#print axioms getDepthGo_some_eq
#print axioms getDepth_eq
#print axioms chain_holds
#print axioms mem_chain_desc
#print axioms desc_mem_chain
#print axioms mem_chain_iff
#print axioms chain_exists
#print axioms ancestors_total
#print axioms cyclic_walk_hangs

end PyOak.Legacy.C18
