/-
C20 — the link between the legacy heap (C18's state machine: objects with parent pointers, registry) and the tree
values on which the traversal and xpath theorems are stated.  Abstraction function: `Legacy.treeOf s u`
(Spec/LegacyTreeOf.lean).  Hypotheses throughout: the C18 invariant `Inv` and an acyclic child graph (`C18.Ranked`;
`Inv` alone admits cycles, `C18.cyclic_reachable`), both available after every admissible history from the empty
world (`C18.inv_ranked_run_init`).

The fuel of `treeOf` suffices (`treeOf_unfold`, `treeOf_edges`, `treeOf_children`); the tree below an attached node
repeats no object (`treeOf_noRepeat`, the successor's `Tree` precondition) and has at most `s.size` nodes
(`treeOf_size_le`); its nodes are the trees of the objects reachable along child links (`mem_allNodes_treeOf`); the
parent chain read off the heap's parent pointers, each member with its own `parent_field` / `parent_index` slots, is
the root-first chain of the node's position in that tree (`heapChain_isChain`) and the only one
(`heapChain_unique`, by `C06.chain_unique_uid`).

`ParentClean` is the one fact about the parent slots that `Inv` does not record: a node without `_parent_id` has no
`_parent_field`, a node without `_parent_field` has no `_parent_index` (the three slots are only ever written
together: `_set_parent` / `_clear_parent`).  Props/C20ParentClean.lean proves it for every reachable state.
-/
import PyOak.Spec.LegacyTreeOf
import PyOak.Props.C18Queries
import PyOak.Props.C06Total
import PyOak.Props.C20
namespace PyOak
namespace C20
open Legacy Legacy.C18 LState

variable (Hc : Str → Str)

/-- the three parent slots are written together -/
def ParentClean (s : LState) : Prop :=
  ∀ u, ((s.obj u).pid = none → (s.obj u).pfield = none) ∧ ((s.obj u).pfield = none → (s.obj u).pindex = none)

/-! ### a rank bounded by the number of objects -/

theorem length_filter_lt {α : Type} (p q : α → Bool) (l : List α) (h : ∀ a ∈ l, p a = true → q a = true)
    (a : α) (ha : a ∈ l) (hq : q a = true) (hp : p a = false) : (l.filter p).length < (l.filter q).length := by
  simp only [← List.countP_eq_length_filter]
  induction l with
  | nil => cases ha
  | cons b r ih =>
    have hle := List.countP_mono_left (l := r) (fun c hc => h c (List.mem_cons_of_mem _ hc))
    have hb := h b (List.mem_cons_self ..)
    simp only [List.countP_cons]
    rcases List.mem_cons.mp ha with rfl | har
    · simp only [hp, hq, if_true, Bool.false_eq_true, if_false]; omega
    · have ih' := ih (fun c hc => h c (List.mem_cons_of_mem _ hc)) har
      cases hpb : p b
      · simp only [Bool.false_eq_true, if_false]; split <;> omega
      · simp only [hb hpb, if_true]; omega

/-- the number of existing objects of strictly smaller rank -/
def nrank (r : Nat → Nat) (n x : Nat) : Nat := ((List.range n).filter fun y => decide (r y < r x)).length

theorem nrank_lt (r : Nat → Nat) (n x : Nat) (hx : x < n) : nrank r n x < n := by
  have := length_filter_lt (fun y => decide (r y < r x)) (fun _ => true) (List.range n) (fun _ _ _ => rfl)
    x (List.mem_range.mpr hx) rfl (by simp)
  have h2 : (List.range n).filter (fun _ => true) = List.range n := List.filter_eq_self.mpr (fun _ _ => rfl)
  rw [h2] at this
  simpa [nrank] using this

theorem nrank_mono (r : Nat → Nat) (n c x : Nat) (hc : c < n) (h : r c < r x) : nrank r n c < nrank r n x := by
  unfold nrank
  exact length_filter_lt _ _ _ (fun a _ ha => by simp at ha ⊢; omega) c (List.mem_range.mpr hc) (by simpa using h)
    (by simp)

/-! ### the fuel of `treeOf` suffices -/

@[simp] theorem treeOf_hd (s : LState) (u : Nat) : (treeOf s u).hd = headOf u (s.obj u) := by
  unfold treeOf; cases s.size <;> rfl
@[simp] theorem treeOf_uid (s : LState) (u : Nat) : (treeOf s u).uid = u := by simp [Node.uid, headOf]
@[simp] theorem treeOf_cls (s : LState) (u : Nat) : (treeOf s u).cls = (s.obj u).cls := by simp [Node.cls, headOf]
theorem treeOf_isInst (s : LState) (u : Nat) (c : Str) : (treeOf s u).isInst c = (s.obj u).mro.contains c := by
  simp [Node.isInst, headOf]

theorem map_kidOf_congr (o : LObj) (T T' : Nat → Node) (h : ∀ c ∈ o.kidList, T c = T' c) :
    o.fields.map (kidOf T) = o.fields.map (kidOf T') := by
  apply List.map_congr_left
  intro f hf
  unfold kidOf
  congr 1
  exact List.map_congr_left fun c hc => h c (List.mem_flatMap.mpr ⟨f, hf, hc⟩)

theorem treeOfGo_stable {s : LState} {r : Nat → Nat}
    (hr : ∀ x, x < s.size → ∀ c ∈ (s.obj x).kidList, r c < r x) (hC : Closed s) :
    ∀ fuel u, u < s.size → nrank r s.size u < fuel → treeOfGo s (fuel + 1) u = treeOfGo s fuel u := by
  intro fuel
  induction fuel with
  | zero => intro u _ h; omega
  | succ fuel ih =>
    intro u hu hlt
    show Node.mk _ ((s.obj u).fields.map (kidOf (treeOfGo s (fuel + 1)))) =
      Node.mk _ ((s.obj u).fields.map (kidOf (treeOfGo s fuel)))
    rw [map_kidOf_congr _ _ _ fun c hck => ih c (hC u hu c hck)
      (by have := nrank_mono r s.size c u (hC u hu c hck) (hr u hu c hck); omega)]

/-- **the tree below an existing object of an acyclic heap**: its head over the trees of its stored children -/
theorem treeOf_unfold {s : LState} (hR : Ranked s) (hC : Closed s) {u : Nat} (hu : u < s.size) :
    treeOf s u = .mk (headOf u (s.obj u)) ((s.obj u).fields.map (kidOf (treeOf s))) := by
  obtain ⟨r, hr⟩ := hR
  obtain ⟨k, hk⟩ : ∃ k, s.size = k + 1 := ⟨s.size - 1, by omega⟩
  have h2 := nrank_lt r s.size u hu
  unfold treeOf
  rw [hk]
  show Node.mk _ ((s.obj u).fields.map (kidOf (treeOfGo s k))) = _
  rw [map_kidOf_congr _ _ _ fun c hc => (treeOfGo_stable hr hC k c (hC u hu c hc)
    (by have := nrank_mono r s.size c u (hC u hu c hc) (hr u hu c hc); omega)).symm]

theorem enumFrom_posFrom (T : Nat → Node) (name : Str) : ∀ (ks : List Nat) (i : Nat),
    ((enumFrom i (ks.map T)).map fun (p : Nat × Node) => ((p.2, (⟨name, some p.1⟩ : Edge)) : Node × Edge)) =
      (posFrom name i ks).map fun e => (T e.1, (⟨e.2.1, e.2.2⟩ : Edge)) := by
  intro ks
  induction ks with
  | nil => intro i; rfl
  | cons c r ih => intro i; simp [enumFrom, posFrom, ih]

/-- one child field: `get_child_nodes_with_field()` of the tree value = the positions of the heap field -/
theorem kidOf_edges (T : Nat → Node) (f : LField) :
    (kidOf T f).edges = f.pos.map fun e => (T e.1, (⟨e.2.1, e.2.2⟩ : Edge)) := by
  unfold kidOf LField.pos
  cases h : f.kind.isSeq
  · simp [Kid.edges]
  · simp only [Kid.edges, if_true]
    exact enumFrom_posFrom T f.name f.kids 0

/-- **child positions**: the tree's `get_child_nodes_with_field()` is the object's, child by child -/
theorem treeOf_edges {s : LState} (hR : Ranked s) (hC : Closed s) {u : Nat} (hu : u < s.size) :
    (treeOf s u).edges = (s.obj u).kidsPos.map fun e => (treeOf s e.1, (⟨e.2.1, e.2.2⟩ : Edge)) := by
  rw [treeOf_unfold hR hC hu]
  simp only [Node.edges, Node.kids, LObj.kidsPos, List.flatMap_map, List.map_flatMap, kidOf_edges]

/-- `get_child_nodes()` -/
theorem treeOf_children {s : LState} (hR : Ranked s) (hC : Closed s) {u : Nat} (hu : u < s.size) :
    (treeOf s u).children = (s.obj u).kidList.map (treeOf s) := by
  rw [children_eq, Node.items, List.map_map, treeOf_edges hR hC hu, ← kidsPos_map_fst, List.map_map, List.map_map]
  rfl

/-! ### the nodes of the represented tree -/

theorem allNodes_length (n : Node) : (allNodes n).length = n.size := by
  have := C05.dfs_all_positions n
  simp [allNodes]; omega

/-- the object identities in the tree below `u`, pre-order -/
def descU (s : LState) (u : Nat) : List Nat := (allNodes (treeOf s u)).map (·.uid)

theorem descU_unfold {s : LState} (hR : Ranked s) (hC : Closed s) {u : Nat} (hu : u < s.size) :
    descU s u = u :: (s.obj u).kidList.flatMap (descU s) := by
  unfold descU
  rw [allNodes_unfold, treeOf_edges hR hC hu, ← kidsPos_map_fst]
  simp [List.flatMap_map, List.map_flatMap]

/-- induction along the child links of an acyclic heap: what passes from the stored children of an existing object to
the object holds of every existing object -/
theorem ranked_induction {s : LState} (hR : Ranked s) (hC : Closed s) {P : Nat → Prop}
    (step : ∀ u, u < s.size → (∀ c ∈ (s.obj u).kidList, P c) → P u) : ∀ u, u < s.size → P u := by
  obtain ⟨r, hr⟩ := hR
  have key : ∀ n u, r u < n → u < s.size → P u := by
    intro n
    induction n with
    | zero => intro u h; omega
    | succ n ih =>
      intro u hru hu
      exact step u hu fun c hc => ih c (by have := hr u hu c hc; omega) (hC u hu c hc)
  exact fun u hu => key (r u + 1) u (by omega) hu

/-- every identity in the tree below `u` is reachable from `u` along child links -/
theorem descU_desc {s : LState} (hR : Ranked s) (hC : Closed s) : ∀ u, u < s.size → ∀ x ∈ descU s u, Desc s u x :=
  ranked_induction hR hC fun u hu ih x hx => by
    rw [descU_unfold hR hC hu] at hx
    rcases List.mem_cons.mp hx with rfl | hx
    · exact .refl
    · obtain ⟨c, hc, hxc⟩ := List.mem_flatMap.mp hx
      exact Desc.trans_kid hc (ih c hc x hxc)

/-! ### no object at two positions -/

theorem posFrom_snd_nodup (name : Str) : ∀ (l : List Nat) (j : Nat), ((posFrom name j l).map (·.2)).Nodup := by
  intro l
  induction l with
  | nil => intro j; simp [posFrom]
  | cons c r ih =>
    intro j
    simp only [posFrom, List.map_cons, List.nodup_cons]
    refine ⟨?_, ih (j + 1)⟩
    intro hm
    obtain ⟨e, he, heq⟩ := List.mem_map.mp hm
    obtain ⟨m, x, _, rfl⟩ := (posFrom_mem_iff name r (j + 1) e).mp he
    simp at heq
    omega

theorem pos_snd_nodup (f : LField) (hf : f.wf) : (f.pos.map (·.2)).Nodup := by
  unfold LField.pos
  split
  · exact posFrom_snd_nodup _ _ _
  · next h =>
    rcases hf with hs | hl
    · exact absurd hs h
    · match hk : f.kids, hl with
      | [], _ => simp
      | [c], _ => simp
      | _ :: _ :: _, hl => simp at hl

/-- the `(field, index)` labels of the child positions of a well-formed object are pairwise different -/
theorem kidsPos_snd_nodup (o : LObj) (ho : o.wf) : (o.kidsPos.map (·.2)).Nodup := by
  obtain ⟨hn, hw⟩ := ho
  unfold LObj.kidsPos
  generalize o.fields = fs at hn hw
  induction fs with
  | nil => simp
  | cons f r ih =>
    simp only [List.map_cons, List.nodup_cons] at hn
    simp only [List.flatMap_cons, List.map_append]
    rw [List.nodup_append]
    refine ⟨pos_snd_nodup f (hw f (List.mem_cons_self ..)), ih hn.2 (fun g hg => hw g (List.mem_cons_of_mem _ hg)), ?_⟩
    intro a ha b hb hab
    obtain ⟨e, he, rfl⟩ := List.mem_map.mp ha
    obtain ⟨e', he', rfl⟩ := List.mem_map.mp hb
    obtain ⟨g, hg, heg⟩ := List.mem_flatMap.mp he'
    have h1 := pos_field_name f e he
    have h2 := pos_field_name g e' heg
    apply hn.1
    have : f.name = g.name := by rw [← h1, ← h2, hab]
    rw [this]
    exact List.mem_map.mpr ⟨g, hg, rfl⟩

/-- an attached node holds no object twice -/
theorem kidList_nodup {s : LState} (hI : Inv Hc s) {u : Nat} (hu : Att s u) : (s.obj u).kidList.Nodup := by
  let g : Nat → Str × Option Nat := fun c => (((s.obj c).pfield).getD [], (s.obj c).pindex)
  have h1 : (s.obj u).kidsPos.map (·.2) = (s.obj u).kidList.map g := by
    rw [← kidsPos_map_fst, List.map_map]
    apply List.map_congr_left
    intro e he
    obtain ⟨_, _, hf, hi⟩ := hI.down' u hu e he
    simp [g, hf, hi]
  have h2 := kidsPos_snd_nodup (s.obj u) (hI.wf u)
  rw [h1] at h2
  exact nodup_of_nodup_map g _ h2

/-- a stored child of an attached node is attached and points back at it -/
theorem kid_att {s : LState} (hI : Inv Hc s) {u c : Nat} (hu : Att s u) (hc : c ∈ (s.obj u).kidList) :
    Att s c ∧ s.parent c = some u := by
  obtain ⟨e, he, rfl⟩ := (mem_kidList_iff _ _).mp hc
  exact ⟨(hI.down' u hu e he).1, holder_is_parent Hc hI hu he⟩

/-- two attached ancestors of one node are comparable -/
theorem desc_comparable {s : LState} (hI : Inv Hc s) {a b x : Nat} (ha : Att s a) (hb : Att s b)
    (h1 : Desc s a x) (h2 : Desc s b x) : Desc s a b ∨ Desc s b a := by
  induction h1 with
  | refl => exact .inr h2
  | @step q' q hd' hk ih =>
    cases h2 with
    | refl => exact .inl (.step hd' hk)
    | @step q'' _ hd'' hk' =>
      have p1 := (kid_att Hc hI (upFree_of_desc hI ha hd' (fun _ _ hx => hx.elim)).1 hk).2
      rw [(kid_att Hc hI (upFree_of_desc hI hb hd'' (fun _ _ hx => hx.elim)).1 hk').2] at p1
      cases p1
      exact ih hd''

/-- two different children of an attached node have no common descendant -/
theorem siblings_disjoint {s : LState} (hI : Inv Hc s) {r : Nat → Nat}
    (hr : ∀ x, x < s.size → ∀ c ∈ (s.obj x).kidList, r c < r x) {u a b x : Nat} (hu : Att s u)
    (ha : a ∈ (s.obj u).kidList) (hb : b ∈ (s.obj u).kidList) (hab : a ≠ b)
    (h1 : Desc s a x) (h2 : Desc s b x) : False := by
  have hus := att_lt hI hu
  -- a child is not below another child: the rank would not decrease
  have key : ∀ a b, a ∈ (s.obj u).kidList → b ∈ (s.obj u).kidList → a ≠ b → Desc s a b → False := by
    intro a b ha hb hab hd
    cases hd with
    | refl => exact hab rfl
    | @step q' _ hd' hk =>
      have p1 := (kid_att Hc hI (upFree_of_desc hI (kid_att Hc hI hu ha).1 hd' (fun _ _ hx => hx.elim)).1 hk).2
      rw [(kid_att Hc hI hu hb).2] at p1
      cases p1
      have h3 := (ranked_desc_le hr hI.closed (hI.closed u hus a ha) hd').1
      have h4 := hr u hus a ha
      omega
  rcases desc_comparable Hc hI (kid_att Hc hI hu ha).1 (kid_att Hc hI hu hb).1 h1 h2 with h | h
  · exact key a b ha hb hab h
  · exact key b a hb ha (fun e => hab e.symm) h

/-- the identities in the tree below an attached node are pairwise different -/
theorem descU_nodup {s : LState} (hI : Inv Hc s) (hR : Ranked s) : ∀ u, Att s u → (descU s u).Nodup := by
  obtain ⟨r, hr⟩ := id hR
  suffices h : ∀ u, u < s.size → Att s u → (descU s u).Nodup from fun u hu => h u (att_lt hI hu) hu
  refine ranked_induction hR hI.closed fun u hus ih hu => ?_
  rw [descU_unfold hR hI.closed hus, List.nodup_cons]
  constructor
  · intro hm
    obtain ⟨c, hc, hxc⟩ := List.mem_flatMap.mp hm
    have hcs := hI.closed u hus c hc
    have h1 := (ranked_desc_le hr hI.closed hcs (descU_desc hR hI.closed c hcs u hxc)).1
    have h2 := hr u hus c hc
    omega
  · unfold List.Nodup
    rw [List.pairwise_flatMap]
    constructor
    · intro c hc
      exact ih c hc (kid_att Hc hI hu hc).1
    · have hnd := kidList_nodup Hc hI hu
      unfold List.Nodup at hnd
      refine hnd.imp_of_mem ?_
      intro a b ha hb hab x hxa y hyb hxy
      subst hxy
      exact siblings_disjoint Hc hI hr hu ha hb hab
        (descU_desc hR hI.closed a (hI.closed u hus a ha) x hxa)
        (descU_desc hR hI.closed b (hI.closed u hus b hb) x hyb)

/-- **the tree an attached node represents satisfies the successor's `Tree` precondition**: no node object
occurs twice -/
theorem treeOf_noRepeat {s : LState} (hI : Inv Hc s) (hR : Ranked s) {u : Nat} (hu : Att s u) :
    NoRepeat (treeOf s u) := descU_nodup Hc hI hR u hu

/-- … and it has at most as many nodes as there are objects -/
theorem treeOf_size_le {s : LState} (hI : Inv Hc s) (hR : Ranked s) {u : Nat} (hu : Att s u) :
    (treeOf s u).size ≤ s.size := by
  obtain ⟨r, hr⟩ := id hR
  have h1 := descU_nodup Hc hI hR u hu
  have h2 := length_le_of_nodup_lt s.size (descU s u) h1 (fun x hx =>
    (ranked_desc_le hr hI.closed (att_lt hI hu) (descU_desc hR hI.closed u (att_lt hI hu) x hx)).2)
  simpa [descU, allNodes_length] using h2

/-- **the nodes of the represented tree are exactly the trees of the objects reachable along child links** -/
theorem mem_allNodes_treeOf {s : LState} (hR : Ranked s) (hC : Closed s) {u : Nat} (hu : u < s.size) (m : Node) :
    m ∈ allNodes (treeOf s u) ↔ ∃ x, Desc s u x ∧ m = treeOf s x := by
  constructor
  · revert m
    refine ranked_induction hR hC (P := fun u => ∀ m ∈ allNodes (treeOf s u), ∃ x, Desc s u x ∧ m = treeOf s x)
      (fun u hu ih m hm => ?_) u hu
    rw [allNodes_unfold, treeOf_edges hR hC hu] at hm
    rcases List.mem_cons.mp hm with rfl | hm
    · exact ⟨u, .refl, rfl⟩
    · obtain ⟨ce, hce, hmc⟩ := List.mem_flatMap.mp hm
      obtain ⟨e, he, rfl⟩ := List.mem_map.mp hce
      have hc : e.1 ∈ (s.obj u).kidList := (mem_kidList_iff _ _).mpr ⟨e, he, rfl⟩
      obtain ⟨x, hx, rfl⟩ := ih e.1 hc m hmc
      exact ⟨x, Desc.trans_kid hc hx, rfl⟩
  · rintro ⟨x, hd, rfl⟩
    induction hd with
    | refl => rw [allNodes_unfold]; exact List.mem_cons_self ..
    | @step q' q hd' hk ih =>
      obtain ⟨r, hr⟩ := id hR
      have hq' := (ranked_desc_le hr hC hu hd').2
      obtain ⟨e, he, he1⟩ := (mem_kidList_iff _ _).mp hk
      have hedge : (treeOf s q, (⟨e.2.1, e.2.2⟩ : Edge)) ∈ (treeOf s q').edges := by
        rw [treeOf_edges hR hC hq']
        exact List.mem_map.mpr ⟨e, he, by rw [he1]⟩
      have h1 := C06.item_of_parent (treeOf s u) ((C06.isTreeNode_iff _ _).mpr ih) hedge
      exact (C06.isTreeNode_iff _ _).mp (.inr ⟨_, h1, rfl⟩)

/-! ### the parent chain of the heap is the chain of the tree -/

theorem edgeOf_root {s : LState} (hI : Inv Hc s) (hP : ParentClean s) {u : Nat} (hp : s.parent u = none) :
    edgeOf s u = none := by
  unfold edgeOf
  rw [(hP u).1 (hI.pid_none_of_root hp)]

theorem heapChain_last (s : LState) (u : Nat) (l : List Nat) :
    heapChain s u l = (l.map (posOf s)).reverse ++ [(treeOf s u, edgeOf s u)] := by
  simp [heapChain, upList, posOf]

/-- For an attached node `u` whose parent pointers lead through `l` (`node.ancestors()`, nearest
first) to the root `topOf u l`, the list of `(object, own parent slots)` read off the heap, root first, is a
root-first chain of the tree that the root object represents, and it ends in the position of `u` -/
theorem heapChain_isChain {s : LState} (hI : Inv Hc s) (hR : Ranked s) (hP : ParentClean s) {u : Nat} {l : List Nat}
    (hu : Att s u) (h : UpChain s u l) : IsChain (treeOf s (topOf u l)) (heapChain s u l) := by
  induction h with
  | @root u hp =>
    rw [heapChain_last, edgeOf_root Hc hI hP hp]
    exact IsChain.root
  | @step u p l hp hc ih =>
    obtain ⟨hpa, f, hf, hm⟩ := parent_is_holder Hc hI hu hp
    have ih' := ih hpa
    have he : edgeOf s u = some ⟨f, (s.obj u).pindex⟩ := by unfold edgeOf; rw [hf]
    rw [heapChain_last] at ih' ⊢
    rw [he, List.map_cons, List.reverse_cons]
    refine IsChain.snoc _ _ _ _ _ ih' ?_
    rw [treeOf_edges hR hI.closed (att_lt hI hpa)]
    exact List.mem_map.mpr ⟨_, hm, rfl⟩

/-- the root the parent pointers end in is attached, has no parent, and `u` lies below it -/
theorem topOf_spec {s : LState} (hI : Inv Hc s) {u : Nat} {l : List Nat} (hu : Att s u) (h : UpChain s u l) :
    Att s (topOf u l) ∧ s.parent (topOf u l) = none ∧ Desc s (topOf u l) u := by
  induction h with
  | root hp => exact ⟨hu, hp, .refl⟩
  | @step u p l hp _ ih =>
    obtain ⟨hpa, f, _, hm⟩ := parent_is_holder Hc hI hu hp
    obtain ⟨i1, i2, i3⟩ := ih hpa
    exact ⟨i1, i2, .step i3 ((mem_kidList_iff _ _).mpr ⟨_, hm, rfl⟩)⟩

/-- **… and it is THE chain**: any root-first chain of the represented tree that ends in (an object with the
identity of) `u` is the one read off the parent pointers — same members, same fields and indices -/
theorem heapChain_unique {s : LState} (hI : Inv Hc s) (hR : Ranked s) (hP : ParentClean s) {u : Nat} {l : List Nat}
    (hu : Att s u) (h : UpChain s u l) (c : Chain) (n : Node) (oe : Option Edge)
    (hc : IsChain (treeOf s (topOf u l)) (c ++ [(n, oe)])) (hn : n.uid = u) :
    c ++ [(n, oe)] = heapChain s u l := by
  have h1 := heapChain_isChain Hc hI hR hP hu h
  rw [heapChain_last] at h1 ⊢
  have hnr := treeOf_noRepeat Hc hI hR (topOf_spec Hc hI hu h).1
  obtain ⟨e1, e2, e3⟩ := C06.chain_unique_uid _ hnr c _ n (treeOf s u) oe (edgeOf s u) hc h1 (by simp [hn])
  rw [e1, e2, e3]

end C20
end PyOak
