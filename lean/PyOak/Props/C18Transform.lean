/-
C18 for the legacy TRANSFORM VISITOR (`ASTTransformVisitor.transform`) and TRANSFORMER (`ASTTransformer.execute`),
modelled in Model/LegacyTransform.lean as compositions of the primitive operations of the legacy machine (`stepX`,
`LOpX.tvisit / texec`, user callbacks = rule table).  For all states, rule tables, receivers and fuel:

The state after a transformation is `run s ops` for the list `ops` of primitive operations it performed
(`tvisit_is_run`, `texec_is_run`, from Props/LegacyTrace.lean), every one of which returned when the transformation
returned (`tvisit_ok_allOk`, `texec_ok_allOk`).  Hence a transformation that returns preserves `Inv` whenever each
constituent request is well formed (`ProvedRun`: `LOp.proved` at the state in which the step is taken, decidable;
every `replace_with` is covered): `inv_of_tr`, with the instances `inv_tvisit_partial`, `inv_texec_partial`, and
`inv_stepX_partial`, `inv_runX_partial` for the extended machine.  The well-formedness is a hypothesis: it is not derived
from the shape of the visitor / transformer.

A rule table that changes nothing.  `execute` with rules that match no node of the subtree returns the receiver and the
state is literally unchanged (`texec_unchanged`); so is `transform` of a node whose subtree is detached and matched by no
rule (`tvisit_quiet_unchanged`).  `transform` of an ATTACHED receiver is NOT the identity on the state, as coded: the
visitor returns the CLONE (nothing changed ⇒ `generic_visit` returns its argument, which is the clone) and `transform`
then replaces the original by it; the primitive steps are exactly `[dup u (clone), rwith u (some clone)]`
(`tvisit_clone_swap_partial`).  Its hypothesis that the clone's subtree is detached and matched by no rule in the state
after `duplicate` (`Quiet`, decidable) is what `duplicate(as_detached_clone=True)` guarantees; that is not proved here.
-/
import PyOak.Props.LegacyTrace
import PyOak.Props.C18
import PyOak.Props.C18Queries   -- + C18Ranked, C18Acyclic (acyclicity of admissible histories, upward queries)
namespace PyOak.Legacy.C18T
open PyOak PyOak.Legacy LState PyOak.Legacy.C18

section
variable (H Hc : Str → Str)

/-- every primitive step is a well-formed request (`C18.LOp.proved`) at the state in which it is taken -/
def ProvedRun : LState → List LOp → Prop
  | _, [] => True
  | s, op :: r => LOp.proved s op ∧ ProvedRun (step H Hc s op).1 r

instance decProvedRun : ∀ (ops : List LOp) (s : LState), Decidable (ProvedRun H Hc s ops)
  | [], _ => isTrue trivial
  | op :: r, s =>
    have := decProvedRun r (step H Hc s op).1
    show Decidable (_ ∧ _) from inferInstance

theorem goodRun_of : ∀ (ops : List LOp) (s : LState), ProvedRun H Hc s ops → AllOk H Hc s ops → GoodRun H Hc s ops := by
  intro ops
  induction ops with
  | nil => intro s _ _; trivial
  | cons op r ih => intro s hp ha; exact ⟨hp.1, ha.1, ih _ hp.2 ha.2⟩

/-- the state after `transform` is the run of its primitive operations -/
theorem tvisit_is_run (rules : List Rule) (s : LState) (u : Nat) :
    (tvisit H Hc rules s u).s = run H Hc s (tvisit H Hc rules s u).ops := (tvisit_tr H Hc rules s u).1

theorem texec_is_run (rules : List Rule) (s : LState) (u : Nat) :
    (texec H Hc rules s u).s = run H Hc s (texec H Hc rules s u).ops := (texec_tr H Hc rules s u).1

/-- a transformation that returns has not swallowed any rejected primitive step -/
theorem tvisit_ok_allOk (rules : List Rule) (s : LState) (u : Nat) (hok : (tvisit H Hc rules s u).ok = true) :
    AllOk H Hc s (tvisit H Hc rules s u).ops := (tvisit_tr H Hc rules s u).2 hok

theorem texec_ok_allOk (rules : List Rule) (s : LState) (u : Nat) (hok : (texec H Hc rules s u).ok = true) :
    AllOk H Hc s (texec H Hc rules s u).ops := (texec_tr H Hc rules s u).2 hok

/-- a traced computation that returns preserves the invariant, provided each of its primitive steps is a
well-formed request -/
theorem inv_of_tr {α : Type} {s : LState} {r : TOut α} (ht : Tr H Hc s r) (hI : Inv Hc s) (hok : r.ok = true)
    (hp : ProvedRun H Hc s r.ops) : Inv Hc r.s := by
  rw [ht.1]
  exact inv_run H Hc _ s hI (goodRun_of H Hc _ s hp (ht.2 hok))

/-- `ASTTransformVisitor.transform` that returns preserves the invariant, provided each of its
primitive steps is a well-formed request -/
theorem inv_tvisit_partial {rules : List Rule} {s : LState} {u : Nat} (hI : Inv Hc s)
    (hok : (tvisit H Hc rules s u).ok = true) (hp : ProvedRun H Hc s (tvisit H Hc rules s u).ops) :
    Inv Hc (tvisit H Hc rules s u).s := inv_of_tr H Hc (tvisit_tr H Hc rules s u) hI hok hp

/-- `ASTTransformer.execute` likewise -/
theorem inv_texec_partial {rules : List Rule} {s : LState} {u : Nat} (hI : Inv Hc s)
    (hok : (texec H Hc rules s u).ok = true) (hp : ProvedRun H Hc s (texec H Hc rules s u).ops) :
    Inv Hc (texec H Hc rules s u).s := inv_of_tr H Hc (texec_tr H Hc rules s u) hI hok hp

/-- well-formed requests of the extended machine: those of the primitive steps a transformation takes -/
def LOpX.proved (s : LState) : LOpX → Prop
  | .base op => LOp.proved s op
  | .tvisit u rules => ProvedRun H Hc s (tvisit H Hc rules s u).ops
  | .texec u rules => ProvedRun H Hc s (texec H Hc rules s u).ops

instance (s : LState) (op : LOpX) : Decidable (LOpX.proved H Hc s op) := by
  cases op <;> unfold LOpX.proved <;> infer_instance

theorem ofOptNode_ok {r : TOut (Option Nat)} {s' : LState} {out : LOut} (h : ofOptNode r = (s', out))
    (hok : out.isOk = true) : r.ok = true ∧ s' = r.s := by
  obtain ⟨s, t, res⟩ := r
  cases res with
  | error e => simp [ofOptNode] at h; obtain ⟨_, rfl⟩ := h; simp [LOut.isOk] at hok
  | ok x => cases x <;> (simp [ofOptNode] at h; exact ⟨rfl, h.1.symm⟩)

theorem stepX_tvisit (s : LState) (u : Nat) (rules : List Rule) : stepX H Hc s (.tvisit u rules) =
    if s.size ≤ u then (s, .raised .badRequest) else ofOptNode (tvisit H Hc rules s u) := rfl
theorem stepX_texec (s : LState) (u : Nat) (rules : List Rule) : stepX H Hc s (.texec u rules) =
    if s.size ≤ u then (s, .raised .badRequest) else ofOptNode (texec H Hc rules s u) := rfl

/-- one step of the extended machine -/
theorem inv_stepX_partial {s s' : LState} {op : LOpX} {out : LOut} (hI : Inv Hc s) (hp : LOpX.proved H Hc s op)
    (h : stepX H Hc s op = (s', out)) (hok : out.isOk = true) : Inv Hc s' := by
  cases op with
  | base op => exact inv_step H Hc hI hp h hok
  | tvisit u rules =>
    rw [stepX_tvisit] at h
    split at h
    · cases h; simp [LOut.isOk] at hok
    · obtain ⟨h1, rfl⟩ := ofOptNode_ok h hok
      exact inv_tvisit_partial H Hc hI h1 hp
  | texec u rules =>
    rw [stepX_texec] at h
    split at h
    · cases h; simp [LOut.isOk] at hok
    · obtain ⟨h1, rfl⟩ := ofOptNode_ok h hok
      exact inv_texec_partial H Hc hI h1 hp

/-- a history of well-formed requests of the extended machine all of which returned -/
def GoodRunX : LState → List LOpX → Prop
  | _, [] => True
  | s, op :: r => LOpX.proved H Hc s op ∧ (stepX H Hc s op).2.isOk = true ∧ GoodRunX (stepX H Hc s op).1 r

def decGoodRunX : ∀ (ops : List LOpX) (s : LState), Decidable (GoodRunX H Hc s ops)
  | [], _ => isTrue trivial
  | op :: r, s =>
    have := decGoodRunX r (stepX H Hc s op).1
    inferInstanceAs (Decidable
      (LOpX.proved H Hc s op ∧ (stepX H Hc s op).2.isOk = true ∧ GoodRunX H Hc (stepX H Hc s op).1 r))

instance (s : LState) (ops : List LOpX) : Decidable (GoodRunX H Hc s ops) := decGoodRunX H Hc ops s

/-- lifted over histories that mix primitive operations, visitors and transformers -/
theorem inv_runX_partial : ∀ (ops : List LOpX) (s : LState), Inv Hc s → GoodRunX H Hc s ops →
    Inv Hc (runX H Hc s ops) := by
  intro ops
  induction ops with
  | nil => intro s hI _; exact hI
  | cons op r ih =>
    intro s hI hg
    obtain ⟨hp, hok, hr⟩ := hg
    unfold runX
    simp only [List.foldl_cons]
    exact ih _ (inv_stepX_partial H Hc hI hp rfl hok) hr

/-- `execute` with rules that match no node of the subtree: no primitive step, the receiver is returned -/
theorem texec_unchanged {rules : List Rule} {s : LState} {u : Nat} {l : List Nat}
    (hpo : postOrder (fuelOf s) s u = some l) (hno : ∀ c ∈ l, ruleOf rules (s.obj c) = none) :
    texec H Hc rules s u = ⟨s, [], .ok (some u)⟩ := by
  unfold texec
  rw [hpo]
  have : l.filter (fun c => (ruleOf rules (s.obj c)).isSome) = [] := by
    rw [List.filter_eq_nil_iff]
    intro c hc; rw [hno c hc]; simp
  simp only [this, execLoop]

theorem stepX_texec_unchanged {rules : List Rule} {s : LState} {u : Nat} {l : List Nat} (hu : u < s.size)
    (hpo : postOrder (fuelOf s) s u = some l) (hno : ∀ c ∈ l, ruleOf rules (s.obj c) = none) :
    stepX H Hc s (.texec u rules) = (s, .node u) := by
  rw [stepX_texec, if_neg (by omega), texec_unchanged H Hc hpo hno]
  rfl

/-- the whole subtree (depth < fuel) is detached and no rule applies anywhere in it -/
def Quiet (rules : List Rule) (s : LState) : Nat → Nat → Prop
  | 0, _ => False
  | fuel + 1, u => s.detached u = true ∧ ruleOf rules (s.obj u) = none ∧
      ∀ c ∈ (s.obj u).kidList, Quiet rules s fuel c

def decQuiet (rules : List Rule) (s : LState) : ∀ (fuel u : Nat), Decidable (Quiet rules s fuel u)
  | 0, _ => isFalse (fun h => h)
  | fuel + 1, u =>
    have : ∀ c, Decidable (Quiet rules s fuel c) := decQuiet rules s fuel
    inferInstanceAs (Decidable (s.detached u = true ∧ ruleOf rules (s.obj u) = none ∧
      ∀ c ∈ (s.obj u).kidList, Quiet rules s fuel c))

instance (rules : List Rule) (s : LState) (fuel u : Nat) : Decidable (Quiet rules s fuel u) := decQuiet rules s fuel u

theorem tKids_quiet (rec : LState → Nat → TOut (Option Nat)) (s : LState) :
    ∀ (ks : List Nat), (∀ c ∈ ks, rec s c = ⟨s, [], .ok (some c)⟩) → tKids rec s ks = ⟨s, [], .ok (ks, false)⟩ := by
  intro ks
  induction ks with
  | nil => intro _; rfl
  | cons c cs ih =>
    intro h
    unfold tKids
    rw [h c (List.mem_cons_self ..)]
    simp only [ih (fun x hx => h x (List.mem_cons_of_mem _ hx))]
    simp

theorem tFields_quiet (rec : LState → Nat → TOut (Option Nat)) (s : LState) :
    ∀ (fs : List LField), (∀ c ∈ fs.flatMap (·.kids), rec s c = ⟨s, [], .ok (some c)⟩) →
      tFields rec s fs = ⟨s, [], .ok []⟩ := by
  intro fs
  induction fs with
  | nil => intro _; rfl
  | cons f fr ih =>
    intro h
    unfold tFields
    rw [tKids_quiet rec s f.kids (fun c hc => h c (by simp only [List.flatMap_cons]; exact List.mem_append_left _ hc))]
    simp only [ih (fun c hc => h c (by simp only [List.flatMap_cons]; exact List.mem_append_right _ hc))]
    simp

/-- the library's `generic_visit` on a node no rule matches and whose children come back unchanged -/
theorem visitBody_quiet {rules : List Rule} (rec : LState → Nat → TOut (Option Nat)) {s : LState} {u : Nat}
    (hr : ruleOf rules (s.obj u) = none) (hk : ∀ c ∈ (s.obj u).kidList, rec s c = ⟨s, [], .ok (some c)⟩) :
    visitBody H Hc rules rec s u = ⟨s, [], .ok (some u)⟩ := by
  unfold visitBody
  rw [hr]
  simp only [tFields_quiet rec s (s.obj u).fields hk]
  simp

theorem visitGo_quiet {rules : List Rule} {s : LState} : ∀ (fuel u : Nat), Quiet rules s fuel u →
    visitGo H Hc rules fuel s u = ⟨s, [], .ok (some u)⟩ := by
  intro fuel
  induction fuel with
  | zero => intro u h; exact h.elim
  | succ fuel ih =>
    intro u h
    obtain ⟨hd, hr, hk⟩ := h
    unfold visitGo
    rw [if_pos hd, visitBody_quiet H Hc _ hr (fun c hc => ih c (hk c hc))]

/-- `transform` of a detached subtree that no rule matches: nothing happens, the node is returned -/
theorem tvisit_quiet_unchanged {rules : List Rule} {s : LState} {u : Nat} (hq : Quiet rules s (fuelOf s) u) :
    tvisit H Hc rules s u = ⟨s, [], .ok (some u)⟩ := visitGo_quiet H Hc _ u hq

/-- `transform` of an ATTACHED node with rules that match nothing: the visitor returns the clone
itself and the original is replaced by it — the primitive steps are exactly `duplicate` and
`replace_with(clone)`, and the final state is that of this `replace_with` -/
theorem tvisit_clone_swap_partial {rules : List Rule} {s s1 : LState} {u n : Nat} (hatt : s.detached u = false)
    (hd : step H Hc s (.dup u true) = (s1, .node n))
    (hr : ruleOf rules (s1.obj n) = none) (hq : ∀ c ∈ (s1.obj n).kidList, Quiet rules s1 s.size c) :
    (tvisit H Hc rules s u).ops = [.dup u true, .rwith u (some n)] ∧
    (tvisit H Hc rules s u).s = (step H Hc s1 (.rwith u (some n))).1 := by
  unfold tvisit fuelOf visitGo
  rw [if_neg (by simp [hatt])]
  have h1 : primNode H Hc s (.dup u true) = ⟨s1, [.dup u true], .ok (some n)⟩ := by
    unfold primNode; rw [hd]
  rw [h1]
  simp only
  rw [visitBody_quiet H Hc _ hr (fun c hc => visitGo_quiet H Hc _ c (hq c hc))]
  simp only
  cases hs : step H Hc s1 (.rwith u (some n)) with
  | mk s3 o => cases o <;> simp [primUnit, hs]

end

section examples
open PyOak.Legacy.Ex

def setV (v : String) : Act := .set [⟨"v".toList, v.toList, true⟩]
/-- leaves with v = 1 become v = 7; leaves with v = 2 are replaced by a new leaf 9; leaves 3 are removed -/
def rulesA : List Rule :=
  [⟨"L".toList, some ("v".toList, "1".toList), setV "7"⟩,
   ⟨"L".toList, some ("v".toList, "2".toList), .make (leaf "9")⟩,
   ⟨"L".toList, some ("v".toList, "3".toList), .remove⟩]

/-- leaves 1, 2, 3 under a tuple (object 3), a fourth leaf (object 4) under a unary node (object 5) -/
def histT : List LOp :=
  [.new (leaf "1"), .new (leaf "2"), .new (leaf "3"), .new (tup [0, 1, 2]), .new (leaf "4"), .new (un 4)]

abbrev stX (ops : List LOpX) : LState := runX id id init ops
def histX : List LOpX := histT.map .base

-- `‹_›` below stands for a hypothesis whose statement is a recursive predicate over the operations of a transformation:
-- the elaborator normalises the type of a named term that is not yet a function type, looking for further binders
private theorem inv_histT : Inv id (st histT) := C18.inv_run_init id id histT (by decide +kernel)

-- the visitor on the tuple: clone, three transformed children, replace(items=…) on the clone, replace_with
private theorem tvisitA :
    (tvisit id id rulesA (st histT) 3).ok = true ∧ (tvisit id id rulesA (st histT) 3).ops.length = 5 ∧
      ProvedRun id id (st histT) (tvisit id id rulesA (st histT) 3).ops := by decide +kernel
example : (tvisit id id rulesA (st histT) 3).ops.length = 5 := tvisitA.2.1
example : (tvisit id id rulesA (st histT) 3).ok = true := tvisitA.1
example : ProvedRun id id (st histT) (tvisit id id rulesA (st histT) 3).ops := by decide +kernel
example : Inv id (tvisit id id rulesA (st histT) 3).s :=
  have ⟨hok, _, _⟩ := tvisitA
  inv_tvisit_partial id id inv_histT hok ‹_›
example : (tvisit id id rulesA (st histT) 3).s = run id id (st histT) (tvisit id id rulesA (st histT) 3).ops :=
  tvisit_is_run id id rulesA (st histT) 3
example := tvisit_ok_allOk id id rulesA (st histT) 3 tvisitA.1
-- the transformer on the same tuple with rules that only `replace`: two primitive steps, both in the proved fragment
def rulesB : List Rule :=
  [⟨"L".toList, some ("v".toList, "1".toList), setV "7"⟩, ⟨"L".toList, some ("v".toList, "2".toList), setV "8"⟩]
private theorem texecB :
    (texec id id rulesB (st histT) 3).ok = true ∧ (texec id id rulesB (st histT) 3).ops.length = 2 ∧
      ProvedRun id id (st histT) (texec id id rulesB (st histT) 3).ops := by decide +kernel
example : (texec id id rulesB (st histT) 3).ops.length = 2 := texecB.2.1
example : Inv id (texec id id rulesB (st histT) 3).s :=
  have ⟨hok, _, _⟩ := texecB
  inv_texec_partial id id inv_histT hok ‹_›
example : (texec id id rulesA (st histT) 3).s = run id id (st histT) (texec id id rulesA (st histT) 3).ops :=
  texec_is_run id id rulesA (st histT) 3
private theorem texecA :
    (texec id id rulesA (st histT) 3).ok = true ∧ (texec id id rulesA (st histT) 3).ops.length = 4 ∧
      ((texec id id rulesA (st histT) 3).s.obj 3).kidList.length = 2 ∧
      ProvedRun id id (st histT) (texec id id rulesA (st histT) 3).ops := by decide +kernel
example := texec_ok_allOk id id rulesA (st histT) 3 texecA.1
-- with rulesA the transformer also calls replace_with(<attached new leaf>) and replace_with(None) on children of the tuple
example : (texec id id rulesA (st histT) 3).ops.length = 4 := texecA.2.1
example : ProvedRun id id (st histT) (texec id id rulesA (st histT) 3).ops := by decide +kernel
example : Inv id (texec id id rulesA (st histT) 3).s :=
  have ⟨hok, _, _, _⟩ := texecA
  inv_texec_partial id id inv_histT hok ‹_›
-- the tuple really changed: two children left after the visitor / the transformer
example : ((texec id id rulesA (st histT) 3).s.obj 3).kidList.length = 2 := texecA.2.2.1
private theorem good_histX : GoodRunX id id init (histX ++ [.tvisit 3 rulesA, .texec 5 rulesB, .texec 3 rulesB]) := by
  decide +kernel
example : GoodRunX id id init (histX ++ [.tvisit 3 rulesA, .texec 5 rulesB, .texec 3 rulesB]) := good_histX
example : Inv id (stX (histX ++ [.tvisit 3 rulesA, .texec 5 rulesB, .texec 3 rulesB])) :=
  inv_runX_partial id id _ init (C18.inv_init id) good_histX
example : Inv id (stepX id id (stX histX) (.tvisit 3 rulesA)).1 :=
  have ⟨hg, hok, _⟩ : GoodRunX id id init histX ∧ (stepX id id (stX histX) (.tvisit 3 rulesA)).2.isOk = true ∧
      LOpX.proved id id (stX histX) (.tvisit 3 rulesA) := by decide +kernel
  inv_stepX_partial id id (s := stX histX) (op := .tvisit 3 rulesA)
    (out := (stepX id id (stX histX) (.tvisit 3 rulesA)).2)
    (inv_runX_partial id id histX init (C18.inv_init id) hg) ‹_› (Prod.eta _).symm hok
-- no rule matches below the unary node 5 (its leaf has v = 4)
private theorem quiet5 : 5 < (st histT).size ∧ postOrder (fuelOf (st histT)) (st histT) 5 = some [4, 5] ∧
    ∀ c ∈ [4, 5], ruleOf rulesA ((st histT).obj c) = none := by decide +kernel
example : texec id id rulesA (st histT) 5 = ⟨st histT, [], .ok (some 5)⟩ :=
  texec_unchanged id id (l := [4, 5]) quiet5.2.1 quiet5.2.2
example : stepX id id (st histT) (.texec 5 rulesA) = (st histT, .node 5) :=
  stepX_texec_unchanged id id (l := [4, 5]) quiet5.1 quiet5.2.1 quiet5.2.2
-- a detached copy of the unary node (objects 6, 7): the visitor changes nothing
def histD : List LOp := histT ++ [.dup 5 true]
example : Quiet rulesA (st histD) (fuelOf (st histD)) 7 := by decide +kernel
example : tvisit id id rulesA (st histD) 7 = ⟨st histD, [], .ok (some 7)⟩ :=
  tvisit_quiet_unchanged id id (by decide +kernel)
-- the ATTACHED unary node 5 with rules that match nothing: it is replaced by its clone 7
example : (tvisit id id rulesA (st histT) 5).ops = [.dup 5 true, .rwith 5 (some 7)] :=
  have h : (st histT).detached 5 = false ∧ (step id id (st histT) (.dup 5 true)).2 = .node 7 ∧
      ruleOf rulesA ((step id id (st histT) (.dup 5 true)).1.obj 7) = none ∧
      ∀ c ∈ ((step id id (st histT) (.dup 5 true)).1.obj 7).kidList,
        Quiet rulesA (step id id (st histT) (.dup 5 true)).1 (st histT).size c := by decide +kernel
  (tvisit_clone_swap_partial id id (rules := rulesA) (s := st histT) (s1 := (step id id (st histT) (.dup 5 true)).1) (u := 5) (n := 7)
    h.1 (C18.eq_mk_of_snd h.2.1) h.2.2.1 h.2.2.2).1
example : (tvisit id id rulesA (st histT) 5).s.detached 5 = true ∧ (tvisit id id rulesA (st histT) 5).s.detached 7 = false := by
  decide +kernel

end examples

end PyOak.Legacy.C18T
