/-
C18 — Legacy parent-aware trees stay structurally consistent through any history.

Model: `PyOak.Legacy.step` (Model/Legacy.lean), the state machine of `AwareASTNode` as coded.
Invariant: `PyOak.Legacy.Inv` (Props/LegacyBase.lean):

  regSound    the registry maps an id only to an existing object carrying that id
  down        every attached node's children are attached and report it as parent with the right field and index
  up          an attached node with a parent is stored in that parent at exactly that position
  cid         the cached content id of an attached node = digest of its own content and the cached content ids of
              its children  (⇒ `cid_eq_spec`: = content id of an independently built equal tree, i.e. changes have
              propagated to all ancestors)
  noDangling  a stored parent id resolves, and only attached nodes store one
  closed      children of existing objects exist
  noSelf      no node is its own parent
  wf          child-field names of an object are distinct, a single field holds at most one node

"lookup returns each attached node under its id" is the definition of attached (`Att`) together with `regSound`;
`ancestors`, `get_depth`, `is_ancestor` and the calculated xpath are walks along `parent`, which by `up` / `down` is
the structural parent (`parent_is_holder`, `ancestors_chain`).

Proved for all states, arguments and fuel, with no admissibility hypothesis (`_attach` itself rejects a
node that would end up at two positions): `step_ok` says what an answered step is, then one theorem per operation
about the operation itself (Props/Legacy*.lean), `inv_step` for any operation and `inv_run` / `inv_run_init` for
histories each of whose steps returned.
  * `replace` on a child goes through the invariant "with one hole" (Props/LegacyReplace.lean: clearParent_invX opens
    it, replaceChild_some_inv closes it) and the `_reset_content_id` walk (resetContentId_inv: the one stale content id
    moves one node up per step = "changes propagate to all ancestors").
  * `replace_with(new)`, every receiver and every argument.  new = None on a child: `_replace_child` removes the child
    and shifts the later siblings down (Props/LegacyRemove.lean).  new = an attached root: it is popped from the
    registry, takes the receiver's id and is attached again; in between its children's parent ids dangle, the commit
    step of `_attach` overwrites those slots, so the result is that of `detach_self()` + id swap + commit
    (Props/LegacyTakeOver.lean); `child.replace_with(its own attached-root parent)` is rejected.  The invariant does
    not exclude cycles, but on a heap with a cycle through the receiver its `detach()` never returns (the model
    answers `hang`), so an answered call had none (Props/LegacyCycle.lean).
The only side conditions (`LOp.proved`) are well-formedness of a construct / replace request: distinct child-field
names, at most one node in a single field.

The transform visitor and `ASTTransformer.execute` are compositions of these operations driven by a rule table
(Model/LegacyTransform.lean); their theorems are in Props/C18Transform.lean.

An inadmissible argument, not a proof gap: `node.replace_with(r)` with `r` the attached root of the tree containing
`node` puts `r` under its own descendant; the `_reset_content_id` walk then never ends (the model answers `hang`, the
library loops) -- the example on `histC` below.
-/
import PyOak.Props.LegacyDetach
import PyOak.Props.LegacyConstruct
import PyOak.Props.LegacyReplace
import PyOak.Props.LegacyRemove
import PyOak.Props.LegacyCycle
import PyOak.Props.LegacyTakeOver
namespace PyOak.Legacy.C18
open PyOak PyOak.Legacy LState

variable (H Hc : Str → Str)

theorem inv_init : Inv Hc init := by
  -- every clause is vacuous: nothing is registered, and the default object has no parent slots and no fields
  refine ⟨?_, ?_, ?_, ?_, ?_, ?_, ?_, ?_⟩ <;> intros <;>
    simp_all [init, Att, LState.lookup, LState.parent, LState.obj, regGet, LObj.wf, default, instInhabitedLObj.default]

theorem refs_lt {s : LState} {op : LOp} (h : (op.refs.any fun u => decide (s.size ≤ u)) = false) :
    ∀ u ∈ op.refs, u < s.size := by
  intro u hu
  have := List.any_eq_false.mp h u hu
  simp at this; omega

theorem ofNode_ok {p : LState × Except Err Nat} {s' : LState} {out : LOut} (h : ofNode p = (s', out))
    (hok : out.isOk = true) : ∃ n, p = (s', .ok n) := by
  obtain ⟨s, _ | n⟩ := p <;> cases h
  · cases hok
  · exact ⟨n, rfl⟩

theorem ofUnit_ok {p : LState × Except Err Unit} {s' : LState} {out : LOut} (h : ofUnit p = (s', out))
    (hok : out.isOk = true) : p = (s', .ok ()) := by
  obtain ⟨s, _ | _⟩ := p <;> cases h
  · cases hok
  · rfl

/-- **an answered step**: the request refers to existing objects only, and the new state is that of the
operation itself, which returned -/
theorem step_ok {s s' : LState} {op : LOp} {out : LOut} (h : step H Hc s op = (s', out)) (hok : out.isOk = true) :
    (∀ u ∈ op.refs, u < s.size) ∧
      match op with
      | .new sp => ∃ n, construct H Hc (fuelOf s) s sp = (s', .ok n)
      | .attach u => s' = s ∨ attach Hc (fuelOf s) s u = (s', .ok ())
      | .detach u os => ∃ b, detachGo (fuelOf s + 1) os s u = (s', some b)
      | .replace u ch => ∃ n, replace H Hc (fuelOf s) s u ch = (s', .ok n)
      | .rwith u new => replaceWith Hc (fuelOf s) s u new = (s', .ok ())
      | .dup u clone => ∃ n, duplicate H Hc (2 * fuelOf s) clone (fuelOf s) s u = (s', .ok n) := by
  unfold step at h
  split at h
  · cases h; cases hok
  · next hr =>
    refine ⟨refs_lt (by simpa using hr), ?_⟩
    cases op with
    | new sp => exact ofNode_ok h hok
    | attach u =>
      simp only at h
      split at h
      · cases h; exact .inl rfl
      · exact .inr (ofUnit_ok h hok)
    | detach u os =>
      simp only at h
      split at h
      · next b heq => cases h; exact ⟨b, heq⟩
      · cases h; cases hok
    | replace u ch => exact ofNode_ok h hok
    | rwith u new => exact ofUnit_ok h hok
    | dup u clone => exact ofNode_ok h hok

/-- construction over existing children (any flags, any kind of children) -/
theorem inv_step_new {s s' : LState} {sp : NewSpec} {out : LOut} (hI : Inv Hc s) (hwf : (newObj sp).wf)
    (h : step H Hc s (.new sp) = (s', out)) (hok : out.isOk = true) : Inv Hc s' := by
  obtain ⟨hlt, n, hc⟩ := step_ok H Hc h hok
  exact (construct_inv H Hc hI hlt hwf hc).1

theorem inv_step_attach {s s' : LState} {u : Nat} {out : LOut} (hI : Inv Hc s)
    (h : step H Hc s (.attach u) = (s', out)) (hok : out.isOk = true) : Inv Hc s' := by
  obtain ⟨hlt, rfl | ha⟩ := step_ok H Hc h hok
  · exact hI
  · exact (attach_inv Hc hI (hlt u (List.mem_singleton_self u)) ha).1

theorem inv_step_detach {s s' : LState} {u : Nat} {os : Bool} {out : LOut} (hI : Inv Hc s)
    (h : step H Hc s (.detach u os) = (s', out)) (hok : out.isOk = true) : Inv Hc s' := by
  obtain ⟨_, b, hd⟩ := step_ok H Hc h hok
  exact detachGo_inv Hc hI hd

theorem inv_step_dup {s s' : LState} {u : Nat} {clone : Bool} {out : LOut} (hI : Inv Hc s)
    (h : step H Hc s (.dup u clone) = (s', out)) (hok : out.isOk = true) : Inv Hc s' := by
  obtain ⟨hlt, n, hc⟩ := step_ok H Hc h hok
  exact (duplicate_ok H Hc _ _ _ s u s' n hI (hlt u (List.mem_singleton_self u)) hc).1

theorem applyFields_kids {fs : List LField} {chf : List (Str × List Nat)} {c : Nat}
    (h : c ∈ (applyFields fs chf).flatMap (·.kids)) : c ∈ chf.flatMap (·.2) ∨ c ∈ fs.flatMap (·.kids) := by
  obtain ⟨fl, hfl, hcf⟩ := List.mem_flatMap.mp h
  unfold applyFields at hfl
  obtain ⟨f0, hf0, rfl⟩ := List.mem_map.mp hfl
  split at hcf
  · next nm ks hfind => exact .inl (List.mem_flatMap.mpr ⟨(nm, ks), List.mem_of_find?_eq_some hfind, hcf⟩)
  · exact .inr (List.mem_flatMap.mpr ⟨f0, hf0, hcf⟩)

/-- the `detach_self()` with which `replace` starts on an attached receiver without parent returns -/
theorem detachSelf_root {s s2 : LState} {u : Nat} (fuel : Nat) (hI : Inv Hc s) (hroot : s.parent u = none)
    (h : (if (!s.detached u) = true then (detachGo (fuel + 1) true s u).1 else s) = s2) :
    Inv Hc s2 ∧ s2.size = s.size ∧ ∀ v, (s2.obj v).fields = (s.obj v).fields := by
  subst h
  split
  · next hd =>
    have he := detach_self_eq (fuel := fuel) ((detached_eq_false_iff s u).mp (by simpa using hd)) hroot
    have hF := detachGo_facts (fuel + 1) true s u true (by rw [he])
    exact ⟨detachGo_inv Hc hI (Prod.ext rfl (by rw [he])), hF.shr.size, hF.shr.fields_eq⟩
  · exact ⟨hI, rfl, fun _ => rfl⟩

/-- `replace(**changes)` on a receiver that has no parent (an attached root or a detached node): an optional
`detach_self()`, then the construction of the new node over the given and the remaining children -/
theorem inv_step_replace_partial {s s' : LState} {u : Nat} {ch : Changes} {out : LOut} (hI : Inv Hc s)
    (hroot : s.parent u = none) (hwf : ch.wfFor (s.obj u))
    (h : step H Hc s (.replace u ch) = (s', out)) (hok : out.isOk = true) : Inv Hc s' := by
  obtain ⟨hlt, n, hr⟩ := step_ok H Hc h hok
  have hu : u < s.size := hlt u (List.mem_cons_self ..)
  unfold replace at hr
  split at hr
  · cases hr
  · simp only [hroot, Option.isSome_none, Bool.false_eq_true, if_false] at hr
    generalize hs2 : (if (!s.detached u) = true then (detachGo (fuelOf s + 1) true s u).1 else s) = s2 at hr
    obtain ⟨hI2, hsz2, hf2⟩ := detachSelf_root Hc _ hI hroot hs2
    split at hr
    · split at hr <;> cases hr
    · next s3 m hc =>
      have hkids : ∀ c ∈ (applyFields (s2.obj u).fields ch.fields).flatMap (·.kids), c < s2.size := by
        intro c hc'
        rw [hsz2]
        rcases applyFields_kids hc' with h | h
        · exact hlt c (List.mem_cons_of_mem _ h)
        · rw [hf2 u] at h; exact hI.closed u hu c h
      have hwf2 : ch.wfFor (s2.obj u) := by unfold Changes.wfFor; rw [hf2 u]; exact hwf
      obtain ⟨hI3, _, _⟩ := construct_inv H Hc hI2 hkids (applyFields_wf (hI2.wf u) hwf2 _ rfl) hc
      simp only [if_true, Prod.mk.injEq] at hr
      obtain ⟨rfl, _⟩ := hr
      exact inv_modify_meta Hc hI3 m _ _

/-- **`replace(**changes)`**, any receiver: attached root, attached child of a parent (the parent's
field is updated, the change of content id propagates to all ancestors), or detached node -/
theorem inv_step_replace {s s' : LState} {u : Nat} {ch : Changes} {out : LOut} (hI : Inv Hc s)
    (hwf : ch.wfFor (s.obj u))
    (h : step H Hc s (.replace u ch) = (s', out)) (hok : out.isOk = true) : Inv Hc s' := by
  cases hp : s.parent u with
  | none => exact inv_step_replace_partial H Hc hI hp hwf h hok
  | some p =>
    obtain ⟨hlt, n, hr⟩ := step_ok H Hc h hok
    exact replace_inv_parent H Hc hI (hlt u (List.mem_cons_self ..)) hp (fun c hc => hlt c (List.mem_cons_of_mem _ hc))
      hwf hr

/-- **`replace_with(new)`**: every receiver (attached root, detached node, child of a parent) and every
argument (`None`, a detached node, an attached root); no side condition -/
theorem inv_step_rwith {s s' : LState} {u : Nat} {new : Option Nat} {out : LOut} (hI : Inv Hc s)
    (h : step H Hc s (.rwith u new) = (s', out)) (hok : out.isOk = true) : Inv Hc s' := by
  obtain ⟨hlt, hr⟩ := step_ok H Hc h hok
  exact replaceWith_inv Hc hI (fun n hn => hlt n (by simp [LOp.refs, hn])) hr

/-- `replace_with(new)` on a receiver that has no parent, `new` being `None` or a detached node -/
theorem inv_step_rwith_partial {s s' : LState} {u : Nat} {new : Option Nat} {out : LOut} (hI : Inv Hc s)
    (hroot : s.parent u = none) (hnew : ∀ n, new = some n → s.detached n = true)
    (h : step H Hc s (.rwith u new) = (s', out)) (hok : out.isOk = true) : Inv Hc s' :=
  inv_step_rwith H Hc hI h hok

/-- `replace_with(new)` on a receiver that HAS a parent, `new` a detached node, the parent not being a
descendant of the receiver -/
theorem inv_step_rwith_parent_partial {s s' : LState} {u p n : Nat} {out : LOut} (hI : Inv Hc s)
    (hpar : s.parent u = some p) (hnd : s.detached n = true) (hacyc : ¬ Desc s u p)
    (h : step H Hc s (.rwith u (some n)) = (s', out)) (hok : out.isOk = true) : Inv Hc s' :=
  inv_step_rwith H Hc hI h hok

/-- `replace_with` on a child: `new` is a detached node and walking up from the parent reaches a root
without meeting the receiver (computable form of "the parent is not a descendant of the receiver") -/
def rwithParentOk (s : LState) (u : Nat) (new : Option Nat) : Bool :=
  match s.parent u, new with
  | some p, some n => s.detached n && upFree s u (s.size + 1) p
  | _, _ => false

/-- the request is well formed: for construct / replace the object asked for has distinct child-field names and at
most one node in a single field; no condition for the other operations (in particular every `replace_with`) -/
def LOp.proved (s : LState) : LOp → Prop
  | .new sp => (newObj sp).wf
  | .attach _ | .detach _ _ | .dup _ _ | .rwith _ _ => True
  | .replace u ch => ch.wfFor (s.obj u)

instance (s : LState) (op : LOp) : Decidable (LOp.proved s op) := by
  cases op <;> unfold LOp.proved <;> infer_instance

/-- **one step, any operation**, for a well-formed request -/
theorem inv_step {s s' : LState} {op : LOp} {out : LOut} (hI : Inv Hc s) (hp : LOp.proved s op)
    (h : step H Hc s op = (s', out)) (hok : out.isOk = true) : Inv Hc s' := by
  cases op with
  | new sp => exact inv_step_new H Hc hI hp h hok
  | attach u => exact inv_step_attach H Hc hI h hok
  | detach u os => exact inv_step_detach H Hc hI h hok
  | replace u ch => exact inv_step_replace H Hc hI hp h hok
  | rwith u n => exact inv_step_rwith H Hc hI h hok
  | dup u c => exact inv_step_dup H Hc hI h hok

/-- a history of well-formed requests all of which returned -/
def GoodRun : LState → List LOp → Prop
  | _, [] => True
  | s, op :: r => LOp.proved s op ∧ (step H Hc s op).2.isOk = true ∧ GoodRun (step H Hc s op).1 r

section
variable {H Hc}

/-- prefixes, for a predicate on histories of the shape "the first step is fine, and so is the rest from the next
state" (`GoodRun` and its like): it holds of the empty history, passes to the rest, and the rest may be exchanged -/
theorem take_of_run {σ ι : Type} {Q : σ → List ι → Prop} {next : σ → ι → σ} (nil : ∀ s, Q s [])
    (rest : ∀ {s op r}, Q s (op :: r) → Q (next s op) r)
    (swap : ∀ {s op r r'}, Q s (op :: r) → Q (next s op) r' → Q s (op :: r')) :
    ∀ {ops : List ι} {s : σ} (k : Nat), Q s ops → Q s (ops.take k)
  | [], s, _, _ => by rw [List.take_nil]; exact nil s
  | _ :: _, s, 0, _ => nil s
  | _ :: _, _, k + 1, h => swap h (take_of_run nil rest swap k (rest h))

theorem GoodRun.take {ops : List LOp} {s : LState} (k : Nat) : GoodRun H Hc s ops → GoodRun H Hc s (ops.take k) :=
  take_of_run (next := fun s op => (step H Hc s op).1) (fun _ => trivial) (fun h => h.2.2)
    (fun h h' => ⟨h.1, h.2.1, h'⟩) k

theorem GoodRun.ok_at : ∀ {ops : List LOp} {s : LState} {k : Nat} {op : LOp}, GoodRun H Hc s ops → ops[k]? = some op →
    (step H Hc (run H Hc s (ops.take k)) op).2.isOk = true
  | [], _, _, _, _, hk => by cases hk
  | _ :: _, _, 0, _, h, hk => by cases hk; exact h.2.1
  | _ :: r, _, k + 1, _, h, hk => GoodRun.ok_at (ops := r) (k := k) h.2.2 hk

end

/-- **histories**: the invariant holds after every history all of whose steps returned -/
theorem inv_run (ops : List LOp) (s : LState) (hI : Inv Hc s) (hg : GoodRun H Hc s ops) :
    Inv Hc (run H Hc s ops) := by
  induction ops generalizing s with
  | nil => exact hI
  | cons op r ih => exact ih _ (inv_step H Hc hI hg.1 rfl hg.2.1) hg.2.2

theorem inv_run_init (ops : List LOp) (hg : GoodRun H Hc init ops) : Inv Hc (run H Hc init ops) :=
  inv_run H Hc ops init (inv_init Hc) hg

theorem inv_run_init_partial (ops : List LOp) (hg : GoodRun H Hc init ops) : Inv Hc (run H Hc init ops) :=
  inv_run_init H Hc ops hg

/-! ### what the invariant says about the observables of the property -/

/-- `node.parent` of an attached node is the attached node that stores it, at the reported position -/
theorem parent_is_holder {s : LState} (hI : Inv Hc s) {u p : Nat} (hu : Att s u) (hp : s.parent u = some p) :
    Att s p ∧ ∃ f, (s.obj u).pfield = some f ∧ (u, f, (s.obj u).pindex) ∈ (s.obj p).kidsPos :=
  ⟨(hI.of_parent hp).2.1, hI.up u hu p hp⟩

/-- `parent_is_holder` in terms of the child list -/
theorem parent_kid {s : LState} (hI : Inv Hc s) {u p : Nat} (hp : s.parent u = some p) :
    Att s p ∧ u ∈ (s.obj p).kidList := by
  obtain ⟨hu, hpa, _⟩ := hI.of_parent hp
  obtain ⟨f, _, hm⟩ := hI.up u hu p hp
  exact ⟨hpa, mem_kidList_of_pos hm⟩

/-- conversely the node stored at a position of an attached node reports that node as its parent -/
theorem holder_is_parent {s : LState} (hI : Inv Hc s) {p : Nat} (hp : Att s p) {e : Nat × Str × Option Nat}
    (he : e ∈ (s.obj p).kidsPos) : s.parent e.1 = some p :=
  (hI.down' p hp e he).parent hp

/-- `ancestors()`: the walk along `parent`, cut off when the fuel runs out (the model's `Legacy.ancestors`, which
answers `hang` instead, is in Props/C18Queries.lean) -/
def ancestors (s : LState) : Nat → Nat → List Nat
  | 0, _ => []
  | fuel + 1, u => match s.parent u with
    | none => []
    | some p => p :: ancestors s fuel p

/-- consecutive elements: each is stored in the next, which is attached -/
def ChainOk (s : LState) : List Nat → Prop
  | [] => True
  | [_] => True
  | x :: p :: r => (Att s p ∧ ∃ f, (x, f, (s.obj x).pindex) ∈ (s.obj p).kidsPos) ∧ ChainOk s (p :: r)

/-- every step of the `ancestors` walk goes from a node to the attached node that stores it
(so `get_depth`, `is_ancestor` and the calculated xpath, which are the same walk, agree with the
structure) -/
theorem ancestors_chain {s : LState} (hI : Inv Hc s) : ∀ (fuel u : Nat), Att s u →
    ChainOk s (u :: ancestors s fuel u) := by
  intro fuel
  induction fuel with
  | zero => intro u _; simp [ancestors, ChainOk]
  | succ fuel ih =>
    intro u hu
    unfold ancestors
    cases hp : s.parent u with
    | none => simp [ChainOk]
    | some p =>
      obtain ⟨hpa, f, _, hm⟩ := parent_is_holder Hc hI hu hp
      exact ⟨⟨hpa, f, hm⟩, ih p hpa⟩

/-- an independently built tree: class, compared properties, children at their positions -/
inductive CTree where
  | mk (cls : Str) (props : List LProp) (kids : List (Str × Option Nat × CTree))

/-- its content id, computed from scratch -/
def CTree.cid (Hc : Str → Str) : CTree → Str
  | .mk cls props kids =>
    Hc (cls ++ propsText (props.filter (·.compare)) ++
      (sortByName (fun e : Str × Option Nat × Str => e.1)
        (kidsCids kids)).flatMap fun e => colon ++ e.1 ++ ['['] ++ idxText e.2.1 ++ "]=".toList ++ e.2.2)
where
  kidsCids : List (Str × Option Nat × CTree) → List (Str × Option Nat × Str)
    | [] => []
    | (f, i, t) :: r => (f, i, CTree.cid Hc t) :: kidsCids r


/-- the subtree of `u` in state `s` has the shape and content of the independently built `t` -/
def Matches (s : LState) : Nat → CTree → Prop
  | u, .mk cls props kids =>
    (s.obj u).cls = cls ∧ (s.obj u).props.filter (·.compare) = props.filter (·.compare) ∧
      kidsMatch (s.obj u).kidsPos kids
where
  kidsMatch : List (Nat × Str × Option Nat) → List (Str × Option Nat × CTree) → Prop
    | [], [] => True
    | e :: er, (f, i, t) :: kr => e.2.1 = f ∧ e.2.2 = i ∧ Matches s e.1 t ∧ kidsMatch er kr
    | _, _ => False

mutual
/-- **content ids**: under the invariant the cached content id of an attached node equals the
content id of an independently built equal tree (so every change below has propagated up) -/
theorem cid_eq_spec {s : LState} (hI : Inv Hc s) : ∀ (t : CTree) (u : Nat), Att s u → Matches s u t →
    (s.obj u).cid = CTree.cid Hc t
  | .mk cls props kids, u, hu, hm => by
    obtain ⟨hc, hp, hk⟩ := hm
    have hkids := kids_eq_spec hI kids (s.obj u).kidsPos (fun e he => (hI.down' u hu e he).1) hk
    rw [hI.cid' u hu]
    unfold CTree.cid cidPre kidsText
    rw [hc, hp, ← hkids]
    congr 2
    have := sortBy_map (fun e : Nat × Str × Option Nat => (e.2.1, e.2.2, (s.obj e.1).cid))
      (fun a b : Str × Option Nat × Str => strLt a.1 b.1) (s.obj u).kidsPos
    unfold sortByName
    rw [this, List.flatMap_map]
theorem kids_eq_spec {s : LState} (hI : Inv Hc s) : ∀ (kids : List (Str × Option Nat × CTree))
    (l : List (Nat × Str × Option Nat)), (∀ e ∈ l, Att s e.1) → Matches.kidsMatch s l kids →
    l.map (fun e => (e.2.1, e.2.2, (s.obj e.1).cid)) = CTree.cid.kidsCids Hc kids
  | [], [], _, _ => rfl
  | [], _ :: _, _, hm => by simp [Matches.kidsMatch] at hm
  | (f, i, t) :: kr, [], _, hm => by simp [Matches.kidsMatch] at hm
  | (f, i, t) :: kr, e :: er, ha, hm => by
    obtain ⟨h1, h2, h3, h4⟩ := hm
    simp only [List.map_cons, CTree.cid.kidsCids]
    rw [cid_eq_spec hI t e.1 (ha e (List.mem_cons_self ..)) h3,
      kids_eq_spec hI kr er (fun x hx => ha x (List.mem_cons_of_mem _ hx)) h4, h1, h2]
end

/-! ### non-vacuity: every theorem is applied to concrete data -/

/-- for a concrete computation `p`: `Prod.ext rfl h` written in place makes Lean unfold `p` to compare the first
components, here `p` is a variable -/
theorem eq_mk_of_snd {α β : Type} {p : α × β} {b : β} (h : p.2 = b) : p = (p.1, b) := Prod.ext rfl h

theorem ok_of_toBool {e : Except Err Unit} (h : e.toBool = true) : e = .ok () := by
  cases e with
  | error _ => simp [Except.toBool] at h
  | ok x => cases x; rfl

section examples
open PyOak.Legacy.Ex

/-- a history through every proved kind of step: leaf, parent over it, detach the whole tree,
re-attach it, duplicate it, replace the (root) parent, replace the duplicate root by a detached
clone, detach_self -/
def hist : List LOp :=
  [.new (leaf "1"), .new (un 0), .detach 1 false, .attach 1, .dup 1 false, .replace 1 ⟨[], [], false⟩,
   .dup 3 true, .rwith 3 (some 6), .detach 4 true]

instance decGoodRun (H Hc : Str → Str) : ∀ (ops : List LOp) (s : LState), Decidable (GoodRun H Hc s ops)
  | [], _ => isTrue trivial
  | op :: r, s =>
    have := decGoodRun H Hc r (step H Hc s op).1
    show Decidable (_ ∧ _ ∧ _) from inferInstance

-- what the examples share about a sample history: it is a `GoodRun`; its prefixes, the answers of its steps and the
-- invariant follow (`GoodRun.take`, `GoodRun.ok_at`, `inv_run_init`)
theorem good_hist : GoodRun id id init hist := by decide +kernel
example : GoodRun id id init hist := good_hist

theorem inv_hist : Inv id (st hist) := inv_run_init id id hist good_hist

private theorem inv_take (k : Nat) : Inv id (st (hist.take k)) := inv_run_init id id _ (good_hist.take k)
private theorem hist2_shape : (st (hist.take 2)).parent 0 = some 1 ∧ (st (hist.take 2)).parent 1 = none := by
  decide +kernel

example : Inv id init := inv_init id
example : Inv id (step id id init (.new (leaf "1"))).1 :=
  inv_step_new id id (inv_init id) good_hist.1 (Prod.eta _).symm
    good_hist.2.1
example : Inv id (step id id (st (hist.take 3)) (.attach 1)).1 :=
  inv_step_attach id id (inv_take 3)
    (Prod.eta _).symm (good_hist.ok_at (k := 3) rfl)
example : Inv id (step id id (st (hist.take 2)) (.detach 1 false)).1 :=
  inv_step_detach id id (inv_take 2)
    (Prod.eta _).symm (good_hist.ok_at (k := 2) rfl)
example : Inv id (step id id (st (hist.take 2)) (.dup 1 false)).1 :=
  inv_step_dup id id (inv_take 2)
    (Prod.eta _).symm (by decide +kernel)
example : Inv id (step id id (st (hist.take 2)) (.replace 1 ⟨[], [], false⟩)).1 :=
  have g : GoodRun id id (st (hist.take 2)) [.replace 1 ⟨[], [], false⟩] := by decide +kernel
  inv_step_replace_partial id id (inv_take 2) hist2_shape.2 g.1
    (Prod.eta _).symm g.2.1
-- replace of a CHILD (node 0 under node 1): the parent's field and content id are updated
example : (st (hist.take 2)).parent 0 = some 1 := hist2_shape.1
example : Inv id (step id id (st (hist.take 2)) (.replace 0 ⟨[⟨"v".toList, "7".toList, true⟩], [], false⟩)).1 :=
  have g : GoodRun id id (st (hist.take 2)) [.replace 0 ⟨[⟨"v".toList, "7".toList, true⟩], [], false⟩] := by
    decide +kernel
  inv_step_replace id id
    (inv_take 2) g.1
    (Prod.eta _).symm g.2.1
example : ((step id id (st (hist.take 2)) (.replace 0 ⟨[⟨"v".toList, "7".toList, true⟩], [], false⟩)).1.obj 1).cid ≠
    ((st (hist.take 2)).obj 1).cid := by decide +kernel
example : Inv id (step id id (st (hist.take 2)) (.rwith 1 none)).1 :=
  inv_step_rwith_partial id id (inv_take 2) hist2_shape.2
    (by intro n h; cases h) (Prod.eta _).symm (by decide +kernel)
-- replace_with on a CHILD: leaf 0 under node 1 is replaced by the detached leaf 2
def histP : List LOp := [.new (leaf "1"), .new (un 0), .new { leaf "2" with createDetached := true }]
private theorem good_histP : GoodRun id id init (histP ++ [.rwith 0 (some 2)]) := by decide +kernel
private theorem histP_shape : ((st histP).parent 0 = some 1 ∧ (st histP).detached 2 = true) ∧
    ((st histP).obj 0).kidList = [] := by decide +kernel
example : (st histP).parent 0 = some 1 ∧ (st histP).detached 2 = true := histP_shape.1
example : Inv id (step id id (st histP) (.rwith 0 (some 2))).1 :=
  inv_step_rwith_parent_partial id id
    (inv_run_init id id histP (good_histP.take 3)) histP_shape.1.1 histP_shape.1.2
    (fun h => by have := Desc.of_leaf histP_shape.2 h; exact absurd this (by decide))
    (Prod.eta _).symm (good_histP.ok_at (k := 3) rfl)
example : ((step id id (st histP) (.rwith 0 (some 2))).1.obj 1).kidList = [2] := by decide +kernel
example : GoodRun id id init (histP ++ [.rwith 0 (some 2)]) := good_histP

-- replace_with(None) on a CHILD of a tuple field: the later sibling moves down by one index
def histT : List LOp := [.new (leaf "1"), .new (leaf "2"), .new (leaf "3"), .new (tup [0, 1, 2])]
private theorem good_histT : GoodRun id id init (histT ++ [.rwith 1 none, .rwith 0 none, .rwith 2 none]) := by
  decide +kernel
private theorem inv_histT : Inv id (st histT) := inv_run_init id id histT (good_histT.take 4)
private theorem histT_shape : (st histT).parent 1 = some 3 ∧ ((st histT).obj 2).pindex = some 2 := by decide +kernel
example : (st histT).parent 1 = some 3 ∧ ((st histT).obj 2).pindex = some 2 := histT_shape
example : Inv id (step id id (st histT) (.rwith 1 none)).1 :=
  inv_step_rwith id id inv_histT (Prod.eta _).symm
    (good_histT.ok_at (k := 4) rfl)
example : ((step id id (st histT) (.rwith 1 none)).1.obj 3).kidList = [0, 2] ∧
    ((step id id (st histT) (.rwith 1 none)).1.obj 2).pindex = some 1 ∧
    ((step id id (st histT) (.rwith 1 none)).1.obj 0).pindex = some 0 := by decide +kernel
example : GoodRun id id init (histT ++ [.rwith 1 none, .rwith 0 none, .rwith 2 none]) := good_histT
-- replace_with(None) on the child in a required field is refused
example : outOf histP (.rwith 0 none) = .raised .replaceWithError := by decide +kernel
-- replace_with(an ATTACHED ROOT) on a receiver WITHOUT parent: root 1 (over leaf 0) is replaced by root 3 (over leaf 2)
def histA : List LOp := [.new (leaf "1"), .new (un 0), .new (leaf "2"), .new (un 2)]
private theorem good_histA :
    GoodRun id id init (histA ++ [.rwith 0 (some 3), .rwith 2 (some 0), .rwith 1 none]) := by decide +kernel
private theorem inv_histA : Inv id (st histA) := inv_run_init id id histA (good_histA.take 4)
/-- two attached roots 1 (over leaf 0) and 3 (over leaf 2) -/
private theorem histA_shape : (st histA).isAttachedRoot 1 = true ∧ (st histA).isAttachedRoot 3 = true ∧
    (st histA).parent 0 = some 1 ∧ (st histA).parent 1 = none ∧ Att (st histA) 0 ∧ 3 < (st histA).size := by
  decide +kernel
private theorem histA_parent : (st histA).parent 0 = some 1 := histA_shape.2.2.1
private theorem histA_detach : (detachGo 6 false ((st histA).clearParent 0) 0).2 = some true := by decide +kernel
example : (st histA).isAttachedRoot 1 = true ∧ (st histA).isAttachedRoot 3 = true := ⟨histA_shape.1, histA_shape.2.1⟩
example : Inv id (step id id (st histA) (.rwith 1 (some 3))).1 :=
  inv_step_rwith id id inv_histA (Prod.eta _).symm
    (by decide +kernel)
example : Att (step id id (st histA) (.rwith 1 (some 3))).1 3 ∧
    (step id id (st histA) (.rwith 1 (some 3))).1.parent 2 = some 3 ∧
    (step id id (st histA) (.rwith 1 (some 3))).1.idOf 3 = (st histA).idOf 1 ∧
    (step id id (st histA) (.rwith 1 (some 3))).1.detached 1 = true := by decide +kernel
-- replace_with(an ATTACHED ROOT) on a receiver WITH a parent: leaf 0 under node 1 is replaced by root 3 (over leaf 2)
example : (st histA).parent 0 = some 1 := histA_parent
example : Inv id (step id id (st histA) (.rwith 0 (some 3))).1 :=
  inv_step_rwith id id inv_histA (Prod.eta _).symm
    (good_histA.ok_at (k := 4) rfl)
example : ((step id id (st histA) (.rwith 0 (some 3))).1.obj 1).kidList = [3] ∧
    (step id id (st histA) (.rwith 0 (some 3))).1.parent 3 = some 1 ∧
    (step id id (st histA) (.rwith 0 (some 3))).1.parent 2 = some 3 ∧
    ((step id id (st histA) (.rwith 0 (some 3))).1.obj 1).cid ≠ ((st histA).obj 1).cid := by decide +kernel
example : GoodRun id id init (histA ++ [.rwith 0 (some 3), .rwith 2 (some 0), .rwith 1 none]) := good_histA
-- child.replace_with(its own attached-root parent) is rejected (`takeOver_parent_fails`), nothing changes
example : outOf histA (.rwith 0 (some 1)) = .raised .replaceWithError := by decide +kernel
-- an inadmissible argument: replacing a node by the root of its own tree would put the root under its own
-- descendant; the `_reset_content_id` walk does not end (the library loops)
def histC : List LOp := [.new (leaf "1"), .new (un 0), .new (un 1)]
example : outOf histC (.rwith 0 (some 2)) = .raised .hang := by decide +kernel
-- the pieces: no cycle through an answered receiver, the opened state, the removal, the id take-over
example : ¬ Desc (st histA) 0 1 :=
  detach_no_cycle id (s := st histA) (u := 0) (p := 1) (fuel := 6) (b := true)
    (s2 := (detachGo 6 false ((st histA).clearParent 0) 0).1) inv_histA histA_shape.2.2.2.2.1 histA_parent
    (eq_mk_of_snd histA_detach)
example : ∃ f, Opened id (st histA) (detachGo 6 false ((st histA).clearParent 0) 0).1 0 1 f :=
  rwith_open id (fuel := 6) (b := true) inv_histA histA_parent (eq_mk_of_snd histA_detach)
example : Inv id (replaceWith id 5 (st histT) 1 none).1 :=
  replaceWith_inv_parent_none id (s := st histT) (u := 1) (p := 3) (fuel := 5) inv_histT histT_shape.1
    (eq_mk_of_snd (ok_of_toBool (by decide +kernel)))
example : Inv id (replaceWith id 5 (st histA) 1 (some 3)).1 :=
  replaceWith_inv_root id (s := st histA) (u := 1) (fuel := 5) (new := some 3) inv_histA
    (by intro n e; cases e; exact histA_shape.2.2.2.2.2) histA_shape.2.2.2.1
    (eq_mk_of_snd (ok_of_toBool (by decide +kernel)))
example : Inv id (replaceWith id 5 (st histA) 0 (some 3)).1 :=
  replaceWith_inv_parent_any id (s := st histA) (u := 0) (p := 1) (n := 3) (fuel := 5) inv_histA
    histA_shape.2.2.2.2.2 histA_parent (eq_mk_of_snd (ok_of_toBool (by decide +kernel)))
-- any history whose steps returned: `inv_step`, `inv_run`
example : Inv id (step id id (st histA) (.rwith 0 (some 3))).1 :=
  inv_step id id (op := .rwith 0 (some 3)) (inv_run id id histA init (inv_init id) (good_histA.take 4))
    trivial (Prod.eta _).symm (good_histA.ok_at (k := 4) rfl)

-- after the history: node 5 is attached, its parent is node 6 (the clone that replaced node 3) …
private theorem hist_shape : (Att (st hist) 5 ∧ (st hist).parent 5 = some 6) ∧ Att (st hist) 6 ∧
    (5, "arg".toList, none) ∈ ((st hist).obj 6).kidsPos := by decide +kernel
example : Att (st hist) 5 ∧ (st hist).parent 5 = some 6 := hist_shape.1
example := parent_is_holder id inv_hist (u := 5) (p := 6) hist_shape.1.1 hist_shape.1.2
example := holder_is_parent id inv_hist (p := 6) hist_shape.2.1 (e := (5, "arg".toList, none)) hist_shape.2.2
example := ancestors_chain id inv_hist 5 5 hist_shape.1.1
example : ancestors (st hist) 5 5 = [6] := by decide +kernel
-- … and the content id of node 6 is that of an independently built equal tree
example : ((st hist).obj 6).cid =
    CTree.cid id (.mk "U".toList [] [("arg".toList, none, .mk "L".toList [⟨"v".toList, "1".toList, true⟩] [])]) :=
  -- `Matches`: class and compared properties of node 6; field, index, class, properties, no children of its child 5
  cid_eq_spec id inv_hist _ 6 hist_shape.2.1
    ⟨by decide, by decide, by decide, by decide, ⟨by decide, by decide, trivial⟩, trivial⟩

end examples

end PyOak.Legacy.C18
