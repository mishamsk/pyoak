/-
C15 — two boundaries of the property.

"Never nested": for FLAT operands the result is flat (`merge_flat`, `add_flat`, `concat_flat`,
`merge_valid`, `add_ok`, `concat_ok`).  For a user-built NESTED MultiOrigin operand (a MultiOrigin listing a MultiOrigin
or NoOrigin — constructible, `MultiOrigin.__post_init__` does not look at the classes of its members) the result is
NOT flat: `merge_origins` splices one level only.  `merge_keeps_nonleaf` (general) and the `decide`/`rfl` witness
`nested_operand_stays_nested`; the real code agrees at the witness (ASSUMPTIONS of c15.py declare nested
operands outside the property).

`slice` and `Int.toNat`: every range accepted by the constructor kernels (`mkPoint`, `mkPoint`, `mkRange`, i.e.
the GENERATED `CodePoint.valid` / `CodeRange.valid`) has `0 ≤ start.index ≤ end.index`, there `Int.toNat` is the identity
and `getRaw` is Python's `text[start:end]` (`pySlice`, Model/PySlice.lean: the full CPython index adjustment, compared with
the real `str.__getitem__` by the correspondence).  Outside that domain `slice` differs from Python
(`slice_negative_fails`) — unreachable through the constructors (`accepted_range_nonneg`).
-/
import PyOak.Props.C15Total
import PyOak.Model.PySlice
namespace PyOak.C15
open PyOak.Gen PyOak.OriginAlg

/-! ## nested operands -/

/-- `merge_origins` splices one level: whatever a MultiOrigin operand lists is listed by the result AS IT IS.  So a
listed origin that is itself a MultiOrigin or NoOrigin survives, and the result is not flat. -/
theorem merge_keeps_nonleaf (os : List Origin) (h1 : os.length ≠ 1) (x : Origin) (hx : x ∈ os.flatMap leaves)
    (hnl : x.isLeaf = false) (h2 : 2 ≤ (os.flatMap leaves).length) (r : Origin) (h : merge os = .ok r) :
    x ∈ leaves r ∧ ¬ Flat r := by
  rw [merge_spec os h1] at h
  match hl : os.flatMap leaves, h2 with
  | a :: b :: t, _ =>
    rw [hl, pack_many, mkMulti_spec] at h
    cases h
    rw [hl] at hx
    exact ⟨hx, fun hf => Bool.noConfusion (hnl.symm.trans (hf.1 x hx))⟩

/-- the flat inner multi-origin `MultiOrigin([c02, xB])`, as the constructor builds it -/
def innerM : Origin :=
  .multi (.set [sA, sB]) (.set [.code ⟨⟨0, 1, 0⟩, ⟨2, 1, 2⟩⟩, .xml ['/', 'r', '/', 'x']]) [c02, xB]
/-- the user-built nested `MultiOrigin([MultiOrigin([c02, xB]), c57])`, as the constructor builds it -/
def nestedM : Origin :=
  .multi (.set [.set [sA, sB], sA])
    (.set [.set [.code ⟨⟨0, 1, 0⟩, ⟨2, 1, 2⟩⟩, .xml ['/', 'r', '/', 'x']], .code ⟨⟨5, 1, 5⟩, ⟨7, 1, 7⟩⟩]) [innerM, c57]

theorem nested_built : mkMulti [c02, xB] = .ok innerM ∧ mkMulti [innerM, c57] = .ok nestedM := ⟨rfl, rfl⟩

/-- **boundary of "never nested"**: with the nested operand `MultiOrigin([MultiOrigin([c02, xB]), c57])`, `merge_origins`,
`+` and `concat_origins` all return the multi-origin listing `[MultiOrigin([c02, xB]), c57, c24]` — the inner MultiOrigin
stays a member.  (The operand is not flat, so `merge_flat` / `add_flat` / `concat_flat` do not apply.) -/
theorem nested_operand_stays_nested :
    Flat innerM ∧ ¬ Flat nestedM ∧
    ∃ m, merge [nestedM, c24] = .ok m ∧ add nestedM c24 = .ok m ∧ concat nestedM [c24, .none] = .ok m ∧
      leaves m = [innerM, c57, c24] ∧ innerM.isMulti = true ∧ ¬ Flat m ∧
      m.fqn = ("SourceSet(SourceSet(a||b)||a||a)::PositionSet(PositionSet(0-2||/r/x)||5-7||2-4)".toList) := by
  refine ⟨⟨by decide, rfl⟩, ?_, _, rfl, rfl, rfl, rfl, rfl, ?_, (toList_of_eq_ofList rfl).symm⟩
  · intro h; exact absurd (h.1 innerM List.mem_cons_self) (by decide)
  · exact (merge_keeps_nonleaf [nestedM, c24] (by decide) innerM List.mem_cons_self rfl (by decide) _ rfl).2

/-- likewise a user-built `MultiOrigin([NoOrigin, c02])` keeps its NoOrigin member through `merge_origins` -/
theorem nested_none_stays :
    ∃ mn m, mkMulti [.none, c02] = .ok mn ∧ merge [mn, c24] = .ok m ∧
      (leaves m).map Origin.isNone = [true, false, false] ∧ ¬ Flat m := by
  refine ⟨_, _, rfl, rfl, rfl, fun h => ?_⟩
  exact absurd (h.1 .none List.mem_cons_self) (by decide)

/-! ## `slice`, `Int.toNat` and Python's slicing -/

theorem rangeWF_nonneg (r : CodeRange) (h : rangeWF r) :
    0 ≤ r.start.index ∧ r.start.index ≤ r.end_.index ∧ 0 ≤ r.end_.index := by
  obtain ⟨h1, _, h3⟩ := h
  have a := (point_valid_iff r.start).mp h1
  have b := (range_valid_iff r).mp h3
  omega

/-- **what the constructor kernels accept**: if `CodePoint(i, l, c)`, `CodePoint(i', l', c')` and `CodeRange(p, q)` all
return (no hypothesis other than that), the range is the record of the two points, is well-formed, and
`0 ≤ i ≤ i'` — so `Int.toNat` is the identity on both indices -/
theorem accepted_range_nonneg (i l c i' l' c' : Int) (p q : CodePoint) (r : CodeRange)
    (hp : mkPoint i l c = .ok p) (hq : mkPoint i' l' c' = .ok q) (hr : mkRange p q = .ok r) :
    r = ⟨⟨i, l, c⟩, ⟨i', l', c'⟩⟩ ∧ rangeWF r ∧ 0 ≤ i ∧ i ≤ i' ∧
      ((r.start.index.toNat : Int) = r.start.index) ∧ ((r.end_.index.toNat : Int) = r.end_.index) := by
  rw [mkPoint_eq] at hp hq
  split at hp <;> cases hp
  split at hq <;> cases hq
  rw [mkRange_eq] at hr
  split at hr <;> cases hr
  rename_i hi hi' hle
  simp only at hle
  refine ⟨rfl, ⟨(point_valid_iff _).mpr hi, (point_valid_iff _).mpr hi', (range_valid_iff _).mpr hle⟩,
    hi.1, hle, Int.toNat_of_nonneg hi.1, Int.toNat_of_nonneg hi'.1⟩

theorem pyClamp_natCast (n a : Nat) : pyClamp n (a : Int) = min a n := by
  unfold pyClamp
  rw [if_neg (Int.not_lt.mpr (Int.natCast_nonneg a))]
  by_cases h : (a : Int) > (n : Int)
  · rw [if_pos h]; exact (Nat.min_eq_right (Nat.le_of_lt (Int.ofNat_lt.mp h))).symm
  · rw [if_neg h, Int.toNat_natCast]; exact (Nat.min_eq_left (Int.ofNat_le.mp (Int.not_lt.mp h))).symm

/-- on non-negative bounds the model's `slice` IS Python's slice (clamping at the end of the text included) -/
theorem slice_eq_pySlice (t : Str) (lo hi : Int) (h0 : 0 ≤ lo) (h1 : 0 ≤ hi) : slice t lo hi = pySlice t lo hi := by
  obtain ⟨a, rfl⟩ := Int.eq_ofNat_of_zero_le h0
  obtain ⟨b, rfl⟩ := Int.eq_ofNat_of_zero_le h1
  simp only [slice, pySlice, pyClamp_natCast, Int.toNat_natCast]
  by_cases ha : a ≤ t.length
  · -- the start is inside the text: only the length of the `take` is clamped, to what is there anyway
    rw [Nat.min_eq_left ha, List.take_eq_take_iff, List.length_drop, Nat.sub_min_sub_right, Nat.sub_min_sub_right,
      Nat.min_assoc, Nat.min_self]
  · rw [Nat.min_eq_right (Nat.le_of_not_le ha), List.drop_eq_nil_of_le (Nat.le_of_not_le ha),
      List.drop_eq_nil_of_le (Nat.le_refl _), List.take_nil, List.take_nil]

/-- Python's slice for `0 ≤ lo ≤ hi ≤ len`: exactly the characters at positions `lo ≤ k < hi` -/
theorem pySlice_inside (t : Str) (lo hi : Nat) (h1 : lo ≤ hi) (h2 : hi ≤ t.length) :
    pySlice t lo hi = (t.drop lo).take (hi - lo) ∧ (pySlice t lo hi).length = hi - lo ∧
      ∀ k, k < hi - lo → (pySlice t lo hi)[k]? = t[lo + k]? := by
  rw [← slice_eq_pySlice t lo hi (Int.natCast_nonneg lo) (Int.natCast_nonneg hi)]
  refine ⟨by simp only [slice, Int.toNat_natCast], ?_, ?_⟩
  · rw [slice_length]; exact Nat.min_eq_left (Nat.sub_le_sub_right h2 lo)
  intro k hk
  rw [slice_getElem?, if_pos hk]

/-- **`get_raw()` of a code origin with a well-formed range over a text source is Python's `text[start.index:end.index]`**;
with `lo = start.index`, `hi = end.index` as naturals it is `(text.drop lo).take (hi - lo)`, `lo ≤ hi` -/
theorem getRaw_pySlice (s : Src) (t : Str) (r : CodeRange) (h : s.raw = .text t) (hw : rangeWF r) :
    getRaw (.code false (.one s) r) = some (pySlice t r.start.index r.end_.index) ∧
    ∃ lo hi : Nat, (lo : Int) = r.start.index ∧ (hi : Int) = r.end_.index ∧ lo ≤ hi ∧
      getRaw (.code false (.one s) r) = some ((t.drop lo).take (hi - lo)) := by
  have nn := rangeWF_nonneg r hw
  rw [getRaw_code s t r h, slice_eq_pySlice t _ _ nn.1 nn.2.2]
  refine ⟨rfl, r.start.index.toNat, r.end_.index.toNat, Int.toNat_of_nonneg nn.1, Int.toNat_of_nonneg nn.2.2,
    Int.toNat_le_toNat nn.2.1, ?_⟩
  rw [← slice_eq_pySlice t _ _ nn.1 nn.2.2]; rfl

/-- the same from the constructors alone -/
theorem getRaw_constructed (s : Src) (t : Str) (h : s.raw = .text t) (i l c i' l' c' : Int) (p q : CodePoint)
    (r : CodeRange) (hp : mkPoint i l c = .ok p) (hq : mkPoint i' l' c' = .ok q) (hr : mkRange p q = .ok r) :
    getRaw (.code false (.one s) r) = some (pySlice t i i') := by
  obtain ⟨rfl, wf, _⟩ := accepted_range_nonneg i l c i' l' c' p q r hp hq hr
  exact (getRaw_pySlice s t _ h wf).1

/-- the fused origin of two valid fusable code origins reads Python's slice over the hull of the LEFT text -/
theorem add_get_raw_pySlice (ga gb : Bool) (s : Src) (sb : SrcV) (t : Str) (ra rb : CodeRange) (h : s.raw = .text t)
    (hm : mergeable (.code ga (.one s) ra) (.code gb sb rb) = true) (ha : rangeWF ra) (hb : rangeWF rb) :
    ∃ o, add (.code ga (.one s) ra) (.code gb sb rb) = .ok o ∧
      getRaw o = some (pySlice t (min ra.start.index rb.start.index) (max ra.end_.index rb.end_.index)) := by
  refine ⟨_, add_mergeable _ _ hm, ?_⟩
  rw [fuse, (getRaw_pySlice s t _ h (rangeWF_add ra rb ha hb)).1, (add_index ra rb).1, (add_index ra rb).2]

/-- outside the constructors' domain the hand-written `slice` is NOT Python's slice: `"abc"[-1:3]` is `"c"`, `slice` gives
`"abc"` (`toNat (-1) = 0`).  Unreachable: `accepted_range_nonneg`. -/
theorem slice_negative_fails :
    slice ['a', 'b', 'c'] (-1) 3 = ['a', 'b', 'c'] ∧ pySlice ['a', 'b', 'c'] (-1) 3 = ['c'] ∧
    mkPoint (-1) 1 0 = .error .valueError := ⟨by decide, by decide, rfl⟩

example : rangeWF ⟨⟨2, 1, 2⟩, ⟨7, 1, 7⟩⟩ ∧ pySlice "hello world".toList 2 7 = "llo w".toList ∧
    pySlice ['a', 'b', 'c'] 2 9 = ['c'] ∧ pySlice ['a', 'b', 'c'] 5 9 = [] ∧ pySlice ['a', 'b', 'c'] (-2) (-1) = ['b'] ∧
    pySlice ['a', 'b', 'c'] (-9) 1 = ['a'] ∧ pySlice ['a', 'b', 'c'] 2 1 = [] := by decide
example : ∃ p q r, mkPoint 2 1 2 = .ok p ∧ mkPoint 7 1 7 = .ok q ∧ mkRange p q = .ok r := ⟨_, _, _, rfl, rfl, rfl⟩

end PyOak.C15
