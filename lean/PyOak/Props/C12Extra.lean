/-
C12: the sorted child enumeration is the **stable sort by field name** of the unsorted one
(`Props/C12Sorted.lean` has it as a permutation, `child_nodes_sorted_perm`).

 * `sortByName_stable`, `stableSort_unique` — `sortByName key` (= Python's `sorted(xs, key=…)`,
   `Model/Core.lean`) is *the* stable sort: a key-sorted list that keeps, for every key value, the
   elements with that key in their original relative order; these two properties determine it;
 * `flatMap_sortByName` — sorting groups by name and then expanding them = expanding and then
   stably sorting by a key that is constant on every group (no distinctness needed: stability
   takes care of equal names);
 * `edgesSorted_eq_stableSort` — `Node.edgesSorted n = stableSortByField n.edges`
   (`get_child_nodes_with_field(sort_keys=True)` = `sorted(get_child_nodes_with_field(), key=field)`)
   for **every** node (`edgesSorted_eq_stableSort_distinct`: the same with distinct field names
   assumed); `edgesSorted_spec`, `edgesSorted_unique`, `edgesSorted_fields_unique`;
 * `get_child_nodes_with_field_sorted`, `get_child_nodes_sorted`, `iter_child_fields_sorted` — the
   same for the accessor model of `Model/Accessors.lean`, every class and every instance.
-/
import PyOak.Props.C12
import PyOak.Model.Traverse
namespace PyOak
namespace C12X
open PyOak.Acc PyOak.Acc.C12

section Generic
variable {β : Type} (key : β → Str)

abbrev ltBy (a b : β) : Bool := strLt (key a) (key b)

theorem sortByName_cons (x : β) (r : List β) :
    sortByName key (x :: r) = insertBy (ltBy key) x (sortByName key r) := rfl

/-! ### `sortByName` is *the* stable sort -/

theorem insertBy_filter_key (s : Str) (x : β) (l : List β) :
    (insertBy (ltBy key) x l).filter (fun a => key a = s) =
      if key x = s then x :: l.filter (fun a => key a = s) else l.filter (fun a => key a = s) := by
  induction l with
  | nil => by_cases hx : key x = s <;> simp [insertBy, hx]
  | cons y r ih =>
    simp only [insertBy, ltBy]
    by_cases hlt : strLt (key y) (key x) = true
    · simp only [hlt, if_true, List.filter_cons, ih]
      by_cases hx : key x = s
      · have hy : key y ≠ s := by
          intro hy; rw [hx, hy, strLt_irrefl] at hlt; cases hlt
        simp [hx, hy]
      · simp [hx]
    · simp only [hlt, if_false, Bool.false_eq_true, List.filter_cons]
      by_cases hx : key x = s <;> simp [hx]

/-- **stability**: for every key value, the elements carrying it keep their relative order -/
theorem sortByName_stable (s : Str) (l : List β) :
    (sortByName key l).filter (fun a => key a = s) = l.filter (fun a => key a = s) := by
  induction l with
  | nil => rfl
  | cons x r ih =>
    rw [sortByName_cons, insertBy_filter_key, ih]
    by_cases hx : key x = s <;> simp [hx]

theorem head_of_filter_eq {a b : β} {r t : List β}
    (h : (a :: r).filter (fun x => key x = key a) = (b :: t).filter (fun x => key x = key a)) :
    a = b ∨ (key b ≠ key a ∧ a ∈ t) := by
  rw [List.filter_cons_of_pos (by simp)] at h
  by_cases e : key b = key a
  · rw [List.filter_cons_of_pos (by simpa using e)] at h; exact .inl (List.cons.inj h).1
  · rw [List.filter_cons_of_neg (by simpa using e)] at h
    exact .inr ⟨e, (List.mem_filter.mp (h ▸ List.mem_cons_self)).1⟩

/-- a key-sorted list is determined by its per-key subsequences -/
theorem sorted_eq_of_filters : ∀ (l₁ l₂ : List β), l₁.Pairwise (keyLe key) → l₂.Pairwise (keyLe key) →
    (∀ s, l₁.filter (fun a => key a = s) = l₂.filter (fun a => key a = s)) → l₁ = l₂
  | [], [], _, _, _ => rfl
  | [], b :: s, _, _, h => by have := h (key b); simp at this
  | a :: r, [], _, _, h => by have := h (key a); simp at this
  | a :: r, b :: t, h1, h2, h => by
    rw [List.pairwise_cons] at h1 h2
    have hab : a = b := by
      rcases head_of_filter_eq key (h (key a)) with e | ⟨ne, ha⟩
      · exact e
      rcases head_of_filter_eq key (h (key b)).symm with e | ⟨_, hb⟩
      · exact e.symm
      -- each head sits behind the other: equal keys
      exact absurd (strLt_total _ _ (h1.1 b hb) (h2.1 a ha)) ne
    subst hab
    congr 1
    apply sorted_eq_of_filters r t h1.2 h2.2
    intro s
    have := h s
    simp only [List.filter_cons] at this
    split at this
    · exact (List.cons.inj this).2
    · exact this

/-- **`sortByName key` is the stable sort by `key`**: the only key-sorted list that keeps, for every
key value, the elements carrying it in their original order -/
theorem stableSort_unique (l out : List β) (hs : out.Pairwise (keyLe key))
    (hst : ∀ s, out.filter (fun a => key a = s) = l.filter (fun a => key a = s)) :
    out = sortByName key l :=
  sorted_eq_of_filters key out _ hs (sortByName_pairwise key l)
    (fun s => (hst s).trans (sortByName_stable key s l).symm)

/-! ### expanding groups commutes with stable sorting -/

variable {κ : Type} (name : κ → Str) (f : κ → List β)

theorem filter_flatMap_group (hconst : ∀ k, ∀ b ∈ f k, key b = name k) (s : Str) (ks : List κ) :
    (ks.flatMap f).filter (fun b => key b = s) = (ks.filter (fun k => name k = s)).flatMap f := by
  induction ks with
  | nil => rfl
  | cons k r ih =>
    rw [List.flatMap_cons, List.filter_append, ih, List.filter_cons]
    by_cases hk : name k = s
    · rw [if_pos (by simpa using hk), List.flatMap_cons,
        List.filter_eq_self.mpr fun b hb => by simpa [hconst k b hb] using hk]
    · rw [if_neg (by simpa using hk),
        List.filter_eq_nil_iff.mpr fun b hb => by simpa [hconst k b hb] using hk, List.nil_append]

/-- **sorting the groups by name and expanding = expanding and stably sorting by the key**, when
the key of every element is the name of its group -/
theorem flatMap_sortByName (hconst : ∀ k, ∀ b ∈ f k, key b = name k) (ks : List κ) :
    (sortByName name ks).flatMap f = sortByName key (ks.flatMap f) := by
  apply stableSort_unique
  · rw [List.pairwise_flatMap]
    refine ⟨fun k _ => List.pairwise_of_forall_mem_list fun x hx y hy => ?_,
      (sortByName_pairwise name ks).imp fun {a b} hab x hx y hy => ?_⟩
    · show strLt (key y) (key x) = false
      rw [hconst k x hx, hconst k y hy]; exact strLt_irrefl _
    · show strLt (key y) (key x) = false
      rw [hconst a x hx, hconst b y hy]; exact hab
  · intro s
    rw [filter_flatMap_group key name f hconst, filter_flatMap_group key name f hconst, sortByName_stable]

end Generic

/-! ## `Node.edgesSorted` (`Model/Traverse.lean`) -/

/-- `sorted(edges, key=lambda e: e.field)`: insertion sort with `insertBy` / `sortBy` of `Model/Core.lean` -/
def stableSortByField (l : List (Node × Edge)) : List (Node × Edge) :=
  sortBy (fun a b => strLt a.2.field b.2.field) l

theorem stableSortByField_eq (l : List (Node × Edge)) :
    stableSortByField l = sortByName (fun p : Node × Edge => p.2.field) l := rfl

theorem kid_edges_field (k : Kid) (p : Node × Edge) (h : p ∈ k.edges) : p.2.field = k.name := by
  cases k with
  | mk name coll ns =>
    cases coll
    · simp only [Kid.edges, List.mem_map] at h
      obtain ⟨_, _, rfl⟩ := h; rfl
    · simp only [Kid.edges, List.mem_map] at h
      obtain ⟨_, _, rfl⟩ := h; rfl

/-- **`get_child_nodes_with_field(sort_keys=True)` is the stable sort by field name of
`get_child_nodes_with_field()`**, for every node (equal field names, were they possible, would keep
their declaration order) -/
theorem edgesSorted_eq_stableSort (n : Node) : n.edgesSorted = stableSortByField n.edges := by
  unfold Node.edgesSorted Node.edges
  rw [stableSortByField_eq]
  exact flatMap_sortByName (fun p : Node × Edge => p.2.field) Kid.name Kid.edges
    (fun k p hp => kid_edges_field k p hp) n.kids

/-- the statement for nodes whose child-field names are pairwise distinct -/
theorem edgesSorted_eq_stableSort_distinct (n : Node) (_hn : (n.kids.map Kid.name).Nodup) :
    n.edgesSorted = stableSortByField n.edges := edgesSorted_eq_stableSort n

/-- what stability means here: a permutation, non-decreasing by field name, in which the children
stored under one field keep their enumeration order (index order for a tuple) -/
theorem edgesSorted_spec (n : Node) :
    n.edgesSorted.Perm n.edges ∧
    n.edgesSorted.Pairwise (fun a b => strLt b.2.field a.2.field = false) ∧
    ∀ s, n.edgesSorted.filter (fun p => p.2.field = s) = n.edges.filter (fun p => p.2.field = s) := by
  rw [edgesSorted_eq_stableSort, stableSortByField_eq]
  exact ⟨sortByName_perm _ _, sortByName_pairwise _ _, fun s => sortByName_stable _ s _⟩

/-- … and these three properties determine the sorted enumeration -/
theorem edgesSorted_unique (n : Node) (out : List (Node × Edge))
    (hs : out.Pairwise (fun a b => strLt b.2.field a.2.field = false))
    (hst : ∀ s, out.filter (fun p => p.2.field = s) = n.edges.filter (fun p => p.2.field = s)) :
    out = n.edgesSorted := by
  rw [edgesSorted_eq_stableSort, stableSortByField_eq]
  exact stableSort_unique (fun p : Node × Edge => p.2.field) n.edges out hs hst

/-- with pairwise distinct field names the sorted enumeration is moreover unique among the
name-ordered arrangements of the *fields* -/
theorem edgesSorted_fields_unique (n : Node) (hn : (n.kids.map Kid.name).Nodup) (ks : List Kid)
    (hp : ks.Perm n.kids) (hs : ks.Pairwise (keyLe Kid.name)) :
    ks.flatMap Kid.edges = stableSortByField n.edges := by
  rw [← edgesSorted_eq_stableSort]
  unfold Node.edgesSorted
  congr 1
  apply keyOrder_unique Kid.name ks _ (hp.trans (sortByName_perm Kid.name n.kids).symm) hs
    (sortByName_pairwise Kid.name n.kids)
  exact (List.Perm.nodup_iff (hp.map Kid.name)).mpr hn

/-! ## the accessor model (`Model/Accessors.lean`) -/

/-- **`get_child_nodes_with_field(sort_keys=True)` =
`sorted(get_child_nodes_with_field(), key=lambda t: t[1].name)`** (stable), every class, every instance -/
theorem get_child_nodes_with_field_sorted (c : ClassDecl) (i : Inst) :
    getChildNodesWithField c i true =
      sortByName (fun x : Nd × FDecl × Option Nat => x.2.1.name) (getChildNodesWithField c i false) := by
  rw [get_child_nodes_with_field_eq_spec, get_child_nodes_with_field_eq_spec]
  unfold specChildNodesWithField ordered
  simp only [if_true, Bool.false_eq_true, if_false]
  exact flatMap_sortByName (fun x : Nd × FDecl × Option Nat => x.2.1.name) FDecl.name (fieldNodes i)
    (fun d x hx => congrArg FDecl.name (mem_fieldNodes.mp hx).1) _

/-- **`get_child_nodes(sort_keys=True)`**: the nodes of the stably sorted with-field enumeration -/
theorem get_child_nodes_sorted (c : ClassDecl) (i : Inst) :
    getChildNodes c i true =
      (sortByName (fun x : Nd × FDecl × Option Nat => x.2.1.name)
        (getChildNodesWithField c i false)).map (·.1) := by
  rw [← get_child_nodes_with_field_sorted, get_child_nodes_eq_spec, get_child_nodes_with_field_eq_spec]
  rfl

/-- **`iter_child_fields(sort_keys=True)` = `sorted(iter_child_fields(), key=field name)`** -/
theorem iter_child_fields_sorted (c : ClassDecl) (i : Inst) :
    iterChildFields c i true =
      sortByName (fun p : FVal × FDecl => p.2.name) (iterChildFields c i false) := by
  rw [iter_child_fields_eq_spec, iter_child_fields_eq_spec]
  unfold specIterChildFields ordered
  simp only [if_true, Bool.false_eq_true, if_false]
  rw [Framing.sortByName_map _ _ _ fun _ => rfl]

section Examples
private def hd (u : Nat) : Head :=
  { uid := u, cls := ['L'], mro := [['L']], org := ⟨0, []⟩, props := [], truthy := true }
private def leaf (u : Nat) : Node := .mk (hd u) []
/-- declaration order `zs` (tuple), `m` (single), `a` (tuple), `e` (absent optional) -/
private def node : Node :=
  .mk (hd 0) [.mk ['z', 's'] true [leaf 1, leaf 2], .mk ['m'] false [leaf 3],
              .mk ['a'] true [leaf 4, leaf 5], .mk ['e'] false []]

private def show' (l : List (Node × Edge)) : List (Nat × Str × Option Nat) :=
  l.map fun p => (p.1.uid, p.2.field, p.2.idx)

example : show' node.edges =
    [(1, ['z', 's'], some 0), (2, ['z', 's'], some 1), (3, ['m'], none), (4, ['a'], some 0), (5, ['a'], some 1)] := by
  decide
example : show' node.edgesSorted =
    [(4, ['a'], some 0), (5, ['a'], some 1), (3, ['m'], none), (1, ['z', 's'], some 0), (2, ['z', 's'], some 1)] := by
  decide
example : show' (stableSortByField node.edges) = show' node.edgesSorted := by rw [edgesSorted_eq_stableSort]
example : (node.kids.map Kid.name).Nodup := by decide

/-- stability is what makes the statement true without distinctness: two fields of the same name
keep their declaration order, and so do their elements -/
private def dup : Node := .mk (hd 0) [.mk ['x'] true [leaf 1, leaf 2], .mk ['a'] false [leaf 3], .mk ['x'] false [leaf 4]]
example : show' (stableSortByField dup.edges) =
    [(3, ['a'], none), (1, ['x'], some 0), (2, ['x'], some 1), (4, ['x'], none)] := by decide
example : show' dup.edgesSorted = show' (stableSortByField dup.edges) := by rw [edgesSorted_eq_stableSort]

/-- a sort by field name that is *not* stable differs: reversing the run of equal names is still
name-ordered and a permutation -/
example : ∃ out : List (Nat × Str × Option Nat),
    out.Perm (show' node.edges) ∧ out.Pairwise (fun a b => strLt b.2.1 a.2.1 = false) ∧
    out ≠ show' node.edgesSorted :=
  ⟨[(5, ['a'], some 1), (4, ['a'], some 0), (3, ['m'], none), (1, ['z', 's'], some 0), (2, ['z', 's'], some 1)],
    by decide +kernel, by decide +kernel, by decide +kernel⟩

/-- the accessor model on a two-level class: `zs: tuple`, `m: one`, `a: tuple` (declared in a subclass) -/
private def cls : ClassDecl :=
  ⟨[[⟨['z', 's'], .childTuple, true, true, false⟩, ⟨['m'], .childOne, true, true, false⟩, ⟨['p'], .prop, true, true, false⟩],
    [⟨['a'], .childTuple, true, true, false⟩]]⟩
private def inst : Inst :=
  [(['z', 's'], .tuple [⟨1, true⟩, ⟨2, false⟩]), (['m'], .node ⟨3, true⟩), (['p'], .prop 7),
   (['a'], .tuple [⟨4, true⟩, ⟨5, true⟩])]
private def show2 (l : List (Nd × FDecl × Option Nat)) : List (Nat × Str × Option Nat) :=
  l.map fun x => (x.1.uid, x.2.1.name, x.2.2)

example : show2 (getChildNodesWithField cls inst false) =
    [(1, ['z', 's'], some 0), (2, ['z', 's'], some 1), (3, ['m'], none), (4, ['a'], some 0), (5, ['a'], some 1)] := by
  decide +kernel
example : show2 (getChildNodesWithField cls inst true) =
    [(4, ['a'], some 0), (5, ['a'], some 1), (3, ['m'], none), (1, ['z', 's'], some 0), (2, ['z', 's'], some 1)] := by
  decide +kernel
example : getChildNodesWithField cls inst true =
    sortByName (fun x : Nd × FDecl × Option Nat => x.2.1.name) (getChildNodesWithField cls inst false) :=
  get_child_nodes_with_field_sorted cls inst

end Examples

#print axioms sortByName_stable
#print axioms stableSort_unique
#print axioms flatMap_sortByName
#print axioms edgesSorted_eq_stableSort
#print axioms edgesSorted_eq_stableSort_distinct
#print axioms edgesSorted_spec
#print axioms edgesSorted_unique
#print axioms edgesSorted_fields_unique
#print axioms get_child_nodes_with_field_sorted
#print axioms get_child_nodes_sorted
#print axioms iter_child_fields_sorted

end C12X
end PyOak
