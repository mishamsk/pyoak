/-
`detach` / `detach_self` preserve the invariant.

The recursion of `detach` is handled without any tree-shape assumption: we prove, for an
arbitrary start state, a handful of *monotone* facts about the final state (objects only lose
their parent slots, the registry only loses keys; whoever was touched is a child of a node
that was unregistered; every unregistered node has all its children cleared; every
unregistered node is the start node or a child of an unregistered node), and show that these
facts together with the invariant of the start state give the invariant of the final state.

Then reachability along child links (`Desc`): a run only unregisters descendants of its start node, and the
upward walk `upFree` decides that a node is no descendant of another.
-/
import PyOak.Props.LegacyBase
namespace PyOak.Legacy
open LState

def clearP (o : LObj) : LObj := { o with pid := none, pfield := none, pindex := none }

def Cleared (o : LObj) : Prop := o.pid = none ∧ o.pfield = none ∧ o.pindex = none

theorem cleared_clearP (o : LObj) : Cleared (clearP o) := ⟨rfl, rfl, rfl⟩
@[simp] theorem clearP_clearP (o : LObj) : clearP (clearP o) = clearP o := rfl
@[simp] theorem clearP_id (o : LObj) : (clearP o).id = o.id := rfl
@[simp] theorem clearP_fields (o : LObj) : (clearP o).fields = o.fields := rfl
@[simp] theorem clearP_cid (o : LObj) : (clearP o).cid = o.cid := rfl
@[simp] theorem clearP_props (o : LObj) : (clearP o).props = o.props := rfl
@[simp] theorem clearP_cls (o : LObj) : (clearP o).cls = o.cls := rfl

theorem clearParent_obj' (s : LState) (u v : Nat) :
    (s.clearParent u).obj v = if v = u then clearP (s.obj u) else s.obj v := rfl

theorem sameButParent_clearP (o : LObj) : SameButParent (clearP o) o := ⟨rfl, rfl, rfl, rfl, rfl, rfl, rfl, rfl, rfl⟩

/-- objects only lose their parent slots, the registry only loses keys -/
structure Shrinks (s s' : LState) : Prop where
  size : s'.size = s.size
  obj : ∀ v, s'.obj v = s.obj v ∨ s'.obj v = clearP (s.obj v)
  reg : ∀ k, s'.lookup k = s.lookup k ∨ s'.lookup k = none

theorem Shrinks.refl (s : LState) : Shrinks s s := ⟨rfl, fun _ => .inl rfl, fun _ => .inl rfl⟩

theorem Shrinks.trans {a b c : LState} (h1 : Shrinks a b) (h2 : Shrinks b c) : Shrinks a c := by
  refine ⟨h2.size.trans h1.size, fun v => ?_, fun k => ?_⟩
  · rcases h2.obj v with e2 | e2 <;> rcases h1.obj v with e1 | e1 <;> simp [e1, e2]
  · rcases h2.reg k with e2 | e2 <;> rcases h1.reg k with e1 | e1 <;> simp [e1, e2]

theorem Shrinks.same {s s' : LState} (h : Shrinks s s') (v : Nat) : SameButParent (s'.obj v) (s.obj v) := by
  rcases h.obj v with e | e <;> rw [e]
  · exact SameButParent.refl _
  · exact sameButParent_clearP _

theorem Shrinks.id_eq {s s' : LState} (h : Shrinks s s') (v : Nat) : s'.idOf v = s.idOf v := (h.same v).id

theorem Shrinks.fields_eq {s s' : LState} (h : Shrinks s s') (v : Nat) : (s'.obj v).fields = (s.obj v).fields :=
  (h.same v).fields

theorem Shrinks.cid_eq {s s' : LState} (h : Shrinks s s') (v : Nat) : (s'.obj v).cid = (s.obj v).cid := (h.same v).cid

theorem Shrinks.kidList_eq {s s' : LState} (h : Shrinks s s') (v : Nat) :
    (s'.obj v).kidList = (s.obj v).kidList := LObj.kidList_congr (h.fields_eq v)

theorem Shrinks.kidsPos_eq {s s' : LState} (h : Shrinks s s') (v : Nat) :
    (s'.obj v).kidsPos = (s.obj v).kidsPos := LObj.kidsPos_congr (h.fields_eq v)

theorem Shrinks.lookup_some {s s' : LState} (h : Shrinks s s') {k : Str} {v : Nat} (hk : s'.lookup k = some v) :
    s.lookup k = some v := by
  rcases h.reg k with e | e
  · rw [← e]; exact hk
  · rw [e] at hk; cases hk

theorem Shrinks.att {s s' : LState} (h : Shrinks s s') {v : Nat} (hv : Att s' v) : Att s v := by
  unfold Att at hv ⊢
  rw [h.id_eq] at hv
  exact h.lookup_some hv

/-- a node still attached under the id of a node that was attached is that node -/
theorem Shrinks.eq_of_id {s s' : LState} (h : Shrinks s s') {u p : Nat} (hu : Att s u) (hp : Att s' p)
    (e : s'.idOf p = s'.idOf u) : p = u :=
  att_inj (h.att hp) hu (by rw [← h.id_eq, ← h.id_eq, e])

theorem Shrinks.cleared {s s' : LState} (h : Shrinks s s') {v : Nat} (hv : Cleared (s.obj v)) : Cleared (s'.obj v) := by
  rcases h.obj v with e | e
  · rw [e]; exact hv
  · rw [e]; exact cleared_clearP _

theorem shrinks_clearParent (s : LState) (c : Nat) : Shrinks s (s.clearParent c) := by
  refine ⟨rfl, fun v => ?_, fun k => .inl rfl⟩
  rw [clearParent_obj']
  by_cases h : v = c
  · rw [if_pos h, h]; exact .inr rfl
  · rw [if_neg h]; exact .inl rfl

theorem shrinks_unregister (s : LState) (k : Str) : Shrinks s (s.unregister k) := by
  refine ⟨rfl, fun v => .inl rfl, fun k' => ?_⟩
  rw [unregister_lookup]
  by_cases h : k = k'
  · rw [if_pos h]; exact .inr rfl
  · rw [if_neg h]; exact .inl rfl

/-- unregistering a key detaches exactly the nodes with that id -/
theorem att_unregister_iff (t : LState) (k : Str) (p : Nat) : Att (t.unregister k) p ↔ Att t p ∧ t.idOf p ≠ k := by
  unfold Att
  rw [unregister_idOf, unregister_lookup]
  by_cases e : k = t.idOf p
  · rw [if_pos e]; exact ⟨fun h => (nomatch h), fun h => absurd e.symm h.2⟩
  · rw [if_neg e]; exact ⟨fun h => ⟨h, fun e' => e e'.symm⟩, fun h => h.1⟩

/-- `p` was attached and is not any more -/
def Unreg (s s' : LState) (p : Nat) : Prop := Att s p ∧ ¬ Att s' p

/-- what a (possibly nested, possibly unfinished) run of `detach` guarantees, relative to the
nodes `roots` it was started on -/
structure DetachFacts (s s' : LState) (roots : List Nat) : Prop where
  shr : Shrinks s s'
  touched : ∀ x, s'.obj x ≠ s.obj x → x ∈ roots ∨ ∃ p, Unreg s s' p ∧ x ∈ (s.obj p).kidList
  cleared : ∀ p, Unreg s s' p → ∀ c ∈ (s.obj p).kidList, Cleared (s'.obj c)
  origin : ∀ p, Unreg s s' p → p ∈ roots ∨ ∃ q, Unreg s s' q ∧ p ∈ (s.obj q).kidList

theorem DetachFacts.refl (s : LState) (roots : List Nat) : DetachFacts s s roots :=
  ⟨Shrinks.refl s, fun _ h => absurd rfl h, fun _ h => absurd h.1 h.2, fun _ h => absurd h.1 h.2⟩

theorem DetachFacts.mono {s s' : LState} {r1 r2 : List Nat} (h : DetachFacts s s' r1) (hr : ∀ x ∈ r1, x ∈ r2) :
    DetachFacts s s' r2 :=
  ⟨h.shr, fun x hx => (h.touched x hx).imp (hr x) id, h.cleared, fun p hp => (h.origin p hp).imp (hr p) id⟩

/-- sequential composition -/
theorem DetachFacts.trans {a b c : LState} {r1 r2 : List Nat} (h1 : DetachFacts a b r1) (h2 : DetachFacts b c r2) :
    DetachFacts a c (r1 ++ r2) := by
  have hac : Shrinks a c := h1.shr.trans h2.shr
  have kl : ∀ v, (b.obj v).kidList = (a.obj v).kidList := h1.shr.kidList_eq
  -- an unregistration between a and c happened in one of the two legs
  have split : ∀ p, Unreg a c p → Unreg a b p ∨ Unreg b c p := by
    intro p ⟨hp, hnp⟩
    by_cases hb : Att b p
    · exact .inr ⟨hb, hnp⟩
    · exact .inl ⟨hp, hb⟩
  have up1 : ∀ p, Unreg a b p → Unreg a c p := fun p ⟨hp, hnp⟩ => ⟨hp, fun h => hnp (h2.shr.att h)⟩
  have up2 : ∀ p, Unreg b c p → Unreg a c p := fun p ⟨hp, hnp⟩ => ⟨h1.shr.att hp, hnp⟩
  refine ⟨hac, ?_, ?_, ?_⟩
  · intro x hx
    by_cases hb : b.obj x = a.obj x
    · have : c.obj x ≠ b.obj x := by rw [hb]; exact hx
      rcases h2.touched x this with h | ⟨p, hp, hxp⟩
      · exact .inl (List.mem_append_right _ h)
      · exact .inr ⟨p, up2 p hp, by rw [← kl]; exact hxp⟩
    · rcases h1.touched x hb with h | ⟨p, hp, hxp⟩
      · exact .inl (List.mem_append_left _ h)
      · exact .inr ⟨p, up1 p hp, hxp⟩
  · intro p hp cc hc
    rcases split p hp with h | h
    · exact h2.shr.cleared (h1.cleared p h cc hc)
    · exact h2.cleared p h cc (by rw [kl]; exact hc)
  · intro p hp
    rcases split p hp with h | h
    · rcases h1.origin p h with h' | ⟨q, hq, hpq⟩
      · exact .inl (List.mem_append_left _ h')
      · exact .inr ⟨q, up1 q hq, hpq⟩
    · rcases h2.origin p h with h' | ⟨q, hq, hpq⟩
      · exact .inl (List.mem_append_right _ h')
      · exact .inr ⟨q, up2 q hq, by rw [← kl]; exact hpq⟩

theorem clearParent_parent_self (s : LState) (u : Nat) : (s.clearParent u).parent u = none :=
  parent_of_pid_none (by rw [clearParent_obj', if_pos rfl]; rfl)

theorem att_clearParent_iff (s : LState) (c p : Nat) : Att (s.clearParent c) p ↔ Att s p := by
  unfold Att; rw [clearParent_idOf, clearParent_lookup]

theorem detachFacts_clearParent (s : LState) (c : Nat) : DetachFacts s (s.clearParent c) [c] := by
  refine ⟨shrinks_clearParent s c, ?_, ?_, ?_⟩
  · intro x hx
    left
    rw [clearParent_obj'] at hx
    by_cases h : x = c
    · rw [h]; exact List.mem_singleton.mpr rfl
    · rw [if_neg h] at hx; exact absurd rfl hx
  · intro p ⟨hp, hnp⟩; exact absurd ((att_clearParent_iff s c p).mpr hp) hnp
  · intro p ⟨hp, hnp⟩; exact absurd ((att_clearParent_iff s c p).mpr hp) hnp

/-! ### how `detach` returns -/

/-- one round of the loop over the children that goes on: the child's parent slots are cleared and, unless
`only_self`, the nested `detach` of the child returned -/
theorem detachKids_cons {rec : LState → Nat → LState × Option Bool} {os : Bool} {s s' : LState} {c : Nat}
    {cs : List Nat} (h : detachKids rec os s (c :: cs) = (s', true)) :
    ∃ s2, detachKids rec os s2 cs = (s', true) ∧
      ((os = true ∧ s2 = s.clearParent c) ∨ (os = false ∧ ∃ b, rec (s.clearParent c) c = (s2, some b))) := by
  cases os with
  | true => exact ⟨_, by simpa only [detachKids, if_true] using h, .inl ⟨rfl, rfl⟩⟩
  | false =>
    simp only [detachKids, Bool.false_eq_true, if_false] at h
    cases hr : rec (s.clearParent c) c with
    | mk s2 r =>
      rw [hr] at h
      cases r with
      | none => simp at h
      | some b => exact ⟨s2, h, .inr ⟨rfl, b, rfl⟩⟩

/-- a `detach` that returns has changed nothing (the node is detached, or is not a root), or the node is
an attached root, the loop over its children went through, and the node is unregistered last -/
theorem detachGo_succ (fuel : Nat) (os : Bool) (s : LState) (u : Nat) {b : Bool}
    (hb : (detachGo (fuel + 1) os s u).2 = some b) :
    (detachGo (fuel + 1) os s u).1 = s ∨
    ∃ s1, Att s u ∧ s.parent u = none ∧ detachKids (detachGo fuel false) os s (s.obj u).kidList = (s1, true) ∧
      (detachGo (fuel + 1) os s u).1 = s1.unregister (s1.idOf u) := by
  unfold detachGo at hb ⊢
  by_cases hd : s.detached u = true
  · left; rw [if_pos hd]
  · rw [if_neg hd] at hb ⊢
    by_cases hr : (!s.isAttachedRoot u) = true
    · left; rw [if_pos hr]
    · rw [if_neg hr] at hb ⊢
      have hroot := ((isAttachedRoot_iff s u).mp (by simpa using hr)).2
      cases hl : detachKids (detachGo fuel false) os s (s.obj u).kidList with
      | mk s1 fl =>
        rw [hl] at hb
        cases fl with
        | false => simp at hb
        | true => exact .inr ⟨s1, att_of_not_detached hd, hroot, rfl, rfl⟩

/-- the loop over the children, given the facts for the nested calls (finished runs only) -/
theorem detachKids_facts (rec : LState → Nat → LState × Option Bool) (os : Bool)
    (hrec : ∀ s c s' b, rec s c = (s', some b) → DetachFacts s s' [c]) :
    ∀ (ks : List Nat) (s s' : LState), detachKids rec os s ks = (s', true) →
      DetachFacts s s' ks ∧ ∀ c ∈ ks, Cleared (s'.obj c) := by
  intro ks
  induction ks with
  | nil => intro s s' h; cases h; exact ⟨DetachFacts.refl _ _, fun c hc => nomatch hc⟩
  | cons c cs ih =>
    intro s s' h
    obtain ⟨s2, h2, hstep⟩ := detachKids_cons h
    obtain ⟨i1, i2⟩ := ih s2 s' h2
    have hc1 : Cleared ((s.clearParent c).obj c) := by rw [clearParent_obj', if_pos rfl]; exact cleared_clearP _
    have h12 : DetachFacts s s2 [c] ∧ Cleared (s2.obj c) := by
      rcases hstep with ⟨_, rfl⟩ | ⟨_, b, hr⟩
      · exact ⟨detachFacts_clearParent s c, hc1⟩
      · have hn := hrec _ _ _ _ hr
        exact ⟨((detachFacts_clearParent s c).trans hn).mono (fun x hx => by simpa using hx), hn.shr.cleared hc1⟩
    refine ⟨h12.1.trans i1, fun x hx => ?_⟩
    rcases List.mem_cons.mp hx with rfl | hx
    · exact i1.shr.cleared h12.2
    · exact i2 x hx

/-- the facts for a finished `detach` -/
theorem detachGo_facts : ∀ (fuel : Nat) (os : Bool) (s : LState) (u : Nat) (b : Bool),
    (detachGo fuel os s u).2 = some b → DetachFacts s (detachGo fuel os s u).1 [u] := by
  intro fuel
  induction fuel with
  | zero => intro os s u b h; simp [detachGo] at h
  | succ fuel ih =>
    intro os s u b hb
    rcases detachGo_succ fuel os s u hb with h | ⟨s1, hatt, _, hl, h⟩
    · rw [h]; exact DetachFacts.refl _ _
    · rw [h]
      obtain ⟨hk1, hk2⟩ := detachKids_facts (detachGo fuel false) os
        (fun t c t' b' ht => by have := ih false t c b' (by rw [ht]); rwa [ht] at this) _ s s1 hl
      have hsu := shrinks_unregister s1 (s1.idOf u)
      have hU : Unreg s (s1.unregister (s1.idOf u)) u := ⟨hatt, fun h => ((att_unregister_iff _ _ _).mp h).2 rfl⟩
      -- whoever loses its registration in the last step is `u`
      have last : ∀ p, Att s1 p → ¬ Att (s1.unregister (s1.idOf u)) p → p = u := fun p hp hnp =>
        Classical.byContradiction fun hne =>
          hnp ((att_unregister_iff _ _ _).mpr ⟨hp, fun e => hne (hk1.shr.eq_of_id hatt hp e)⟩)
      have lift : ∀ p, Unreg s s1 p → Unreg s (s1.unregister (s1.idOf u)) p :=
        fun p ⟨hp, hnp⟩ => ⟨hp, fun h => hnp (hsu.att h)⟩
      refine ⟨hk1.shr.trans hsu, ?_, ?_, ?_⟩
      · intro x hx
        rcases hk1.touched x hx with h | ⟨p, hp, hxp⟩
        · exact .inr ⟨u, hU, h⟩
        · exact .inr ⟨p, lift p hp, hxp⟩
      · intro p hp c hc
        show Cleared (s1.obj c)
        by_cases h1 : Att s1 p
        · have := last p h1 hp.2; subst this; exact hk2 c hc
        · exact hk1.cleared p ⟨hp.1, h1⟩ c hc
      · intro p hp
        by_cases h1 : Att s1 p
        · have := last p h1 hp.2; subst this; exact .inl (List.mem_singleton.mpr rfl)
        · rcases hk1.origin p ⟨hp.1, h1⟩ with h | ⟨q, hq, hpq⟩
          · exact .inr ⟨u, hU, h⟩
          · exact .inr ⟨q, lift q hq, hpq⟩

/-- the invariant survives anything that satisfies the detach facts from an attached root -/
theorem inv_of_detachFacts (Hc : Str → Str) {X : Nat → (Nat × Str × Option Nat) → Prop} {Y : Nat → Prop}
    {s s' : LState} {u : Nat} (hI : InvX Hc X Y s)
    (hF : DetachFacts s s' [u]) (hroot : s.parent u = none)
    (hXs : ∀ q e, X q e → ¬ Unreg s s' q) : InvX Hc X Y s' := by
  have hS := hF.shr
  -- an unregistered node is `u` or the child of an unregistered node; in the latter case the
  -- node has been cleared
  have unreg_cleared : ∀ p, Unreg s s' p → p = u ∨ Cleared (s'.obj p) := by
    intro p hp
    rcases hF.origin p hp with h | ⟨q, hq, hpq⟩
    · exact .inl (List.mem_singleton.mp h)
    · exact .inr (hF.cleared q hq p hpq)
  -- a node that stores the id of an attached node is not the root `u`
  have not_root : ∀ x p, (s.obj x).pid = some (s.idOf p) → Att s p → x ≠ u := by
    intro x p hpid hp hxu
    rw [← hxu, parent_of_pid hpid, hp] at hroot
    cases hroot
  -- children of surviving nodes are untouched and survive
  have kid_untouched : ∀ w, Att s' w → ∀ e ∈ (s.obj w).kidsPos, ¬ X w e →
      s'.obj e.1 = s.obj e.1 ∧ Att s' e.1 := by
    intro w hw e he hx
    have hws : Att s w := hS.att hw
    obtain ⟨hca, hcp, _, _⟩ := hI.down w hws e he hx
    have hne : e.1 ≠ u := not_root e.1 w hcp hws
    -- if the child were a kid of an unregistered node q, then q = w
    have key : ∀ q, Unreg s s' q → e.1 ∈ (s.obj q).kidList → False := by
      intro q hq hcq
      obtain ⟨_, hcp'⟩ := hI.kid hq.1 hcq (fun e' _ hx' => hXs q e' hx' hq)
      rw [hcp] at hcp'
      have : w = q := att_inj hws hq.1 (Option.some.inj hcp')
      exact hq.2 (this ▸ hw)
    constructor
    · apply Classical.byContradiction; intro hx
      rcases hF.touched e.1 hx with h | ⟨q, hq, hcq⟩
      · exact hne (List.mem_singleton.mp h)
      · exact key q hq hcq
    · apply Classical.byContradiction; intro hx
      rcases hF.origin e.1 ⟨hca, hx⟩ with h | ⟨q, hq, hcq⟩
      · exact hne (List.mem_singleton.mp h)
      · exact key q hq hcq
  -- a parent link that is still stored is the one of `s`
  have pid_kept : ∀ x k, (s'.obj x).pid = some k → s'.obj x = s.obj x := by
    intro x k hk
    rcases hS.obj x with ho | ho
    · exact ho
    · rw [ho] at hk; cases hk
  have parent_kept : ∀ x p, s'.parent x = some p → s'.obj x = s.obj x ∧ s.parent x = some p := by
    intro x p hp
    obtain ⟨k, hk, hl⟩ := parent_eq_some.mp hp
    have ho := pid_kept x k hk
    exact ⟨ho, parent_eq_some.mpr ⟨k, ho ▸ hk, hS.lookup_some hl⟩⟩
  refine ⟨?_, ?_, ?_, ?_, ?_, ?_, ?_, ?_⟩
  · intro k v hk
    obtain ⟨h1, h2⟩ := hI.regSound k v (hS.lookup_some hk)
    exact ⟨by rw [hS.size]; exact h1, by rw [hS.id_eq]; exact h2⟩
  · intro w hw e he hx
    rw [hS.kidsPos_eq] at he
    obtain ⟨_, hcp, hcf, hci⟩ := hI.down w (hS.att hw) e he hx
    obtain ⟨hobj, hatt⟩ := kid_untouched w hw e he hx
    exact ⟨hatt, by rw [hobj, hS.id_eq]; exact hcp, by rw [hobj]; exact hcf, by rw [hobj]; exact hci⟩
  · intro x hx p hp
    obtain ⟨ho, hps⟩ := parent_kept x p hp
    obtain ⟨f, hf, hmem⟩ := hI.up x (hS.att hx) p hps
    exact ⟨f, by rw [ho]; exact hf, by rw [ho, hS.kidsPos_eq]; exact hmem⟩
  · intro x hx hy
    exact hI.cid_kept (hS.att hx) hy (hS.cid_eq x) (fun c _ => hS.cid_eq c) (hS.same x).cls (hS.same x).props
      (hS.same x).fields
  · intro x k hk
    have ho := pid_kept x k hk
    rw [ho] at hk
    obtain ⟨hxs, hks⟩ := hI.noDangling x k hk
    obtain ⟨p, hp⟩ := Option.isSome_iff_exists.mp hks
    have hps : Att s p := hI.att_of_lookup hp
    have hpid : s.idOf p = k := (hI.regSound k p hp).2
    obtain ⟨f, _, hmem⟩ := hI.up x hxs p (by rw [parent_of_pid hk]; exact hp)
    have notCleared : ¬ Cleared (s'.obj x) := by rw [ho]; intro h; rw [h.1] at hk; cases hk
    have hxu : x ≠ u := not_root x p (by rw [hk, hpid]) hps
    constructor
    · apply Classical.byContradiction; intro hx
      rcases unreg_cleared x ⟨hxs, hx⟩ with h | h
      · exact hxu h
      · exact notCleared h
    · -- the parent is still registered: otherwise x would have been cleared
      rcases hS.reg k with h | h
      · rw [h]; exact hks
      · have : Unreg s s' p := ⟨hps, by unfold Att; rw [hS.id_eq, hpid, h]; exact fun h => (nomatch h)⟩
        exact absurd (hF.cleared p this x (mem_kidList_of_pos hmem)) notCleared
  · intro v hv c hc
    rw [hS.size] at hv ⊢
    rw [hS.kidList_eq] at hc
    exact hI.closed v hv c hc
  · intro x hx
    exact hI.noSelf x (parent_kept x x hx).2
  · intro v
    exact LObj.wf_congr (hS.fields_eq v) (hI.wf v)

/-- `detach(only_self)` that returns preserves the invariant (any fuel, both variants), also with
holes whose parents are not unregistered by the run -/
theorem detachGo_invX (Hc : Str → Str) {X : Nat → (Nat × Str × Option Nat) → Prop} {Y : Nat → Prop}
    {s s' : LState} {u fuel : Nat} {os b : Bool} (hI : InvX Hc X Y s)
    (h : detachGo fuel os s u = (s', some b)) (hXs : ∀ q e, X q e → ¬ Unreg s s' q) : InvX Hc X Y s' := by
  have hF := detachGo_facts fuel os s u b (by rw [h])
  cases fuel with
  | zero => simp [detachGo] at h
  | succ fuel =>
    rcases detachGo_succ fuel os s u (b := b) (by rw [h]) with h0 | ⟨_, _, hroot, _, _⟩
    · rw [h] at h0; have e : s' = s := h0; rw [e]; exact hI
    · rw [h] at hF; exact inv_of_detachFacts Hc hI hF hroot hXs

theorem detachGo_inv (Hc : Str → Str) {s s' : LState} {u fuel : Nat} {os b : Bool} (hI : Inv Hc s)
    (h : detachGo fuel os s u = (s', some b)) : Inv Hc s' :=
  detachGo_invX Hc hI h (fun _ _ hx => hx.elim)

/-- whatever a finished `detach` changed is a child of a node that it unregistered -/
theorem detachGo_touched (fuel : Nat) (os : Bool) (s : LState) (u : Nat) (b : Bool)
    (hb : (detachGo fuel os s u).2 = some b) :
    ∀ x, (detachGo fuel os s u).1.obj x ≠ s.obj x →
      ∃ p, Unreg s (detachGo fuel os s u).1 p ∧ x ∈ (s.obj p).kidList := by
  cases fuel with
  | zero => simp [detachGo] at hb
  | succ fuel =>
    rcases detachGo_succ fuel os s u hb with h | ⟨s1, hatt, _, hl, h⟩
    · rw [h]; intro x hx; exact absurd rfl hx
    · rw [h]
      obtain ⟨hk1, _⟩ := detachKids_facts (detachGo fuel false) os
        (fun t c t' b' ht => by have := detachGo_facts fuel false t c b' (by rw [ht]); rwa [ht] at this) _ s s1 hl
      intro x hx
      rcases hk1.touched x hx with h | ⟨p, hp, hxp⟩
      · exact ⟨u, ⟨hatt, fun h => ((att_unregister_iff _ _ _).mp h).2 rfl⟩, h⟩
      · exact ⟨p, ⟨hp.1, fun h => hp.2 ((shrinks_unregister _ _).att h)⟩, hxp⟩

/-- a finished `detach` of an attached root leaves it detached -/
theorem detachGo_root_detaches {s s' : LState} {u fuel : Nat} {os b : Bool} (hua : Att s u)
    (hroot : s.parent u = none) (h : detachGo fuel os s u = (s', some b)) : ¬ Att s' u := by
  cases fuel with
  | zero => simp [detachGo] at h
  | succ fuel =>
    unfold detachGo at h
    have hd : s.detached u = false := (detached_eq_false_iff s u).mpr hua
    have hr : s.isAttachedRoot u = true := (isAttachedRoot_iff s u).mpr ⟨hua, hroot⟩
    simp only [hd, Bool.false_eq_true, if_false, hr, Bool.not_true] at h
    split at h
    · cases h
    · simp only [Prod.mk.injEq] at h
      rw [← h.1]
      exact fun h => ((att_unregister_iff _ _ _).mp h).2 rfl

/-! ### `detach_self` in closed form -/

theorem foldl_clearParent_lookup : ∀ (ks : List Nat) (s : LState) (k : Str),
    (ks.foldl LState.clearParent s).lookup k = s.lookup k := by
  intro ks; induction ks with
  | nil => intro s k; rfl
  | cons c r ih => intro s k; simp only [List.foldl_cons]; rw [ih]; rfl

theorem foldl_clearParent_size : ∀ (ks : List Nat) (s : LState), (ks.foldl LState.clearParent s).size = s.size := by
  intro ks; induction ks with
  | nil => intro s; rfl
  | cons c r ih => intro s; simp only [List.foldl_cons]; rw [ih]; rfl

theorem foldl_clearParent_obj : ∀ (ks : List Nat) (s : LState) (x : Nat),
    (ks.foldl LState.clearParent s).obj x = if x ∈ ks then clearP (s.obj x) else s.obj x := by
  intro ks; induction ks with
  | nil => intro s x; simp
  | cons c r ih =>
    intro s x
    simp only [List.foldl_cons]
    rw [ih, clearParent_obj']
    by_cases hxc : x = c
    · subst hxc; simp
    · by_cases hxr : x ∈ r <;> simp [hxc, hxr]

theorem foldl_clearParent_idOf (ks : List Nat) (s : LState) (x : Nat) :
    (ks.foldl LState.clearParent s).idOf x = s.idOf x := by
  unfold LState.idOf; rw [foldl_clearParent_obj]; split <;> simp

theorem detachKids_onlySelf (rec : LState → Nat → LState × Option Bool) : ∀ (ks : List Nat) (s : LState),
    detachKids rec true s ks = (ks.foldl LState.clearParent s, true) := by
  intro ks; induction ks with
  | nil => intro s; rfl
  | cons c r ih => intro s; simp only [detachKids, if_true, List.foldl_cons]; exact ih _

/-- `detach_self()` of an attached root, in closed form -/
theorem detach_self_eq {s : LState} {u fuel : Nat} (ha : Att s u) (hr : s.parent u = none) :
    detachGo (fuel + 1) true s u =
      (((s.obj u).kidList.foldl LState.clearParent s).unregister (s.idOf u), some true) := by
  unfold detachGo
  have hd : s.detached u = false := (detached_eq_false_iff _ _).mpr ha
  have hroot : s.isAttachedRoot u = true := (isAttachedRoot_iff s u).mpr ⟨ha, hr⟩
  simp only [hd, Bool.false_eq_true, if_false, hroot, Bool.not_true]
  rw [detachKids_onlySelf]
  simp only [foldl_clearParent_idOf]

/-! ### a run only unregisters descendants of its start node -/

/-- `q` is reachable from `x` along child links -/
inductive Desc (s : LState) (x : Nat) : Nat → Prop
  | refl : Desc s x x
  | step {q' q : Nat} : Desc s x q' → q ∈ (s.obj q').kidList → Desc s x q

theorem Desc.congr {s t : LState} (h : ∀ v, (t.obj v).kidList = (s.obj v).kidList) {x q : Nat} (hd : Desc s x q) :
    Desc t x q := by
  induction hd with
  | refl => exact .refl
  | step _ hk ih => exact .step ih (by rw [h]; exact hk)

theorem Desc.trans_kid {s : LState} {x c q : Nat} (hc : c ∈ (s.obj x).kidList) (hd : Desc s c q) : Desc s x q := by
  induction hd with
  | refl => exact .step .refl hc
  | step _ hk ih => exact .step ih hk

theorem Desc.of_leaf {s : LState} {x q : Nat} (hx : (s.obj x).kidList = []) (hd : Desc s x q) : q = x := by
  induction hd with
  | refl => rfl
  | step _ hk ih => rw [ih, hx] at hk; cases hk

/-- descendants of an existing object exist -/
theorem Desc.lt {s : LState} (hclosed : ∀ v, v < s.size → ∀ c ∈ (s.obj v).kidList, c < s.size) {u q : Nat}
    (hu : u < s.size) (hd : Desc s u q) : q < s.size := by
  induction hd with
  | refl => exact hu
  | step _ hk ih => exact hclosed _ ih _ hk

theorem detachKids_desc (rec : LState → Nat → LState × Option Bool) (os : Bool)
    (hrec : ∀ s c s' b, rec s c = (s', some b) → Shrinks s s' ∧ ∀ q, Unreg s s' q → Desc s c q) :
    ∀ (ks : List Nat) (s s' : LState), detachKids rec os s ks = (s', true) →
      Shrinks s s' ∧ ∀ q, Unreg s s' q → ∃ c ∈ ks, Desc s c q := by
  intro ks
  induction ks with
  | nil => intro s s' h; cases h; exact ⟨Shrinks.refl _, fun q hq => absurd hq.1 hq.2⟩
  | cons c cs ih =>
    intro s s' h
    obtain ⟨s2, h2, hstep⟩ := detachKids_cons h
    obtain ⟨i1, i2⟩ := ih s2 s' h2
    have hc := shrinks_clearParent s c
    -- the first round unregisters descendants of `c` only
    have h12 : Shrinks s s2 ∧ ∀ q, Unreg s s2 q → Desc s c q := by
      rcases hstep with ⟨_, rfl⟩ | ⟨_, b, hr⟩
      · exact ⟨hc, fun q hq => absurd ((att_clearParent_iff s c q).mpr hq.1) hq.2⟩
      · obtain ⟨hS, hD⟩ := hrec _ _ _ _ hr
        exact ⟨hc.trans hS, fun q hq =>
          (hD q ⟨(att_clearParent_iff s c q).mpr hq.1, hq.2⟩).congr (fun v => (hc.kidList_eq v).symm)⟩
    refine ⟨h12.1.trans i1, fun q hq => ?_⟩
    by_cases h2a : Att s2 q
    · obtain ⟨c', hc', hd⟩ := i2 q ⟨h2a, hq.2⟩
      exact ⟨c', List.mem_cons_of_mem _ hc', hd.congr (fun v => (h12.1.kidList_eq v).symm)⟩
    · exact ⟨c, List.mem_cons_self .., h12.2 q ⟨hq.1, h2a⟩⟩

theorem detachGo_desc : ∀ (fuel : Nat) (os : Bool) (s : LState) (u : Nat) (b : Bool),
    (detachGo fuel os s u).2 = some b → ∀ q, Unreg s (detachGo fuel os s u).1 q → Desc s u q := by
  intro fuel
  induction fuel with
  | zero => intro os s u b h; simp [detachGo] at h
  | succ fuel ih =>
    intro os s u b hb q hq
    rcases detachGo_succ fuel os s u hb with h | ⟨s1, hatt, _, hl, h⟩
    · rw [h] at hq; exact absurd hq.1 hq.2
    · rw [h] at hq
      obtain ⟨hS, hD⟩ := detachKids_desc (detachGo fuel false) os
        (fun t c t' b' ht => by
          have h1 := detachGo_facts fuel false t c b' (by rw [ht])
          have h2 := ih false t c b' (by rw [ht])
          rw [ht] at h1 h2; exact ⟨h1.shr, h2⟩) _ s s1 hl
      by_cases h1 : Att s1 q
      · -- unregistered by the last step: it is u
        have : q = u := Classical.byContradiction fun hne =>
          hq.2 ((att_unregister_iff _ _ _).mpr ⟨h1, fun e => hne (hS.eq_of_id hatt h1 e)⟩)
        rw [this]; exact .refl
      · obtain ⟨c, hc, hd⟩ := hD q ⟨hq.1, h1⟩
        exact Desc.trans_kid hc hd

/-! ### a computable sufficient condition for `¬ Desc s u p` -/

/-- walk up from `x` along `parent`: `true` iff a root is reached within the fuel without meeting `u` -/
def upFree (s : LState) (u : Nat) : Nat → Nat → Bool
  | 0, _ => false
  | fuel + 1, x =>
    if x = u then false
    else match s.parent x with
      | none => true
      | some q => upFree s u fuel q

/-- descendants of an attached node are attached, and walking up from them meets that node -/
theorem upFree_of_desc {Hc : Str → Str} {X : Nat → (Nat × Str × Option Nat) → Prop} {Y : Nat → Prop} {s : LState}
    (hI : InvX Hc X Y s) {u q : Nat} (hu : Att s u) (hd : Desc s u q)
    (hX : ∀ w e, X w e → ¬ Desc s u w) : Att s q ∧ ∀ fuel, upFree s u fuel q = false := by
  induction hd with
  | refl => exact ⟨hu, fun fuel => by cases fuel <;> simp [upFree]⟩
  | @step q' q hd' hk ih =>
    obtain ⟨hq', hup⟩ := ih
    obtain ⟨e, he, he1⟩ := (mem_kidList_iff _ _).mp hk
    obtain ⟨a, b, _, _⟩ := hI.down q' hq' e he (fun hx => hX q' e hx hd')
    rw [he1] at a b
    refine ⟨a, fun fuel => ?_⟩
    cases fuel with
    | zero => rfl
    | succ f =>
      unfold upFree
      by_cases hqu : q = u
      · simp [hqu]
      · simp only [hqu, if_false]
        rw [(parent_of_pid b).trans hq']; exact hup f

/-- the decidable form of the acyclicity side condition -/
theorem not_desc_of_upFree {Hc : Str → Str} {s : LState} (hI : Inv Hc s) {u p fuel : Nat} (hu : Att s u)
    (h : upFree s u fuel p = true) : ¬ Desc s u p := by
  intro hd
  have := (upFree_of_desc hI hu hd (fun _ _ hx => hx.elim)).2 fuel
  rw [h] at this; cases this

end PyOak.Legacy
