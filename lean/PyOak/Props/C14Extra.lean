/-
C14 — every node of a duplicate is new, and the id rule of `replace` (cf. AUDIT.md item #2).

**duplicate.**  `C14.dup_copy`, `dup_fresh`, `dup_independent` are all satisfied by a SHALLOW copy (a
new root that re-uses the original children): `C14.isCopy s n a a` holds for every node
(`isCopy_self` below).  Here:

* `isCopyNew old s n a b` — `b ∉ old`, `b` has the class / mro of `a`, and the children of `b` are,
  position by position, `isCopyNew` copies of the children of `a`;  `isCopyP P` is the same with an
  arbitrary predicate `P` on the nodes of the copy.
* `dup_all_new`: EVERY node of the duplicate is an object that did not exist before
  (`old = s.heap.map (·.uid)`); a shallow copy does not satisfy it (`isCopyNew_kids_new`,
  `not_isCopyNew_self`, example `shallow_is_not_new`).
* `dup_all_registered`: every node of the duplicate is registered under its id, and that id is the
  key of no registered node of the original state (`NewReg`).
* `dup_descendants_new`: the same read off the model's own traversal `descendants` (`self.dfs()`).
* `duplicate_step`: the statement for the public operation, in the state after the final `gc`.

NOT provable in this model: "same base digest" — the digest of every created node is an INPUT of the
machine (observed on the real node), as are property values, origins and content ids (see AUDIT.md).

**replace.**  The statement says: `replace` "gives the new node the id a fresh construction with the
original absent would get (the original's id when only non-comparable fields change and it has no
registered twin)".

* `replace_id_fresh_absent`, `replace_id_eq_construct_absent`: the main clause, for registered AND
  detached originals: the id is `freshId` in the registry from which every entry of the original
  was removed, which is the id `construct` hands out in that registry.
  `C14.replace_new_id` (registered originals, the registry written as `regDel`) and
  `C14.replace_same_digest_keeps_id` are its corollaries and are proved here.
* `freshId_least`, `freshId_skipped`: `_get_next_unique_id` returns the LEAST free suffix.
* the parenthetical is FALSE as written.  `C14.replace_same_digest_keeps_id` has the premise "new
  digest = the original's *id*", which never holds for an original carrying a suffixed id.  Precisely
  (`replace_keeps_id_iff`): with an unchanged digest `d`, an original with id `d` keeps it; an original
  with id `d_j` keeps it iff `d, d_1, …, d_(j-1)` are all still registered (by other nodes).  Hence
  an original with a suffixed id whose twin died gets the plain digest back
  (`replace_suffixed_twin_dead`), contradicting the parenthetical although it "has no registered
  twin": `replace_keeps_id_naive_fails` (concrete history: the original carries `ab_1`, the new node
  gets `ab`).  pyoak does the same: code and model follow the main clause, not the parenthetical.
* `replace_detached`, `replace_new_node`, `dcReplace_new_node`: detached originals; class, children
  and registration of the new node.
-/
import PyOak.Props.C14
import PyOak.Props.C10Extra
namespace PyOak
namespace C14X
open RState RegL C03 C14

/-! ### copies all of whose nodes satisfy a predicate -/

/-- `isCopyP P s n a b`: `b` is a structural copy of `a` (class, mro, children position by position,
down to depth `n`) and EVERY node of the copy satisfies `P` -/
def isCopyP (P : Nat → Prop) (s : RState) : Nat → Nat → Nat → Prop
  | 0, _, _ => False
  | n + 1, a, b => P b ∧ ∃ oa ob, s.obj? a = some oa ∧ s.obj? b = some ob ∧ ob.cls = oa.cls ∧ ob.mro = oa.mro ∧
      Forall₂ (isCopyP P s n) oa.kids ob.kids

/-- `isCopyNew old s n a b`: a structural copy none of whose nodes is in `old` -/
def isCopyNew (old : List Nat) (s : RState) : Nat → Nat → Nat → Prop
  | 0, _, _ => False
  | n + 1, a, b => b ∉ old ∧ ∃ oa ob, s.obj? a = some oa ∧ s.obj? b = some ob ∧ ob.cls = oa.cls ∧ ob.mro = oa.mro ∧
      Forall₂ (isCopyNew old s n) oa.kids ob.kids

theorem forall₂_iff {α β : Type} {R S : α → β → Prop} (h : ∀ a b, R a b ↔ S a b) {l1 : List α} {l2 : List β} :
    Forall₂ R l1 l2 ↔ Forall₂ S l1 l2 :=
  ⟨forall₂_imp (fun a b => (h a b).mp), forall₂_imp (fun a b => (h a b).mpr)⟩

theorem isCopyNew_iff (old : List Nat) (s : RState) :
    ∀ (n a b : Nat), isCopyNew old s n a b ↔ isCopyP (fun b => b ∉ old) s n a b
  | 0, _, _ => Iff.rfl
  | n + 1, a, b => by
    have ih : ∀ (l1 l2 : List Nat), Forall₂ (isCopyNew old s n) l1 l2 ↔ Forall₂ (isCopyP (fun b => b ∉ old) s n) l1 l2 :=
      fun _ _ => forall₂_iff (isCopyNew_iff old s n)
    constructor
    · rintro ⟨h0, oa, ob, h1, h2, h3, h4, h5⟩; exact ⟨h0, oa, ob, h1, h2, h3, h4, (ih _ _).mp h5⟩
    · rintro ⟨h0, oa, ob, h1, h2, h3, h4, h5⟩; exact ⟨h0, oa, ob, h1, h2, h3, h4, (ih _ _).mpr h5⟩

/-- a list-relation lemma that remembers where the right element comes from -/
theorem forall₂_imp_mem {α β : Type} {R S : α → β → Prop} :
    ∀ {l1 : List α} {l2 : List β}, (∀ a b, b ∈ l2 → R a b → S a b) → Forall₂ R l1 l2 → Forall₂ S l1 l2
  | _, _, _, .nil => .nil
  | _, _, h, .cons hab t =>
    .cons (h _ _ (List.Mem.head _) hab) (forall₂_imp_mem (fun a b hb => h a b (List.mem_cons_of_mem _ hb)) t)

theorem forall₂_mem_right {α β : Type} {R : α → β → Prop} :
    ∀ {l1 : List α} {l2 : List β}, Forall₂ R l1 l2 → ∀ b ∈ l2, ∃ a ∈ l1, R a b
  | _, _, .nil, b, hb => by simp at hb
  | _, _, .cons hab t, b, hb => by
    rcases List.mem_cons.mp hb with rfl | hb
    · exact ⟨_, List.Mem.head _, hab⟩
    · obtain ⟨a, ha, hr⟩ := forall₂_mem_right t b hb
      exact ⟨a, List.mem_cons_of_mem _ ha, hr⟩

theorem isCopyP_isCopy {P : Nat → Prop} {s : RState} : ∀ (n a b : Nat), isCopyP P s n a b → isCopy s n a b
  | 0, _, _, h => h.elim
  | n + 1, _, _, ⟨_, oa, ob, h1, h2, h3, h4, h5⟩ => ⟨oa, ob, h1, h2, h3, h4, forall₂_imp (isCopyP_isCopy n) h5⟩

/-- a copy survives a change of state that keeps the records; the predicate may be weakened using
the record of the node -/
theorem isCopyP_map {P Q : Nat → Prop} {s s' : RState} (hs : ∀ u o, s.obj? u = some o → s'.obj? u = some o)
    (h : ∀ b ob, s.obj? b = some ob → P b → Q b) : ∀ (n a b : Nat), isCopyP P s n a b → isCopyP Q s' n a b
  | 0, _, _, hc => hc.elim
  | n + 1, _, _, ⟨h0, oa, ob, h1, h2, h3, h4, h5⟩ =>
    ⟨h _ _ h2 h0, oa, ob, hs _ _ h1, hs _ _ h2, h3, h4, forall₂_imp (isCopyP_map hs h n) h5⟩

/-- every node the model's traversal (`self.dfs()`) finds in the copy satisfies `P` -/
theorem isCopyP_descendants {P : Nat → Prop} {s : RState} :
    ∀ (n a b : Nat), isCopyP P s n a b → ∀ c ∈ b :: s.descendants n b, P c
  | 0, _, _, h, _, _ => h.elim
  | n + 1, a, b, ⟨h0, oa, ob, h1, h2, h3, h4, h5⟩, c, hc => by
    rcases List.mem_cons.mp hc with rfl | hc
    · exact h0
    · simp only [descendants, kidsOf_of_obj h2, List.mem_flatMap] at hc
      obtain ⟨k, hk, hck⟩ := hc
      obtain ⟨a', _, hr⟩ := forall₂_mem_right h5 k hk
      exact isCopyP_descendants n a' k hr c hck

/-- the nodes of the copy of a live root are live -/
theorem isCopyP_live {P : Nat → Prop} {s : RState} (hnd : (s.heap.map (·.uid)).Nodup) :
    ∀ (n a b : Nat), isCopyP P s n a b → s.isLive b = true → isCopyP (fun c => P c ∧ s.isLive c = true) s n a b
  | 0, _, _, h, _ => h.elim
  | n + 1, a, b, ⟨h0, oa, ob, h1, h2, h3, h4, h5⟩, hl => by
    refine ⟨⟨h0, hl⟩, oa, ob, h1, h2, h3, h4, forall₂_imp_mem ?_ h5⟩
    intro a' k hk hr
    exact isCopyP_live hnd n a' k hr (isLive_kid hnd hl (by rw [kidsOf_of_obj h2]; exact hk))

/-! ### a shallow copy is NOT new -/

theorem forall₂_left_self {α β : Type} {R : α → β → Prop} {S : α → α → Prop} (h : ∀ a b, R a b → S a a) :
    ∀ {l1 : List α} {l2 : List β}, Forall₂ R l1 l2 → Forall₂ S l1 l1
  | _, _, .nil => .nil
  | _, _, .cons hab t => .cons (h _ _ hab) (forall₂_left_self h t)

/-- the weakness of `C14.isCopy`: whenever anything is a copy of `a`, `a` is a "copy" of itself; so
the conclusion of `C14.dup_copy` cannot tell a duplicate from the original, and a new root over
the original children satisfies `dup_copy` / `dup_fresh` / `dup_independent` -/
theorem isCopy_self {s : RState} : ∀ (n a b : Nat), isCopy s n a b → isCopy s n a a
  | 0, _, _, h => h.elim
  | n + 1, _, _, ⟨oa, _, h1, _, _, _, h5⟩ => ⟨oa, oa, h1, h1, rfl, rfl, forall₂_left_self (isCopy_self n) h5⟩

/-- the children of an `isCopyNew` copy are new: a root over the ORIGINAL children is refuted -/
theorem isCopyNew_kids_new {old : List Nat} {s : RState} {n a b : Nat} (h : isCopyNew old s (n + 2) a b) :
    ∀ k ∈ s.kidsOf b, k ∉ old := by
  obtain ⟨_, oa, ob, _, h2, _, _, h5⟩ := h
  intro k hk
  rw [kidsOf_of_obj h2] at hk
  obtain ⟨a', _, hr⟩ := forall₂_mem_right h5 k hk
  exact hr.1

theorem not_isCopyNew_self {old : List Nat} {s : RState} {n a : Nat} (ha : a ∈ old) : ¬ isCopyNew old s n a a := by
  cases n with
  | zero => exact fun h => h
  | succ n => exact fun h => h.1 ha

/-! ### `duplicate`: every node of the copy is new -/

theorem dup_copyP (P : Nat → Prop) (fuel : Nat) (s : RState) (x : Nat) (fresh : Fresh) (s' : RState) (u : Nat)
    (fr : Fresh) (hI : Inv s) (hf : FreshOk s fresh) (hP : ∀ t ∈ fresh.map (·.1), P t)
    (h : s.dupAux fuel x fresh = some (s', u, fr)) : isCopyP P s' fuel x u :=
  dup_rel (isCopyP P) P (fun hs => isCopyP_map hs fun _ _ _ p => p) (fun h0 h1 h2 h3 h4 h5 => ⟨h0, _, _, h1, h2, h3, h4, h5⟩)
    fuel s x fresh s' u fr hI hf hP h

/-- **duplicate: EVERY node of the copy is a newly created object** (not an object of the state
before the call), at every position of the tree; in particular no child is shared with the
original.  (`C14.dup_copy` + `dup_independent` only say this of the root.) -/
theorem dup_all_new {s : RState} {fuel x : Nat} {fresh : Fresh} {s' : RState} {u : Nat} {fr : Fresh}
    (hI : Inv s) (hf : FreshOk s fresh) (h : s.dupAux fuel x fresh = some (s', u, fr)) :
    isCopyNew (s.heap.map (·.uid)) s' fuel x u :=
  (isCopyNew_iff _ _ _ _ _).mpr (dup_copyP _ fuel s x fresh s' u fr hI hf hf.2 h)

/-- `NewReg s s' b`: `b` did not exist in `s`; in `s'` it is registered under its id; and no
registered node of `s` uses that id -/
def NewReg (s s' : RState) (b : Nat) : Prop :=
  b ∉ s.heap.map (·.uid) ∧
  ∃ ob, s'.obj? b = some ob ∧ s'.regGet ob.id = some b ∧ ∀ k w, s.regGet k = some w → k ≠ ob.id

/-- **duplicate: every node of the copy is new, registered, and its id is used by no registered
node of the original** -/
theorem dup_all_registered {s : RState} {fuel x : Nat} {fresh : Fresh} {s' : RState} {u : Nat} {fr : Fresh}
    (hI : Inv s) (hf : FreshOk s fresh) (h : s.dupAux fuel x fresh = some (s', u, fr)) :
    isCopyP (NewReg s s') s' fuel x u := by
  have hE := dupAux_evol _ _ _ _ _ _ _ h
  have hI' := (evol_good hE hI hf).1
  have hobj := evol_new_id hE hI hf
  refine isCopyP_map (fun _ _ h => h) ?_ fuel x u (dup_copyP _ fuel s x fresh s' u fr hI hf hf.2 h)
  intro b ob hb hnew
  obtain ⟨hm, hu⟩ := obj?_some hb
  rcases hobj ob hm with h1 | ⟨h1, h2⟩
  · exact absurd (List.mem_map.mpr ⟨ob, h1, hu⟩) hnew
  · refine ⟨hnew, ob, hb, ?_, ?_⟩
    · rw [hu] at h1; exact rget_of_mem hI'.keysNodup h1
    · intro k w hk e
      subst e
      exact h2 (List.mem_map.mpr ⟨_, rget_some_mem hk, rfl⟩)

/-- the same, read off the model's traversal of the copy (`dup.dfs()`): the root of the duplicate
and every node below it is new, registered, under an id no registered original uses -/
theorem dup_descendants_new {s : RState} {fuel x : Nat} {fresh : Fresh} {s' : RState} {u : Nat} {fr : Fresh}
    (hI : Inv s) (hf : FreshOk s fresh) (h : s.dupAux fuel x fresh = some (s', u, fr)) :
    ∀ c ∈ u :: s'.descendants fuel u, NewReg s s' c :=
  isCopyP_descendants fuel x u (dup_all_registered hI hf h)

/-! ### the public operation -/

theorem step_duplicate_ok {s : RState} {v x : Nat} {fresh : Fresh} {u : Nat} {flag : Option Bool}
    (h : (s.step (.duplicate v x fresh)).2 = .ok (some u) flag) :
    s.isLive x = true ∧ ∃ s', s.dupAux (s.heap.length + 1) x fresh = some (s', u, []) ∧
      (s.step (.duplicate v x fresh)).1 = (s'.bind v u).gc := by
  unfold step at h ⊢
  by_cases hx : s.isLive x = true
  · refine ⟨hx, ?_⟩
    cases hd : s.dupAux (s.heap.length + 1) x fresh with
    | none => simp [hx, hd] at h
    | some r =>
      obtain ⟨s', u', fr⟩ := r
      cases fr with
      | nil =>
        simp [hx, hd, finish] at h ⊢
        exact ⟨s', ⟨rfl, h.1⟩, by rw [h.1]⟩
      | cons e r => simp [hx, hd, finish] at h
  · simp [hx] at h

/-- **`v = x.duplicate()`**, in the state after the operation (after `gc`): the result is a copy of
`x` every node of which is a new object, registered under an id that no registered node of the
state before the call uses; the same for every node the traversal of the result finds. -/
theorem duplicate_step {s : RState} {v x : Nat} {fresh : Fresh} {u : Nat} {flag : Option Bool}
    (hI : Inv s) (hok : OpOk s (.duplicate v x fresh))
    (h : (s.step (.duplicate v x fresh)).2 = .ok (some u) flag) :
    isCopyP (NewReg s (s.step (.duplicate v x fresh)).1) (s.step (.duplicate v x fresh)).1 (s.heap.length + 1) x u ∧
    ∀ c ∈ u :: (s.step (.duplicate v x fresh)).1.descendants (s.heap.length + 1) u,
      NewReg s (s.step (.duplicate v x fresh)).1 c := by
  obtain ⟨_, s', hd, hs2⟩ := step_duplicate_ok h
  have hE := dupAux_evol _ _ _ _ _ _ _ hd
  have hI' := (evol_good hE hI hok).1
  have hIb : Inv (s'.bind v u) := inv_roots hI' _
  -- binding the result and `gc` leave the heap alone
  have h1 : isCopyP (NewReg s s') (s'.bind v u) (s.heap.length + 1) x u :=
    isCopyP_map (s := s') (s' := s'.bind v u) (fun _ _ h => h) (fun _ _ _ p => p) _ _ _ (dup_all_registered hI hok hd)
  have hlu : (s'.bind v u).isLive u = true :=
    isLive_root hIb.heapNodup (r := (v, u)) (by simp [RState.bind])
  have h4 : isCopyP (NewReg s (s'.bind v u).gc) (s'.bind v u).gc (s.heap.length + 1) x u := by
    refine isCopyP_map (s := s'.bind v u) (s' := (s'.bind v u).gc) (fun _ _ h => h) ?_ _ _ _ (isCopyP_live hIb.heapNodup _ _ _ h1 hlu)
    rintro b ob hb ⟨⟨hn, ob', hb', hreg, hid⟩, hl⟩
    refine ⟨hn, ob', hb', ?_, hid⟩
    apply rget_of_mem (gc_inv hIb).keysNodup
    exact List.mem_filter.mpr ⟨rget_some_mem hreg, hl⟩
  rw [hs2]
  exact ⟨h4, isCopyP_descendants _ _ _ h4⟩


/-! ### `replace`: the id of a fresh construction with the original absent -/

/-- the state in which the original `x` is absent from the registry (every entry of `x` removed) -/
def absent (s : RState) (x : Nat) : RState := { s with reg := s.reg.filter (fun e => e.2 != x) }

theorem idOf_bind_gc (s : RState) (v u w : Nat) : ((s.bind v u).gc).idOf w = s.idOf w := rfl

/-- the id `construct` hands out -/
theorem construct_id {s : RState} {v : Nat} {cls : Str} {mro : List Str} {kids : List Nat} {tok : Nat} {base : Str}
    (hok : OpOk s (.construct v cls mro kids [(tok, base)])) (hk : kids.all s.isLive = true) :
    (s.step (.construct v cls mro kids [(tok, base)])).1.idOf tok = s.freshId base := by
  rw [step_construct hk, idOf_bind_gc]
  exact idOf_pNew (FreshOk.head hok) _ _ _ _

/-- **replace, main clause**, registered and detached originals alike: the new node gets the id
`__post_init__` computes in the registry from which the original is absent -/
theorem replace_id_fresh_absent {s : RState} (hI : Inv s) {v x : Nat} {kids : List Nat} {tok : Nat} {base : Str} {o : RObj}
    (hok : OpOk s (.replace v x kids false [(tok, base)]))
    (hx : s.isLive x = true) (hk : kids.all s.isLive = true) (ho : s.obj? x = some o) :
    (s.step (.replace v x kids false [(tok, base)])).1.idOf tok = (absent s x).freshId base := by
  rw [step_replace hx hk ho, idOf_bind_gc]
  have htok : tok ∉ (s.pDetachSelf x).1.heap.map (·.uid) := by
    rw [pDetachSelf_fst_heap]; exact FreshOk.head hok
  rw [idOf_pNew htok]
  exact freshId_congr (pDetachSelf_reg hI x) base

/-- … which is, literally, **the id a fresh construction (same class, children, digest) gets in the
state where the original is absent** -/
theorem replace_id_eq_construct_absent {s : RState} (hI : Inv s) {v x : Nat} {kids : List Nat} {tok : Nat} {base : Str}
    {o : RObj} (hok : OpOk s (.replace v x kids false [(tok, base)]))
    (hx : s.isLive x = true) (hk : kids.all s.isLive = true) (ho : s.obj? x = some o) :
    (s.step (.replace v x kids false [(tok, base)])).1.idOf tok =
      ((absent s x).step (.construct v o.cls o.mro kids [(tok, base)])).1.idOf tok := by
  have hk' : kids.all (absent s x).isLive = true := by
    rw [List.all_eq_true] at hk ⊢
    intro k hk1
    rw [isLive_congr (s := absent s x) (s' := s) rfl rfl]
    exact hk k hk1
  rw [replace_id_fresh_absent hI hok hx hk ho, construct_id (s := absent s x) hok hk']

/-- the original's own id is free once the original is absent -/
theorem own_id_free {s : RState} (hI : Inv s) {x : Nat} (hreg : s.regGet (s.idOf x) = some x) :
    s.idOf x ∉ (absent s x).reg.map (·.1) := by
  intro hm
  obtain ⟨e, he, hk⟩ := List.mem_map.mp hm
  obtain ⟨he1, he2⟩ := List.mem_filter.mp he
  have h2 : (s.idOf x, e.2) ∈ s.reg := by rw [← hk]; exact he1
  have := reg_functional hI h2 (rget_some_mem hreg)
  simp [this] at he2

end C14X

namespace C14
open RState RegL C03 C14X

/-- **replace**: the original leaves the registry; the new node's id is the one `__post_init__`
computes in the registry *without* the original. -/
theorem replace_new_id {s : RState} (hI : Inv s) {v x : Nat} {kids : List Nat} {tok : Nat} {base : Str} {o : RObj}
    (hok : OpOk s (.replace v x kids false [(tok, base)]))
    (hx : s.isLive x = true) (hk : kids.all s.isLive = true) (ho : s.obj? x = some o)
    (hreg : s.regGet (s.idOf x) = some x) :
    let s2 := (s.step (.replace v x kids false [(tok, base)])).1
    (∀ k, s2.regGet k ≠ some x) ∧
    s2.idOf tok = RState.freshId { s with reg := regDel s.reg (s.idOf x) } base ∧
    ((∀ u, (base, u) ∈ s.reg → u = x) → s2.idOf tok = base) := by
  intro s2
  have hb : (s.pDetachSelf x).2 = true := by simp [pDetachSelf, hreg]
  have habs : (absent s x).reg = regDel s.reg (s.idOf x) :=
    (pDetachSelf_reg hI x).symm.trans (congrArg RState.reg (pDetachSelf_true hb).2)
  have hid := replace_id_fresh_absent hI hok hx hk ho
  refine ⟨C10X.replace_unregisters hI hok hx hk ho, hid.trans (freshId_congr habs base), fun hother => ?_⟩
  -- every entry under `base` belongs to `x`, so `base` is free once `x` is absent
  refine hid.trans (RegL.id_fresh_is_base _ _ (rget_none_iff.mpr fun hm => ?_))
  obtain ⟨e, he, hk'⟩ := List.mem_map.mp hm
  obtain ⟨he1, he2⟩ := List.mem_filter.mp he
  have : e.2 = x := hother e.2 (by rw [← hk']; exact he1)
  simp [this] at he2

/-- in particular a `replace` that does not change the digest keeps the original's id, provided
no *other* registered node carries it (always true under `Inv`) -/
theorem replace_same_digest_keeps_id {s : RState} (hI : Inv s) {v x : Nat} {kids : List Nat} {tok : Nat} {o : RObj}
    (hok : OpOk s (.replace v x kids false [(tok, s.idOf x)]))
    (hx : s.isLive x = true) (hk : kids.all s.isLive = true) (ho : s.obj? x = some o)
    (hreg : s.regGet (s.idOf x) = some x) :
    (s.step (.replace v x kids false [(tok, s.idOf x)])).1.idOf tok = s.idOf x := by
  apply (replace_new_id hI hok hx hk ho hreg).2.2
  intro u hu
  exact reg_functional hI hu (rget_some_mem hreg)

end C14

namespace C14X
open RState RegL C03 C14

/-- a registered original that carries the plain digest and whose digest does not change keeps its
id (no assumption about twins is needed) -/
theorem replace_keeps_plain_id {s : RState} (hI : Inv s) {v x : Nat} {kids : List Nat} {tok : Nat} {base : Str} {o : RObj}
    (hok : OpOk s (.replace v x kids false [(tok, base)]))
    (hx : s.isLive x = true) (hk : kids.all s.isLive = true) (ho : s.obj? x = some o)
    (hreg : s.regGet (s.idOf x) = some x) (hb : base = o.base) (hid : o.id = o.base) :
    (s.step (.replace v x kids false [(tok, base)])).1.idOf tok = o.id := by
  rw [replace_id_fresh_absent hI hok hx hk ho, hb, ← hid]
  apply RegL.id_fresh_is_base
  rw [regGet_def]
  apply rget_none_iff.mpr
  rw [← idOf_of_obj ho]
  exact own_id_free hI hreg

/-- **the parenthetical of the statement fails**: a registered original with a SUFFIXED id `d_j`,
unchanged digest `d`, and no registered node under `d` (its twin died) gets `d`, not `d_j` -/
theorem replace_suffixed_twin_dead {s : RState} (hI : Inv s) {v x : Nat} {kids : List Nat} {tok : Nat} {base : Str}
    {o : RObj} {j : Nat} (hok : OpOk s (.replace v x kids false [(tok, base)]))
    (hx : s.isLive x = true) (hk : kids.all s.isLive = true) (ho : s.obj? x = some o)
    (hb : base = o.base) (hid : o.id = suffixed o.base j) (hfree : base ∉ (absent s x).reg.map (·.1)) :
    (s.step (.replace v x kids false [(tok, base)])).1.idOf tok = o.base ∧
    (s.step (.replace v x kids false [(tok, base)])).1.idOf tok ≠ s.idOf x := by
  have h1 : (s.step (.replace v x kids false [(tok, base)])).1.idOf tok = o.base := by
    rw [replace_id_fresh_absent hI hok hx hk ho]
    subst hb
    apply RegL.id_fresh_is_base
    rw [regGet_def]
    exact rget_none_iff.mpr hfree
  refine ⟨h1, ?_⟩
  rw [h1, idOf_of_obj ho, hid]
  exact fun e => suffixed_ne_base _ _ e.symm

/-- **when exactly a suffixed id is kept**: a registered original with id `d_j` (`j ≥ 1`) and unchanged
digest `d` keeps its id iff `d, d_1, …, d_(j-1)` are all still keys of the registry (held by other
nodes) -/
theorem replace_keeps_id_iff {s : RState} (hI : Inv s) {v x : Nat} {kids : List Nat} {tok : Nat} {base : Str}
    {o : RObj} {j : Nat} (hok : OpOk s (.replace v x kids false [(tok, base)]))
    (hx : s.isLive x = true) (hk : kids.all s.isLive = true) (ho : s.obj? x = some o)
    (hreg : s.regGet (s.idOf x) = some x) (hb : base = o.base) (hid : o.id = suffixed o.base j) (hj : 1 ≤ j) :
    (s.step (.replace v x kids false [(tok, base)])).1.idOf tok = o.id ↔
      (o.base ∈ (absent s x).reg.map (·.1) ∧ ∀ m, 1 ≤ m → m < j → suffixed o.base m ∈ (absent s x).reg.map (·.1)) := by
  rw [replace_id_fresh_absent hI hok hx hk ho, hb, hid]
  constructor
  · exact freshId_skipped _ _ _
  · rintro ⟨h0, ht⟩
    apply freshId_least _ _ _ h0 hj ht
    rw [← hid, ← idOf_of_obj ho]
    exact own_id_free hI hreg

/-- detached original: the new node gets the id of a plain fresh construction, the original stays
unregistered -/
theorem replace_detached {s : RState} (hI : Inv s) {v x : Nat} {kids : List Nat} {tok : Nat} {base : Str} {o : RObj}
    (hok : OpOk s (.replace v x kids false [(tok, base)]))
    (hx : s.isLive x = true) (hk : kids.all s.isLive = true) (ho : s.obj? x = some o)
    (hreg : s.regGet (s.idOf x) ≠ some x) :
    (s.step (.replace v x kids false [(tok, base)])).1.idOf tok = s.freshId base ∧
    ∀ k, (s.step (.replace v x kids false [(tok, base)])).1.getAny k ≠ some x := by
  refine ⟨?_, C10X.replace_unregisters hI hok hx hk ho⟩
  rw [step_replace hx hk ho, idOf_bind_gc]
  have hb : (s.pDetachSelf x).2 = false := by simp [pDetachSelf, hreg]
  rw [(pDetachSelf_false hb).2]
  exact idOf_pNew (FreshOk.head hok) _ _ _ _

/-- the node created by `pNew` and bound to a variable: its record, and it is registered -/
theorem new_node_registered {s : RState} (hI : Inv s) {tok : Nat} (htok : tok ∉ s.heap.map (·.uid))
    (cls : Str) (mro : List Str) (base : Str) (kids : List Nat) (v : Nat) :
    ∃ o', ((s.pNew tok cls mro base kids).bind v tok).gc.obj? tok = some o' ∧ o'.cls = cls ∧ o'.mro = mro ∧
      o'.kids = kids ∧ o'.base = base ∧ ((s.pNew tok cls mro base kids).bind v tok).gc.getAny o'.id = some tok := by
  have hI2 : Inv ((s.pNew tok cls mro base kids).bind v tok) := inv_roots (pNew_inv hI htok _ _ _ _) _
  refine ⟨{ uid := tok, cls := cls, mro := mro, base := base, id := s.freshId base, kids := kids }, ?_, rfl, rfl, rfl, rfl, ?_⟩
  · exact obj?_of_mem (s := ((s.pNew tok cls mro base kids).bind v tok).gc)
      (o := { uid := tok, cls := cls, mro := mro, base := base, id := s.freshId base, kids := kids })
      hI2.heapNodup (List.mem_append_right _ (List.mem_singleton.mpr rfl))
  · apply rget_of_mem (gc_inv hI2).keysNodup
    refine List.mem_filter.mpr ⟨?_, ?_⟩
    · exact mem_regSet.mpr (Or.inr rfl)
    · exact isLive_root hI2.heapNodup (r := (v, tok)) (by simp [RState.bind])

/-- **replace**: the new node has the class (and mro) of the original, holds the given children, is
registered; the original is returned under no id -/
theorem replace_new_node {s : RState} (hI : Inv s) {v x : Nat} {kids : List Nat} {tok : Nat} {base : Str} {o : RObj}
    (hok : OpOk s (.replace v x kids false [(tok, base)]))
    (hx : s.isLive x = true) (hk : kids.all s.isLive = true) (ho : s.obj? x = some o) :
    (∃ o', (s.step (.replace v x kids false [(tok, base)])).1.obj? tok = some o' ∧ o'.cls = o.cls ∧ o'.mro = o.mro ∧
      o'.kids = kids ∧ o'.base = base ∧ (s.step (.replace v x kids false [(tok, base)])).1.getAny o'.id = some tok) ∧
    ∀ k, (s.step (.replace v x kids false [(tok, base)])).1.getAny k ≠ some x := by
  refine ⟨?_, C10X.replace_unregisters hI hok hx hk ho⟩
  rw [step_replace hx hk ho]
  exact new_node_registered (pDetachSelf_inv hI x) (by rw [pDetachSelf_fst_heap]; exact FreshOk.head hok) _ _ _ _ _

/-- **dataclasses.replace**: the same for the new node; the registry entries of all pre-existing
objects (the original included, registered or not) are as before as long as they are alive -/
theorem dcReplace_new_node {s : RState} (hI : Inv s) {v x : Nat} {kids : List Nat} {tok : Nat} {base : Str} {o : RObj}
    (hok : OpOk s (.dcReplace v x kids [(tok, base)]))
    (hx : s.isLive x = true) (hk : kids.all s.isLive = true) (ho : s.obj? x = some o) :
    (∃ o', (s.step (.dcReplace v x kids [(tok, base)])).1.obj? tok = some o' ∧ o'.cls = o.cls ∧ o'.mro = o.mro ∧
      o'.kids = kids ∧ o'.base = base ∧ (s.step (.dcReplace v x kids [(tok, base)])).1.getAny o'.id = some tok) ∧
    (∀ k, (s.step (.dcReplace v x kids [(tok, base)])).1.isLive x = true →
      ((s.step (.dcReplace v x kids [(tok, base)])).1.getAny k = some x ↔ s.getAny k = some x)) := by
  constructor
  · rw [step_dcReplace hx hk ho]
    exact new_node_registered hI (FreshOk.head hok) _ _ _ _ _
  · intro k hl
    have hm : x ∈ s.heap.map (·.uid) := by
      obtain ⟨hm, hu⟩ := obj?_some ho
      exact List.mem_map.mpr ⟨o, hm, hu⟩
    exact C10X.reg_frame_get hI hok hm hl (by simp [C10X.mayUnregister]) k

/-! ### every id is the digest or a suffixed digest (histories without `as_obj`)

`_deserialize` may force an arbitrary serialized id; in every other history a node's id is its
digest `d` or `d_j`, `j ≥ 1`, so `replace_keeps_plain_id` and `replace_keeps_id_iff` cover all
originals. -/

def IdShape (s : RState) : Prop :=
  ∀ o ∈ s.heap, o.id = o.base ∨ ∃ j, 1 ≤ j ∧ o.id = suffixed o.base j

theorem idShape_pNew {s : RState} (h : IdShape s) (tok : Nat) (cls : Str) (mro : List Str) (base : Str) (kids : List Nat) :
    IdShape (s.pNew tok cls mro base kids) := by
  intro o ho
  simp only [pNew] at ho
  rcases List.mem_append.mp ho with ho | ho
  · exact h o ho
  · simp only [List.mem_singleton] at ho
    subst ho
    exact freshId_shape s base

theorem idShape_of_heap {s s' : RState} (hh : s'.heap = s.heap) (h : IdShape s) : IdShape s' := by
  intro o ho; rw [hh] at ho; exact h o ho

theorem evol_idShape {K L : Nat → Prop} {C : Bool} {s f s1 f1} (hE : Evol K L false C s f s1 f1) (h : IdShape s) :
    IdShape s1 := by
  induction hE with
  | refl => exact h
  | new _ cls mro ks hk hl ih => exact idShape_pNew ih _ _ _ _ _
  | newForce hF => cases hF

theorem idShape_step {s : RState} {op : ROp} (hop : isAsObj op = false) (h : IdShape s) : IdShape (s.step op).1 := by
  rcases step_shape s op with e | ⟨s1, hp, e⟩
  · rw [e]; exact h
  · rw [e]
    rcases pre_normal hp with ⟨x, rfl⟩ | ⟨us, s', fr, r, hE, rfl, _⟩
    · exact idShape_of_heap (rollback_heap s x) h
    · rw [hop] at hE
      exact idShape_of_heap (s := s') rfl (evol_idShape hE (idShape_of_heap (detachAll_heap us s) h))

theorem idShape_run : ∀ (ops : List ROp) (s : RState), (∀ op ∈ ops, isAsObj op = false) → IdShape s → IdShape (run s ops)
  | [], _, _, h => h
  | op :: r, s, hops, h =>
    idShape_run r _ (fun o ho => hops o (List.mem_cons_of_mem _ ho)) (idShape_step (hops op (List.Mem.head _)) h)

/-- **replace with an unchanged digest, all cases** (histories without forced ids): a registered
original keeps its id iff it carries the plain digest, or it carries `d_j` and `d, d_1 … d_(j-1)` are
all still registered by other nodes.  "No registered twin" is neither necessary (plain id) nor
sufficient (suffixed id). -/
theorem replace_same_digest_keeps_id_iff {s : RState} (hI : Inv s) (hS : IdShape s) {v x : Nat} {kids : List Nat}
    {tok : Nat} {base : Str} {o : RObj} (hok : OpOk s (.replace v x kids false [(tok, base)]))
    (hx : s.isLive x = true) (hk : kids.all s.isLive = true) (ho : s.obj? x = some o)
    (hreg : s.regGet (s.idOf x) = some x) (hb : base = o.base) :
    (s.step (.replace v x kids false [(tok, base)])).1.idOf tok = o.id ↔
      (o.id = o.base ∨ ∃ j, 1 ≤ j ∧ o.id = suffixed o.base j ∧ o.base ∈ (absent s x).reg.map (·.1) ∧
        ∀ m, 1 ≤ m → m < j → suffixed o.base m ∈ (absent s x).reg.map (·.1)) := by
  rcases hS o (obj?_some ho).1 with hid | ⟨j, hj, hid⟩
  · constructor
    · exact fun _ => Or.inl hid
    · exact fun _ => replace_keeps_plain_id hI hok hx hk ho hreg hb hid
  · rw [replace_keeps_id_iff hI hok hx hk ho hreg hb hid hj]
    constructor
    · exact fun h => Or.inr ⟨j, hj, hid, h⟩
    · rintro (h | ⟨j', _, hid', h⟩)
      · rw [hid] at h; exact absurd h (suffixed_ne_base _ _)
      · have : j' = j := suffixed_injective o.base (hid'.symm.trans hid)
        subst this; exact h

/-! ### non-vacuity and the failing reading -/

section Examples

private def A : Str := "A".toList
private def B : Str := "B".toList
private def a : Str := "a".toList
private def b : Str := "b".toList
private def ab : Str := "ab".toList

/-- leaf 1 shared twice under 2, 3 = B(2, 1) -/
def hist : List ROp :=
  [ .construct 0 A [A] [] [(1, a)],
    .construct 1 B [B] [1, 1] [(2, b)],
    .construct 2 B [B] [2, 1] [(3, "c".toList)] ]
def s0 : RState := run {} hist
def dupOp : ROp := .duplicate 3 3 [(10, a), (11, a), (12, b), (13, a), (14, "c".toList)]

example : AllOk {} (hist ++ [dupOp]) := by decide +kernel
example : Inv s0 := inv_run hist (by decide)
example : OpOk s0 dupOp ∧ (s0.step dupOp).2 = .ok (some 14) none := by decide +kernel
example : s0.dupAux (s0.heap.length + 1) 3 [(10, a), (11, a), (12, b), (13, a), (14, "c".toList)] ≠ none := by decide
-- the copy: 14 = B(12 = B(10, 11), 13): the shared leaf is copied once per position, all tokens new
example : ((s0.step dupOp).1.heap.map (fun o => (o.uid, o.kids))).drop 3 =
    [(10, []), (11, []), (12, [10, 11]), (13, []), (14, [12, 13])] := by decide +kernel
example : (s0.step dupOp).1.reg = s0.reg ++
    [("a_1".toList, 10), ("a_2".toList, 11), ("b_1".toList, 12), ("a_3".toList, 13), ("c_1".toList, 14)] := by decide +kernel
example : 14 :: (s0.step dupOp).1.descendants (s0.heap.length + 1) 14 = [14, 12, 10, 11, 13] := by decide +kernel

/-- a SHALLOW copy (new root 4 over the original children 2, 1) is a `C14.isCopy` of 3 and its
root is new, but it is not `isCopyNew` -/
def shallow : RState := s0.step (.construct 4 B [B] [2, 1] [(4, "c".toList)]) |>.1
theorem shallow_is_not_new :
    4 ∉ s0.heap.map (·.uid) ∧ (shallow.obj? 4).map (·.kids) = some [2, 1] ∧
    ¬ isCopyNew (s0.heap.map (·.uid)) shallow 3 3 4 := by
  refine ⟨by decide, by decide, ?_⟩
  intro h
  exact isCopyNew_kids_new h 2 (by decide) (by decide)

/-! the suffixed-twin corner: 101 carries `ab_1`; its twin 100 (`ab`) dies; `replace` with the
digest unchanged gives `ab` although 101 "has no registered twin". -/
def twinHist : List ROp :=
  [ .construct 0 A [A] [] [(100, ab)], .construct 1 A [A] [] [(101, ab)], .drop 0 ]
def sT : RState := run {} twinHist
def replOp : ROp := .replace 2 101 [] false [(102, ab)]

/-- the NAIVE reading of the parenthetical — "digest unchanged and no registered twin ⇒ the
original's id is kept" — is false: all its hypotheses hold here, the conclusion does not -/
theorem replace_keeps_id_naive_fails :
    AllOk {} (twinHist ++ [replOp]) ∧ sT.isLive 101 = true ∧
    sT.regGet (sT.idOf 101) = some 101 ∧                                  -- registered original
    (sT.obj? 101).map (·.base) = some ab ∧                                -- digest unchanged (`replOp` supplies `ab`)
    (∀ e ∈ sT.reg, e.2 ≠ 101 → (sT.obj? e.2).map (·.base) ≠ some ab) ∧    -- no registered twin
    sT.idOf 101 = "ab_1".toList ∧
    (sT.step replOp).2 = .ok (some 102) none ∧
    (sT.step replOp).1.idOf 102 = ab ∧ (sT.step replOp).1.idOf 102 ≠ sT.idOf 101 := by decide +kernel

-- with the twin alive the suffixed id IS kept (`replace_keeps_id_iff`, right-to-left)
example : ((run {} (twinHist.take 2)).step replOp).1.idOf 102 = "ab_1".toList := by decide +kernel
-- an original with the plain digest keeps it (`replace_keeps_plain_id`)
example : ((run {} (twinHist.take 2)).step (.replace 2 100 [] false [(102, ab)])).1.idOf 102 = ab := by decide +kernel
-- hypotheses of `replace_suffixed_twin_dead` / `replace_keeps_id_iff` are satisfiable
example : OpOk sT replOp ∧ ab ∉ (absent sT 101).reg.map (·.1) ∧ sT.idOf 101 = suffixed ab 1 := by decide +kernel
example : ab ∈ (absent (run {} (twinHist.take 2)) 101).reg.map (·.1) := by decide
-- detached original
example : ((sT.step (.detachSelf 101)).1.step replOp).1.idOf 102 = ab ∧
    (sT.step (.detachSelf 101)).1.regGet "ab_1".toList = none := by decide +kernel
example : IdShape sT := idShape_run twinHist {} (by decide) (by intro o ho; simp at ho)
-- `freshId_least`: `ab`, `ab_1` taken, `ab_2` free
example : (run {} (twinHist.take 2)).freshId ab = suffixed ab 2 := by decide +kernel

end Examples

end C14X
end PyOak

#print axioms PyOak.C14X.dup_all_new
#print axioms PyOak.C14X.dup_all_registered
#print axioms PyOak.C14X.dup_descendants_new
#print axioms PyOak.C14X.duplicate_step
#print axioms PyOak.C14X.isCopy_self
#print axioms PyOak.C14X.shallow_is_not_new
#print axioms PyOak.C14X.freshId_least
#print axioms PyOak.C14X.freshId_skipped
#print axioms PyOak.C14X.replace_id_fresh_absent
#print axioms PyOak.C14.replace_new_id
#print axioms PyOak.C14.replace_same_digest_keeps_id
#print axioms PyOak.C14X.replace_id_eq_construct_absent
#print axioms PyOak.C14X.replace_keeps_plain_id
#print axioms PyOak.C14X.replace_suffixed_twin_dead
#print axioms PyOak.C14X.replace_keeps_id_iff
#print axioms PyOak.C14X.replace_keeps_id_naive_fails
#print axioms PyOak.C14X.idShape_run
#print axioms PyOak.C14X.replace_same_digest_keeps_id_iff
#print axioms PyOak.C14X.replace_detached
#print axioms PyOak.C14X.replace_new_node
#print axioms PyOak.C14X.dcReplace_new_node
