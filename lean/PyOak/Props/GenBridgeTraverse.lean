/-
Bridge for the traversal generators (C05): the hand-written model `dfsImpl` / `bfsImpl` / `gatherImpl` (Model/Traverse.lean)
is the set of definitions GENERATED from `ASTNode.dfs`, `ASTNode.bfs`, `ASTNode.gather` (src/pyoak/node.py) by
harness/py2lean_v.py (Gen/KernelsTraverse.lean), instantiated with

  N := Node   C := Str (class names)   py.isinstance := Node.isInst   py.type_of := Node.cls
  py.child_items n := n.edges as (child, Field, index)      (`get_child_nodes_with_field()`: modelled and tied in C12)
  NodeTraversalInfo(node, parent, field, findex) := `toInfo` of the model's `Item` (injective: `ofInfo_toInfo`)
  a callback `Callable | None`: `pruneOf` (None: never prune) / `filterOf` (None: keep everything)

FOR EVERY tree, prune, filter (each possibly None) and flag, with the fuel the model itself uses (`n.size`, for every loop):
  dfs_gen_eq, bfs_gen_eq, gather_gen_eq      generated = (model mapped through `toInfo`, no exception): in particular the
                                             generated loops never run out of fuel and never pop from an empty list
  dfsImpl_eq_gen, bfsImpl_eq_gen, gatherImpl_eq_gen    the same read from the model's side, for arbitrary predicates on `Item`

The generated `dfs` has the two `while` loops of the source (build, then drain the yield deque); the model returns the
deque itself: `dfs_loop_2_drain` shows the drain loop yields the deque left to right (fuel: its length + 1).
-/
import PyOak.Gen.KernelsTraverse
import PyOak.Props.C05Extra
namespace PyOak.GenBridgeTraverse
open PyOak PyOak.C05

/-! ### the instantiation -/

abbrev Info := GenV.NodeTraversalInfo Node

/-- a position of the model as the `(child, field, index)` triple of `get_child_nodes_with_field()` -/
def toTriple (ce : Node × Edge) : Node × GenV.FieldR × Option Int := (ce.1, ⟨ce.2.field⟩, ce.2.idx.map Int.ofNat)

/-- the model's `Item` as a `NodeTraversalInfo` -/
def toInfo (it : Item) : Info :=
  { node := it.node, parent := it.parent, field := ⟨it.edge.field⟩, findex := it.edge.idx.map Int.ofNat }

def ofInfo (r : Info) : Item := ⟨r.node, r.parent, ⟨r.field.name, r.findex.map Int.toNat⟩⟩

theorem ofInfo_toInfo (it : Item) : ofInfo (toInfo it) = it := by
  obtain ⟨n, p, f, i⟩ := it
  cases i <;> simp [ofInfo, toInfo]

def pyM : GenV.Py Node Str :=
  { child_items := fun n => n.edges.map toTriple, isinstance := Node.isInst, type_of := Node.cls }

/-- `prune: Callable | None` as the model's predicate (None: never prune) -/
def pruneOf (o : Option (Info → Bool)) : Item → Bool := fun it =>
  match o with
  | none => false
  | some p => p (toInfo it)

/-- `filter: Callable | None` as the model's predicate (None: keep everything) -/
def filterOf (o : Option (Info → Bool)) : Item → Bool := fun it =>
  match o with
  | none => true
  | some p => p (toInfo it)

/-- `NodeTraversalInfo(c, parent, f, i)` for one triple -/
def mk (parent : Node) (t : Node × GenV.FieldR × Option Int) : Info :=
  { node := t.1, parent := parent, field := t.2.1, findex := t.2.2 }

theorem items_toInfo (n : Node) : n.items.map toInfo = (pyM.child_items n).map (mk n) := by
  simp [Node.items, pyM, List.map_map, Function.comp_def, toInfo, mk, toTriple]

/-- a `for` loop that appends one value per item -/
theorem foldl_snoc {α β : Type} (step : List β → α → List β) (g : α → β) (h : ∀ acc x, step acc x = acc ++ [g x])
    (l : List α) (acc : List β) : l.foldl step acc = acc ++ l.map g := by
  induction l generalizing acc with
  | nil => simp
  | cons x l ih => simp [List.foldl, h, ih]

/-- the children pushed on the build stack (top at the END of the Python list; the model keeps the top at the head) -/
theorem push_eq (b : Bool) (n : Node) :
    ((if (!b) = true then (pyM.child_items n).reverse else pyM.child_items n).map (mk n))
      = ((if b = true then n.items.reverse else n.items).map toInfo).reverse := by
  cases b <;> simp [List.map_reverse, items_toInfo]

@[simp] theorem pruneOf_none (it : Item) : pruneOf none it = false := rfl
@[simp] theorem pruneOf_some (p : Info → Bool) (it : Item) : pruneOf (some p) it = p (toInfo it) := rfl
@[simp] theorem filterOf_none (it : Item) : filterOf none it = true := rfl
@[simp] theorem filterOf_some (p : Info → Bool) (it : Item) : filterOf (some p) it = p (toInfo it) := rfl

/-- the yield deque after `if filter(..): appender(child_info)` -/
theorem dfs_step_queue (b c : Bool) (queue : List Item) (it : Item) :
    (if c = true then GenV.DequeOp.apply (if b = true then GenV.DequeOp.appendleft else GenV.DequeOp.append)
        (queue.map toInfo) (toInfo it) else queue.map toInfo)
      = (if c = true then (if b = true then it :: queue else queue ++ [it]) else queue).map toInfo := by
  cases b <;> cases c <;> simp [GenV.DequeOp.apply]

theorem dfs_step_stack (b : Bool) (it : Item) (st : List Item) :
    List.foldl (fun bs x => bs ++ [({ node := x.1, parent := it.node, field := x.2.1, findex := x.2.2 } : Info)])
        (st.map toInfo).reverse
        (if (!b) = true then (pyM.child_items it.node).reverse else pyM.child_items it.node)
      = (((if b = true then it.node.items.reverse else it.node.items) ++ st).map toInfo).reverse := by
  exact (foldl_snoc _ (mk it.node) (fun _ _ => rfl) _ _).trans
    (by rw [push_eq b it.node, List.map_append, List.reverse_append])

theorem ite_eq_of {α β : Type} (h : α → β) (c : Bool) {g1 g2 : β} {m1 m2 : α} (h1 : g1 = h m1)
    (h2 : g2 = h m2) : (if c = true then g1 else g2) = h (if c = true then m1 else m2) := by
  cases c <;> assumption

theorem ite_yield {α β : Type} (f : α → β) (c d : Bool) (x : α) {g1 g2 : GenV.Gen β} {m1 m2 : List α}
    (h1 : g1 = (m1.map f, none)) (h2 : g2 = (m2.map f, none)) :
    (if d = true then GenV.Gen.yield_ (f x) (if c = true then g1 else g2) else if c = true then g1 else g2)
      = ((if d = true then x :: (if c = true then m1 else m2) else if c = true then m1 else m2).map f, none) := by
  subst h1 h2; cases c <;> cases d <;> rfl

@[simp] theorem toInfo_node (it : Item) : (toInfo it).node = it.node := rfl

theorem isEmpty_revmap (it : Item) (st : List Item) : ((it :: st).map toInfo).reverse.isEmpty = false := by simp

/-! ### `dfs` -/

/-- the drain loop `while yield_queue: yield yield_queue.popleft()` yields the deque left to right -/
theorem dfs_loop_2_drain (self : Node) (fuel0 fuel : Nat) (q : List Info) (h : q.length < fuel) :
    GenV.dfs_loop_2 pyM self fuel0 fuel q = (q, none) := by
  induction fuel generalizing q with
  | zero => omega
  | succ fuel ih =>
    cases q with
    | nil => simp [GenV.dfs_loop_2, GenV.Gen.done]
    | cons x q =>
      simp only [List.length_cons] at h
      simp [GenV.dfs_loop_2, GenV.Gen.yield_, ih q (by omega)]

theorem getLast_revmap (it : Item) (st : List Item) :
    ((it :: st).map toInfo).reverse.getLast? = some (toInfo it) := by simp

theorem dropLast_revmap (it : Item) (st : List Item) :
    ((it :: st).map toInfo).reverse.dropLast = (st.map toInfo).reverse := by simp

/-- the build loop: generated state = model state (stack reversed), as long as the fuel exceeds the weight of the stack -/
theorem dfs_loop_eq (self : Node) (oP oF : Option (Info → Bool)) (b : Bool) (fuel0 fuel : Nat)
    (stack queue : List Item) (ci : List (Node × GenV.FieldR × Option Int)) (h : weight stack < fuel) :
    GenV.dfs_loop pyM self oP oF b (if b then .appendleft else .append) fuel0 fuel
        (stack.map toInfo).reverse (queue.map toInfo) ci
      = GenV.dfs_loop_2 pyM self fuel0 fuel0 ((dfsLoop (pruneOf oP) (filterOf oF) b fuel stack queue).map toInfo) := by
  induction fuel generalizing stack queue ci with
  | zero => omega
  | succ fuel ih =>
    cases stack with
    | nil => simp [GenV.dfs_loop, dfsLoop]
    | cons it st =>
      have hw := weight_items it.node
      rw [weight_cons] at h
      rw [GenV.dfs_loop, dfsLoop]
      simp only [getLast_revmap, dropLast_revmap, isEmpty_revmap, Bool.not_false, if_true, toInfo_node]
      rw [dfs_step_queue, dfs_step_stack]
      -- on `none` / `some p` the generated `match` tests compute to `pruneOf` / `filterOf`
      cases oP <;> cases oF <;>
        exact ite_eq_of (fun l : List Item => GenV.dfs_loop_2 pyM self fuel0 fuel0 (l.map toInfo)) _
          (ih _ _ _ (by omega)) (ih _ _ _ (by cases b <;> simp <;> omega))

/-- `dfs`: the generated generator yields exactly the model's list and ends without an exception, with the model's fuel -/
theorem dfs_gen_eq (oP oF : Option (Info → Bool)) (b : Bool) (n : Node) :
    GenV.dfs pyM n.size n oP oF b = ((dfsImpl (pruneOf oP) (filterOf oF) b n).map toInfo, none) := by
  have hw := weight_items n
  have hstack : List.foldl (fun bs x => match x with
        | (c, f, i) => bs ++ [({ node := c, parent := n, field := f, findex := i } : Info)]) []
        (if (!b) = true then (pyM.child_items n).reverse else pyM.child_items n)
      = ((if b = true then n.items.reverse else n.items).map toInfo).reverse := by
    rw [foldl_snoc _ (mk n) (fun _ x => by obtain ⟨c, f, i⟩ := x; rfl), push_eq b n]; rfl
  have hloop := fun ci => dfs_loop_eq n oP oF b n.size n.size (if b then n.items.reverse else n.items) []
    ci (by cases b <;> simp <;> omega)
  -- the model's deque is shorter than the fuel of the drain loop
  rw [dfs_loop_2_drain n n.size n.size _
    (by rw [List.length_map]; exact C05X.dfsImpl_length_lt _ _ b n)] at hloop
  unfold GenV.dfs
  cases b <;>
    simp only [Bool.false_eq_true, if_false, if_true, Bool.not_false, Bool.not_true, List.map_nil] at hloop hstack ⊢ <;>
    rw [hstack] <;> exact hloop _

/-! ### `bfs` -/

theorem bfs_loop_eq (self : Node) (oP oF : Option (Info → Bool)) (fuel0 fuel : Nat) (q : List Item)
    (h : weight q < fuel) :
    GenV.bfs_loop pyM self oP oF fuel0 fuel (q.map toInfo)
      = ((bfsLoop (pruneOf oP) (filterOf oF) fuel q).map toInfo, none) := by
  induction fuel generalizing q with
  | zero => omega
  | succ fuel ih =>
    cases q with
    | nil => rfl
    | cons it q =>
      have hw := weight_items it.node
      rw [weight_cons] at h
      have B := ih (q ++ it.node.items) (by rw [weight_append]; omega)
      rw [List.map_append, items_toInfo] at B
      rw [GenV.bfs_loop, bfsLoop]
      simp only [List.map_cons, List.isEmpty_cons, Bool.not_false, if_true, List.head?_cons, List.tail_cons,
        toInfo_node]
      cases oP <;> cases oF <;> exact ite_yield toInfo _ _ it (ih q (by omega)) B

/-- `bfs`: the generated generator yields exactly the model's list and ends without an exception, with the model's fuel -/
theorem bfs_gen_eq (oP oF : Option (Info → Bool)) (n : Node) :
    GenV.bfs pyM n.size n oP oF = ((bfsImpl (pruneOf oP) (filterOf oF) n).map toInfo, none) := by
  have hw := weight_items n
  have h0 := bfs_loop_eq n oP oF n.size n.size n.items (by omega)
  unfold GenV.bfs
  rw [items_toInfo] at h0
  exact h0

/-! ### `gather` -/

/-- `obj_class: type | tuple[type, ...]` as the model's list of class names -/
def classesOf : Str ⊕ List Str → List Str
  | .inl c => [c]
  | .inr cs => cs

theorem gather_gen_eq (oc : Str ⊕ List Str) (exact : Bool) (oExtra oP : Option (Info → Bool)) (n : Node) :
    GenV.gather pyM n.size n oc exact oExtra oP
      = (gatherImpl (classesOf oc) exact (filterOf oExtra) (pruneOf oP) n, none) := by
  have key : ∀ f : Info → Bool, GenV.Gen.forYield (GenV.dfs pyM n.size n oP (some f) false) (fun r => r.node) GenV.Gen.done
      = ((dfsImpl (pruneOf oP) (fun it => f (toInfo it)) false n).map (·.node), none) := by
    intro f
    rw [dfs_gen_eq]
    have : filterOf (some f) = fun it => f (toInfo it) := rfl
    rw [this]
    simp [GenV.Gen.forYield, GenV.Gen.done, List.map_map, Function.comp_def]
  unfold GenV.gather
  cases oc <;> cases exact <;>
    simp only [Bool.not_false, Bool.not_true, if_true, if_false, Bool.false_eq_true, key, gatherImpl, classesOf] <;>
    (congr 3; funext it; cases oExtra <;> rfl)

/-! ### read from the model's side: arbitrary predicates on `Item` -/

theorem pruneOf_ofInfo (p : Item → Bool) : pruneOf (some (p ∘ ofInfo)) = p := by
  funext it; simp [pruneOf, ofInfo_toInfo]

theorem filterOf_ofInfo (p : Item → Bool) : filterOf (some (p ∘ ofInfo)) = p := by
  funext it; simp [filterOf, ofInfo_toInfo]

/-- the hand-written `dfsImpl` is the generated `dfs`, for every tree, prune, filter and flag -/
theorem dfsImpl_eq_gen (prune filt : Item → Bool) (b : Bool) (n : Node) :
    GenV.dfs pyM n.size n (some (prune ∘ ofInfo)) (some (filt ∘ ofInfo)) b = ((dfsImpl prune filt b n).map toInfo, none) := by
  rw [dfs_gen_eq, pruneOf_ofInfo, filterOf_ofInfo]

/-- the hand-written `bfsImpl` is the generated `bfs`, for every tree, prune and filter -/
theorem bfsImpl_eq_gen (prune filt : Item → Bool) (n : Node) :
    GenV.bfs pyM n.size n (some (prune ∘ ofInfo)) (some (filt ∘ ofInfo)) = ((bfsImpl prune filt n).map toInfo, none) := by
  rw [bfs_gen_eq, pruneOf_ofInfo, filterOf_ofInfo]

/-- the hand-written `gatherImpl` is the generated `gather`, for every tree, class tuple, flag, extra filter and prune -/
theorem gatherImpl_eq_gen (classes : List Str) (exact : Bool) (extra prune : Item → Bool) (n : Node) :
    GenV.gather pyM n.size n (.inr classes) exact (some (extra ∘ ofInfo)) (some (prune ∘ ofInfo))
      = (gatherImpl classes exact extra prune n, none) := by
  rw [gather_gen_eq, pruneOf_ofInfo, filterOf_ofInfo]; rfl

/-- the defaults `prune=None`, `filter=None` -/
theorem dfs_defaults_eq_gen (b : Bool) (n : Node) :
    GenV.dfs pyM n.size n none none b = ((dfsImpl (fun _ => false) (fun _ => true) b n).map toInfo, none) :=
  dfs_gen_eq none none b n

end PyOak.GenBridgeTraverse
