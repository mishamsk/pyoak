/-
C10 — the last clause of the property:

  "the only effect an operation may have on an existing node is its registry membership as
   specified for detach and replace."

`C10.heap_frame` says that no record changes; it is true by construction of the append-only heap
and says nothing about the registry.  This file states which operations may change the registry
membership of a PRE-EXISTING object, and of which objects:

* `mayUnregister s op` — the objects the statement allows to lose their registry entry:
  `detach x`: `x` and all its descendants; `detach_self x`: `x`; a successful `x.replace(..)`: `x`;
  every other operation (construct, duplicate, dataclasses.replace, a failing replace, as_obj,
  alias, del): none.
* `reg_frame` (1) an entry of the old registry is still there after the step unless its object is
  in `mayUnregister s op` or is no longer alive (weak values);  (2) no pre-existing object gains an
  entry.  For ALL nine operation kinds, `as_obj` included and WITHOUT the `noClash` hypothesis:
  defect F19 (`C03.asObj_evicts_live`) only ever evicts a node created by the same call
  (`deserAux_reg_keep`).
* `unregister_exact` and the three explicit forms `detach_unregisters`, `detachSelf_unregisters`,
  `replace_unregisters`: the objects in `mayUnregister s op` ARE unregistered when the operation is
  carried out ("exactly as specified").
* `reg_frame_get`: lookup form for objects that stay alive and are not targeted.
* `detached_frame`: the ghost list `detached` is only touched by detach / detach_self / replace.
* `obj_frame_run`, `id_frame_run`: identity lookup (hence `id`, hence `hash(id)`) is constant over
  whole admissible histories.

Outside this model (cf. AUDIT.md C10): setattr/delattr, property values, content_id,
the read-only operation kinds (they are pure functions in the other models).
-/
import PyOak.Props.C10
namespace PyOak
namespace C10X
open RState RegL C03 C10

/-! ### which objects an operation is specified to unregister -/

/-- the objects whose registry entry the operation is specified to remove -/
def mayUnregister (s : RState) : ROp → List Nat
  | .detach x => x :: s.descendants (s.heap.length + 1) x
  | .detachSelf x => [x]
  | .replace _ x _ false _ => [x]
  | _ => []

/-- does the operation touch the ghost list `detached`? -/
def touchesDetached : ROp → Bool
  | .detach _ => true
  | .detachSelf _ => true
  | .replace .. => true
  | _ => false

mutual
/-- **`_deserialize` never removes an entry that was in the registry when the call started**, id
clashes (defect F19) included: the forced id `sid` was looked up and found free at the start of
the call, so the entry it may evict belongs to a node created by the same call. -/
theorem deserAux_reg_keep : ∀ (t : SerTree) (s : RState) (fresh : Fresh) (s' : RState) (r : Nat) (fr : Fresh),
    Inv s → FreshOk s fresh → s.deserAux t fresh = some (s', r, fr) → ∀ e ∈ s.reg, e ∈ s'.reg
  | .mk sid cls mro kids, s, fresh, s', r, fr, hI, hf, h => by
    rcases deserAux_inv h with ⟨_, rfl, rfl⟩ | ⟨hg, s1, ks, base, hk, rfl⟩
    · exact fun e he => he
    · have ih := deserKids_reg_keep kids s fresh s1 ks _ hI hf hk
      obtain ⟨hI1, hf1⟩ := evol_good (deserKids_evol kids s fresh s1 ks _ hk) hI hf
      intro e he
      have he1 : e ∈ s1.reg := ih e he
      split
      · exact pNew_keeps _ _ _ _ _ _ e he1
      · refine pNew_pForceId_keeps hf1.head cls mro base ks he1 fun e' => ?_
        exact rget_none_iff.mp hg (e' ▸ List.mem_map.mpr ⟨e, he, rfl⟩)
theorem deserKids_reg_keep : ∀ (ts : List SerTree) (s : RState) (fresh : Fresh) (s' : RState) (us : List Nat) (fr : Fresh),
    Inv s → FreshOk s fresh → s.deserKids ts fresh = some (s', us, fr) → ∀ e ∈ s.reg, e ∈ s'.reg
  | [], s, fresh, s', us, fr, _, _, h => by
    simp [deserKids_nil] at h
    obtain ⟨rfl, _, _⟩ := h
    exact fun e he => he
  | t :: r, s, fresh, s', us, fr, hI, hf, h => by
    obtain ⟨s1, u, fr1, us', ha, hk, _⟩ := deserKids_cons_inv h
    obtain ⟨hI1, hf1⟩ := evol_good (deserAux_evol t s fresh s1 u fr1 ha) hI hf
    intro e he
    exact deserKids_reg_keep r s1 fr1 s' us' fr hI1 hf1 hk e (deserAux_reg_keep t s fresh s1 u fr1 hI hf ha e he)
end

/-! ### the state just before the final `gc` -/

theorem bind_reg (s : RState) (v u : Nat) : (s.bind v u).reg = s.reg := rfl

theorem pNew_reg_sub (s : RState) (tok : Nat) (cls : Str) (mro : List Str) (base : Str) (kids : List Nat) :
    ∀ e ∈ (s.pNew tok cls mro base kids).reg, e ∈ s.reg ∨ e.2 = tok := by
  intro e he
  rcases mem_regSet.mp he with ⟨h1, _⟩ | rfl
  · exact Or.inl h1
  · exact Or.inr rfl

/-- entries kept: every old entry survives unless its object is one the operation is specified to
unregister -/
theorem pre_reg_keep {s : RState} {op : ROp} {s1 : RState} (hI : Inv s) (hok : OpOk s op) (hp : Pre s op s1) :
    ∀ e ∈ s.reg, e ∈ s1.reg ∨ e.2 ∈ mayUnregister s op := by
  intro e he
  have keep : ∀ us, e ∈ (detachAll s us).reg ∨ e.2 ∈ us := fun us =>
    (Decidable.em (e.2 ∈ us)).symm.imp_left (detachAll_keeps us hI he)
  cases hp with
  | construct hk | dcReplace hx hk ho => rw [bind_reg]; exact Or.inl (pNew_keeps s _ _ _ _ _ e he)
  | duplicate hx h | duplicateD hx h => exact Or.inl ((evol_cases (dupAux_evol _ _ _ _ _ _ _ h) hI hok).2 e he)
  | @replaceFail v x kids hx hk => exact Or.inl ((mem_rollback_reg hI x).mpr he)
  | @replaceOk v x kids tok base o hx hk ho => rw [bind_reg]; exact (keep [x]).imp_left (pNew_keeps _ _ _ _ _ _ e)
  | @detach x hx => exact keep (x :: s.descendants (s.heap.length + 1) x)
  | @detachSelf x hx => exact keep [x]
  | asObj h | asObjD h => exact Or.inl (deserAux_reg_keep _ _ _ _ _ _ hI hok h e he)
  | alias hu | drop => exact Or.inl he

/-- no pre-existing object gains a registry entry -/
theorem pre_reg_new {s : RState} {op : ROp} {s1 : RState} (hI : Inv s) (hok : OpOk s op) (hp : Pre s op s1) :
    ∀ e ∈ s1.reg, e.2 ∈ s.heap.map (·.uid) → e ∈ s.reg := by
  intro e he hold
  rcases pre_normal hp with ⟨x, rfl⟩ | ⟨us, s', fr, r, hE, rfl, _⟩
  · exact (mem_rollback_reg hI x).mp he
  · rcases hE.reg_sub e he with h | h
    · exact detachAll_reg_sub us s e h
    · exact absurd hold (hok.2 _ h)

/-- the objects the operation is specified to unregister are registered under no key -/
theorem pre_unreg {s : RState} {op : ROp} {s1 : RState} (hI : Inv s) (hok : OpOk s op) (hp : Pre s op s1) :
    ∀ u ∈ mayUnregister s op, ∀ k, (k, u) ∉ s1.reg := by
  intro u hu k he
  cases hp with
  | @replaceOk v x kids tok base o hx hk ho =>
    rw [bind_reg] at he
    rcases pNew_reg_sub _ _ _ _ _ _ _ he with h | h
    · exact detachAll_unreg [x] hI u hu k h
    · obtain rfl : u = x := List.mem_singleton.mp hu
      obtain ⟨hm, hu'⟩ := obj?_some ho
      exact FreshOk.head hok (h ▸ List.mem_map.mpr ⟨o, hm, hu'⟩)
  | @detach x hx => exact detachAll_unreg (x :: s.descendants (s.heap.length + 1) x) hI u hu k he
  | @detachSelf x hx => exact detachAll_unreg [x] hI u hu k he
  | _ => cases hu

/-! ### the frame theorem for the registry -/

/-- **Registry frame.**  For every admissible operation (all nine kinds, `as_obj` with or without
id clash):
1. an entry of the old registry is still present after the step, unless its object is no longer
   alive (weak values) or is one of the objects the operation is specified to unregister
   (`detach`: the node and its descendants, `detach_self` / successful `replace`: the node);
2. no object that existed before the step gains a registry entry. -/
theorem reg_frame {s : RState} {op : ROp} (hI : Inv s) (hok : OpOk s op) :
    (∀ e ∈ s.reg, e ∈ (s.step op).1.reg ∨ (s.step op).1.isLive e.2 = false ∨ e.2 ∈ mayUnregister s op) ∧
    (∀ e ∈ (s.step op).1.reg, e.2 ∈ s.heap.map (·.uid) → e ∈ s.reg) := by
  rcases step_shape s op with h | ⟨s1, hp, h⟩
  · rw [h]; exact ⟨fun e he => Or.inl he, fun e he _ => he⟩
  · rw [h]
    constructor
    · intro e he
      rcases pre_reg_keep hI hok hp e he with h1 | h1
      · cases hl : s1.isLive e.2 with
        | true => exact Or.inl (List.mem_filter.mpr ⟨h1, hl⟩)
        | false => exact Or.inr (Or.inl (by rw [isLive_gc]; exact hl))
      · exact Or.inr (Or.inr h1)
    · intro e he hold
      exact pre_reg_new hI hok hp e (List.mem_filter.mp he).1 hold

/-- operations that are not specified to unregister anything keep every entry whose object stays
alive: construct, duplicate, dataclasses.replace, a failing replace, as_obj, alias, del -/
theorem reg_frame_others {s : RState} {op : ROp} (hI : Inv s) (hok : OpOk s op)
    (hop : mayUnregister s op = []) :
    ∀ e ∈ s.reg, (s.step op).1.isLive e.2 = true → e ∈ (s.step op).1.reg := by
  intro e he hl
  rcases (reg_frame hI hok).1 e he with h | h | h
  · exact h
  · rw [hl] at h; cases h
  · rw [hop] at h; cases h

/-- lookup form: for a pre-existing object that stays alive and is not targeted by the operation,
`get_any(k)` returns it after the step iff it did before -/
theorem reg_frame_get {s : RState} {op : ROp} (hI : Inv s) (hok : OpOk s op) {u : Nat}
    (hu : u ∈ s.heap.map (·.uid)) (hl : (s.step op).1.isLive u = true) (hn : u ∉ mayUnregister s op) (k : Str) :
    (s.step op).1.getAny k = some u ↔ s.getAny k = some u := by
  obtain ⟨h1, h2⟩ := reg_frame hI hok
  have hI2 := inv_step hI hok
  constructor
  · intro h
    exact rget_of_mem hI.keysNodup (h2 _ (rget_some_mem h) hu)
  · intro h
    rcases h1 _ (rget_some_mem h) with h' | h' | h'
    · exact rget_of_mem hI2.keysNodup h'
    · simp only at h'; rw [hl] at h'; cases h'
    · exact absurd h' hn

/-- **exactly as specified**: when the operation is carried out (not rejected as `badOp` /
`desync`, i.e. `Pre` holds), every object it is specified to unregister is returned under no id -/
theorem unregister_exact {s : RState} {op : ROp} {s1 : RState} (hI : Inv s) (hok : OpOk s op) (hp : Pre s op s1) :
    ∀ u ∈ mayUnregister s op, ∀ k, s1.gc.getAny k ≠ some u := by
  intro u hu k h
  exact pre_unreg hI hok hp u hu k (List.mem_filter.mp (rget_some_mem h)).1

/-- `x.detach()`: `x` and every descendant is returned under no id afterwards (`C03.detach_unregisters`
is the case of the node's own id, `RegOrd.detach_unregisters_below` the form over `Below`) -/
theorem detach_unregisters {s : RState} (hI : Inv s) {x : Nat} (hx : s.isLive x = true) :
    ∀ u ∈ x :: s.descendants (s.heap.length + 1) x, ∀ k, (s.step (.detach x)).1.getAny k ≠ some u := by
  rw [step_detach hx]
  exact unregister_exact hI (opOk_nil rfl) (Pre.detach hx)

/-- `x.detach_self()` -/
theorem detachSelf_unregisters {s : RState} (hI : Inv s) {x : Nat} (hx : s.isLive x = true) :
    ∀ k, (s.step (.detachSelf x)).1.getAny k ≠ some x := by
  rw [step_detachSelf hx]
  exact unregister_exact hI (opOk_nil rfl) (Pre.detachSelf hx) x (by simp [mayUnregister])

/-- a successful `x.replace(..)`, for registered AND detached originals -/
theorem replace_unregisters {s : RState} (hI : Inv s) {v x : Nat} {kids : List Nat} {tok : Nat} {base : Str} {o : RObj}
    (hok : OpOk s (.replace v x kids false [(tok, base)]))
    (hx : s.isLive x = true) (hk : kids.all s.isLive = true) (ho : s.obj? x = some o) :
    ∀ k, (s.step (.replace v x kids false [(tok, base)])).1.getAny k ≠ some x := by
  rw [step_replace hx hk ho]
  exact unregister_exact hI hok (Pre.replaceOk hx hk ho) x (by simp [mayUnregister])

/-! ### `detach` only unregisters the node and nodes below it -/

/-- `Below s x u`: `u` is reached from `x` through at least one child link (an independent reading
of "descendant"; `RState.descendants` is the model's fuelled traversal) -/
inductive Below (s : RState) (x : Nat) : Nat → Prop
  | kid {c : Nat} : c ∈ s.kidsOf x → Below s x c
  | step {a c : Nat} : Below s x a → c ∈ s.kidsOf a → Below s x c

theorem Below.under {s : RState} {x c u : Nat} (hc : c ∈ s.kidsOf x) (h : Below s c u) : Below s x u := by
  induction h with
  | kid h1 => exact Below.step (Below.kid hc) h1
  | step _ h2 ih => exact Below.step ih h2

theorem descendants_sound (s : RState) : ∀ (fuel x u : Nat), u ∈ s.descendants fuel x → Below s x u
  | 0, _, _, h => by simp [descendants] at h
  | fuel + 1, x, u, h => by
    simp only [descendants, List.mem_flatMap, List.mem_cons] at h
    obtain ⟨c, hc, h | h⟩ := h
    · subst h; exact Below.kid hc
    · exact Below.under hc (descendants_sound s fuel c u h)

/-- `x.detach()` may only cost `x` itself and nodes strictly below `x` their registry entry -/
theorem reg_frame_detach {s : RState} (hI : Inv s) (x : Nat) :
    ∀ e ∈ s.reg, e ∈ (s.step (.detach x)).1.reg ∨ (s.step (.detach x)).1.isLive e.2 = false ∨
      e.2 = x ∨ Below s x e.2 := by
  intro e he
  rcases (reg_frame hI (op := .detach x) (opOk_nil rfl)).1 e he with h | h | h
  · exact Or.inl h
  · exact Or.inr (Or.inl h)
  · right; right
    rcases List.mem_cons.mp h with h | h
    · exact Or.inl h
    · exact Or.inr (descendants_sound s _ _ _ h)

/-- only detach / detach_self / replace touch `detached` -/
theorem detached_frame (s : RState) (op : ROp) (h : touchesDetached op = false) :
    (s.step op).1.detached = s.detached := by
  rcases step_shape s op with e | ⟨s1, hp, e⟩
  · rw [e]
  · rw [e]
    show s1.detached = s.detached
    cases hp with
    | duplicate hx hd | duplicateD hx hd => exact (dupAux_evol _ _ _ _ _ _ _ hd).detached
    | asObj hd | asObjD hd => exact (deserAux_evol _ _ _ _ _ _ hd).detached
    | replaceFail | replaceOk | detach | detachSelf => cases h
    | _ => rfl

/-- looked up by identity, an object shows the same record after any admissible history -/
theorem obj_frame_run : ∀ (ops : List ROp) (s : RState), Inv s → AllOk s ops →
    ∀ u o, s.obj? u = some o → (run s ops).obj? u = some o
  | [], _, _, _, _, _, h => h
  | _ :: r, _, hI, hok, u, o, h =>
    obj_frame_run r _ (inv_step hI hok.1) hok.2 u o (obj_frame hI hok.1 h)

/-- the id (hence `hash(node) = hash(id)`), class and children of an existing object are constant
over any admissible history -/
theorem id_frame_run (ops : List ROp) (s : RState) (hI : Inv s) (hok : AllOk s ops) {u : Nat}
    (hu : u ∈ s.heap.map (·.uid)) :
    (run s ops).idOf u = s.idOf u ∧ (run s ops).kidsOf u = s.kidsOf u := by
  obtain ⟨o, ho, rfl⟩ := List.mem_map.mp hu
  have h := obj?_of_mem hI.heapNodup ho
  have h' := obj_frame_run ops s hI hok _ _ h
  simp [idOf, kidsOf, h, h']

/-- from the empty state -/
theorem obj_frame_history (pre post : List ROp) (hok : AllOk {} (pre ++ post)) {u : Nat} {o : RObj}
    (h : (run {} pre).obj? u = some o) : (run {} (pre ++ post)).obj? u = some o := by
  have split : ∀ (a b : List ROp) (s : RState), AllOk s (a ++ b) → AllOk s a ∧ AllOk (run s a) b := by
    intro a
    induction a with
    | nil => intro b s h; exact ⟨trivial, h⟩
    | cons op r ih =>
      intro b s h
      obtain ⟨h1, h2⟩ := ih b _ h.2
      exact ⟨⟨h.1, h1⟩, h2⟩
  obtain ⟨h1, h2⟩ := split pre post {} hok
  have hI := (inv_run_from pre {} inv_empty regLive_empty h1).1
  have : run {} (pre ++ post) = run (run {} pre) post := by simp [run, List.foldl_append]
  rw [this]
  exact obj_frame_run post _ hI h2 u o h

/-! ### non-vacuity: concrete admissible histories through every clause -/

section Examples

private def A : Str := "A".toList
private def B : Str := "B".toList
private def a : Str := "a".toList
private def b : Str := "b".toList

/-- leaf 1, parent 2 = B(1, 1) (shared child), twin leaf 3 of 1 -/
def hist : List ROp :=
  [ .construct 0 A [A] [] [(1, a)],
    .construct 1 B [B] [1, 1] [(2, b)],
    .construct 2 A [A] [] [(3, a)] ]

def s0 : RState := run {} hist

example : AllOk {} hist := by decide
example : Inv s0 := inv_run hist (by decide)
example : s0.reg = [(a, 1), (b, 2), ("a_1".toList, 3)] := by decide +kernel

-- `detach` of the parent: the parent and its (shared) child are specified to go, the twin stays
example : mayUnregister s0 (.detach 2) = [2, 1, 1] := by decide
example : (s0.step (.detach 2)).1.reg = [("a_1".toList, 3)] := by decide +kernel
example : s0.isLive 2 = true := by decide
example : Below s0 2 1 := Below.kid (by decide)
-- `detach_self` of the child only
example : mayUnregister s0 (.detachSelf 1) = [1] ∧ (s0.step (.detachSelf 1)).1.reg = [(b, 2), ("a_1".toList, 3)] := by
  decide +kernel
-- a successful and a failing replace
example : mayUnregister s0 (.replace 5 3 [] false [(9, a)]) = [3] ∧ OpOk s0 (.replace 5 3 [] false [(9, a)]) ∧
    (s0.step (.replace 5 3 [] false [(9, a)])).1.reg = [(a, 1), (b, 2), ("a_1".toList, 9)] := by decide +kernel
example : mayUnregister s0 (.replace 5 3 [] true []) = [] ∧
    (s0.step (.replace 5 3 [] true [])).1.reg = s0.reg := by decide +kernel
-- duplicate / dataclasses.replace / construct keep every entry
example : mayUnregister s0 (.duplicate 5 2 [(10, a), (11, a), (12, b)]) = [] ∧
    OpOk s0 (.duplicate 5 2 [(10, a), (11, a), (12, b)]) ∧
    (s0.step (.duplicate 5 2 [(10, a), (11, a), (12, b)])).1.reg =
      s0.reg ++ [("a_2".toList, 10), ("a_3".toList, 11), ("b_1".toList, 12)] := by decide +kernel
-- weak values: `del` of the only reference drops the entry (the middle disjunct of `reg_frame`)
example : mayUnregister s0 (.drop 2) = [] ∧ (s0.step (.drop 2)).1.reg = [(a, 1), (b, 2)] ∧
    (s0.step (.drop 2)).1.isLive 3 = false := by decide +kernel
-- F19: the id clash of `as_obj` evicts a node created by the same call, never a pre-existing one
def f19' : ROp := .asObj 7 (.mk "x".toList A [A] [.mk "x".toList A [A] []]) [(20, a), (21, b)]
example : OpOk s0 f19' ∧ noClash s0 f19' = false ∧ (s0.step f19').1.isLive 20 = true ∧
    (s0.step f19').1.reg = s0.reg ++ [("x".toList, 21)] ∧
    ∀ e ∈ s0.reg, e ∈ (s0.step f19').1.reg := by decide +kernel
-- `touchesDetached`
example : touchesDetached (.duplicate 5 2 []) = false ∧ touchesDetached (.detach 2) = true := by decide
-- histories
example : AllOk {} (hist ++ [.detach 2, .drop 1]) ∧ ((run {} hist).obj? 1).map (·.id) = some a := by decide

end Examples

end C10X
end PyOak

#print axioms PyOak.C10X.reg_frame
#print axioms PyOak.C10X.reg_frame_others
#print axioms PyOak.C10X.reg_frame_get
#print axioms PyOak.C10X.deserAux_reg_keep
#print axioms PyOak.C10X.unregister_exact
#print axioms PyOak.C10X.detach_unregisters
#print axioms PyOak.C10X.detachSelf_unregisters
#print axioms PyOak.C10X.replace_unregisters
#print axioms PyOak.C10X.descendants_sound
#print axioms PyOak.C10X.reg_frame_detach
#print axioms PyOak.C10X.detached_frame
#print axioms PyOak.C10X.obj_frame_run
#print axioms PyOak.C10X.id_frame_run
#print axioms PyOak.C10X.obj_frame_history
