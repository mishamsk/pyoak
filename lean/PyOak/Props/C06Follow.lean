/-
C06 — SOUNDNESS of `follow` (cf. AUDIT.md C06 §4 (iii)).

`C06X.follow_getXpath` says that following `get_xpath(n)` from the root reaches `n`; it would be
cheap if `follow` could reach nodes it should not.  Here: whatever text `follow` accepts, the node
it returns is the end of a genuine root-first chain of the tree whose steps (field, index or 0,
class) are exactly the steps written in the text — so "following the path from the root reaches
that node and no other" is a statement about the downward structure, not about `follow`.
-/
import PyOak.Props.C06Xpath
import PyOak.Props.C06Total
namespace PyOak
namespace C06X

theorem walkDown_sound : ∀ (steps : List (Str × Nat × Str)) (n m : Node), walkDown n steps = some m →
    ∃ p, C07.Path n p ∧ C07.lastNode n p = m ∧ p.map stepOf = steps
  | [], n, m, h => by
    simp only [walkDown, Option.some.injEq] at h
    exact ⟨[], trivial, h, rfl⟩
  | (f, i, c) :: r, n, m, h => by
    simp only [walkDown] at h
    cases hfind : n.edges.find? (fun ce => ce.2.field == f && ce.2.idx.getD 0 == i) with
    | none => simp [hfind] at h
    | some x =>
      obtain ⟨ch, e⟩ := x
      simp only [hfind] at h
      have hmem := List.mem_of_find?_eq_some hfind
      have hpred := List.find?_some hfind
      simp only [Bool.and_eq_true, beq_iff_eq] at hpred
      by_cases hc : (ch.cls == c) = true
      · simp only [hc, if_true] at h
        obtain ⟨p, hp, hl, hs⟩ := walkDown_sound r ch m h
        refine ⟨(ch, some e) :: p, ⟨⟨e, rfl, hmem⟩, hp⟩, by rw [C07.lastNode_cons]; exact hl, ?_⟩
        simp only [List.map_cons, stepOf, hs, List.cons.injEq, Prod.mk.injEq, and_true]
        exact ⟨hpred.1, hpred.2, by simpa using hc⟩
      · simp [hc] at h

/-- **soundness of `follow`**: an accepted text leads to the last node of a root-first chain of
the tree, and the text's steps are the steps of that chain -/
theorem follow_sound (root : Node) (s : Str) (n : Node) (h : follow root s = some n) :
    ∃ chain, IsChain root chain ∧ chain.getLast?.map (·.1) = some n ∧
      parseSpell s.length s = some (chain.map stepOf) := by
  unfold follow at h
  cases hp : parseSpell s.length s with
  | none => simp [hp] at h
  | some steps =>
    cases steps with
    | nil => simp [hp] at h
    | cons st r =>
      obtain ⟨f, i, c⟩ := st
      simp only [hp] at h
      by_cases hc : (f == rootField && i == 0 && c == root.cls) = true
      · simp only [hc, if_true] at h
        obtain ⟨p, hpath, hl, hs⟩ := walkDown_sound r root n h
        refine ⟨(root, none) :: p, (C07.isChain_iff root _).2 ⟨p, rfl, hpath⟩, ?_, ?_⟩
        · rw [C07.getLast?_cons_lastNode, hl]
        · simp only [Bool.and_eq_true, beq_iff_eq] at hc
          simp only [List.map_cons, stepOf, hs, hc.1.1, hc.1.2, hc.2]
      · simp [hc] at h

theorem follow_mem (root : Node) (s : Str) (n : Node) (h : follow root s = some n) : n ∈ allNodes root := by
  obtain ⟨chain, hc, hl, -⟩ := follow_sound root s n h
  cases hg : chain.getLast? with
  | none => simp [hg] at hl
  | some x =>
    simp only [hg, Option.map_some, Option.some.injEq] at hl
    have := C06.chain_mem root chain hc x (List.mem_of_getLast? hg)
    rw [hl] at this
    exact this

/-- … and under `NoRepeat` the chain that the text spells is THE chain of that node: two texts
that `follow` accepts lead to the same node only if they have the same steps (no two nodes share a
path, no node has two paths) -/
theorem follow_steps_unique (root : Node) (hR : NoRepeat root) (s1 s2 : Str) (n : Node)
    (h1 : follow root s1 = some n) (h2 : follow root s2 = some n) :
    parseSpell s1.length s1 = parseSpell s2.length s2 := by
  obtain ⟨c1, hc1, hl1, hs1⟩ := follow_sound root s1 n h1
  obtain ⟨c2, hc2, hl2, hs2⟩ := follow_sound root s2 n h2
  obtain ⟨⟨_, o1⟩, hx1, rfl⟩ := Option.map_eq_some_iff.mp hl1
  obtain ⟨⟨_, o2⟩, hx2, rfl⟩ := Option.map_eq_some_iff.mp hl2
  obtain ⟨c1', rfl⟩ := List.getLast?_eq_some_iff.mp hx1
  obtain ⟨c2', rfl⟩ := List.getLast?_eq_some_iff.mp hx2
  obtain ⟨e1, e2⟩ := C06.chain_unique root hR c1' _ o1 hc1 c2' o2 hc2
  rw [hs1, hs2, e1, e2]

/-! `follow` on the tree `DemoT` of C06Total. -/
open C06.DemoT in
theorem follow_demo : follow tree "/@root[0]R/@a[1]M/@x[0]L".toList = some (leaf 3) := by
  have hw : WFN tree := by decide +kernel
  rw [show "/@root[0]R/@a[1]M/@x[0]L".toList =
    spellChain ([(tree, none), (mid, some ⟨['a'], some 1⟩)] ++ [(leaf 3, some ⟨['x'], none⟩)]) by decide +kernel]
  exact follow_spell tree (namesOK_of_wfn tree hw) (fieldsOK_of_wfn tree hw) _ _ _ chain3
open C06.DemoT in
example : leaf 3 ∈ allNodes tree := follow_mem tree _ _ follow_demo
-- a zero-padded index is accepted as well and has the same steps (`follow_steps_unique` is about steps, not texts)
open C06.DemoT in
example : (follow tree "/@root[0]R/@a[01]M/@x[0]L".toList).map (·.uid) = some 3 := by decide +kernel
-- wrong class / wrong index / no such field are rejected
open C06.DemoT in
example : (follow tree "/@root[0]R/@a[1]L".toList).isNone ∧ (follow tree "/@root[0]R/@a[2]M".toList).isNone ∧
    (follow tree "/@root[0]R/@q[0]M".toList).isNone := by decide +kernel

end C06X
end PyOak
