/-
C17, pattern grammar at the text level, the SOUNDNESS half (cf. AUDIT.md, C17 §2):

  `parse_sound`   : `parsePattern s = some p → PatRenders p s`

where `PatRenders p s` is exactly the rendering relation `parse_render` (Props/C17Pattern.lean) quantifies
over: `s` is the rendering of a concrete syntax tree `c` (a derivation of `PATTERN_DEF_GRAMMAR` with one
white-space string in front of each token) whose words are lexically valid (`c.OK`), followed by white
space, and `p` is the abstract tree of `c`.  Hence

  `parsePattern_iff`        : `parsePattern s = some p ↔ PatRenders p s`
  `renders_unique`          : the grammar is unambiguous (a text renders at most one tree)
  `compilePattern_ok_iff`   : compiled ⇔ the text is a rendering of a well-formed tree
  `compilePattern_syntax_iff` / `compilePattern_interp_iff` : the two rejections likewise
  `compilePattern_decides`  : the three-way classification of ARBITRARY text.

No ill-formed text is silently accepted as something else: whatever the parser accepts is a sentence of
the grammar, and the tree it returns is the tree of that sentence.
-/
import PyOak.Props.C17Reject
namespace PyOak
namespace C17
open PM

/-- **the rendering relation of the pattern grammar** (the one `parse_render` is about): `s` is a
derivation `c` of the grammar written with white space `AllWS` in front of every token and after the
last one, every word being a valid terminal (`c.OK`), and `p` is its abstract syntax tree -/
def PatRenders (p : Pat) (s : Str) : Prop :=
  ∃ (c : CPat) (wEnd : Str), c.OK ∧ AllWS wEnd ∧ c.strip = p ∧ s = c.render ++ wEnd

theorem ws_split (s : Str) : AllWS (s.takeWhile isWS) ∧ s = s.takeWhile isWS ++ skipWS s :=
  ⟨(span_spec isWS s).1, List.takeWhile_append_dropWhile.symm⟩

/-- if the significant part of `s` is `t`, then `s` is white space followed by `t` -/
theorem ws_split_eq (s t : Str) (h : skipWS s = t) : ∃ w, AllWS w ∧ s = w ++ t := by
  obtain ⟨hw, hs⟩ := ws_split s
  exact ⟨_, hw, by rw [← h]; exact hs⟩

theorem allWS_append (a b : Str) (ha : AllWS a) (hb : AllWS b) : AllWS (a ++ b) := by
  intro c hc
  rcases List.mem_append.mp hc with h | h
  · exact ha c h
  · exact hb c h

theorem expectC_sound (c : Char) (s r : Str) (h : expectC c s = some r) : ∃ w, AllWS w ∧ s = w ++ c :: r := by
  unfold expectC at h
  split at h
  · rename_i d t heq
    split at h
    · rename_i hd
      have hd : d = c := by simpa using hd
      injection h with h
      subst h; subst hd
      exact ws_split_eq s _ heq
    · cases h
  · cases h

theorem lexCName_sound (s n r : Str) (h : lexCName s = some (n, r)) :
    ∃ w, AllWS w ∧ ValidCName n ∧ s = w ++ (n ++ r) := by
  unfold lexCName at h
  split at h
  · rename_i c t heq
    split at h
    · rename_i hc
      simp only [Option.some.injEq, Prod.mk.injEq] at h
      obtain ⟨rfl, rfl⟩ := h
      obtain ⟨w, hw, hs⟩ := ws_split_eq s _ heq
      refine ⟨w, hw, ⟨c, _, rfl, hc, (span_spec _ _).1⟩, ?_⟩
      rw [List.cons_append, List.takeWhile_append_dropWhile]
      exact hs
    · cases h
  · cases h

theorem all_underscore_reverse : ∀ d : Str, (∀ c ∈ d, c = '_') → d.reverse = d := by
  intro d hd
  have : d = List.replicate d.length '_' := List.eq_replicate_iff.mpr ⟨rfl, hd⟩
  rw [this, List.reverse_replicate]

/-- `trimKey` splits a run into the part up to its last non-underscore and the trailing underscores -/
theorem trimKey_spec (run : Str) :
    run = (trimKey run).1 ++ (trimKey run).2
      ∧ ((trimKey run).1 = [] ∨ ∃ r c, (trimKey run).1 = r ++ [c] ∧ c ≠ '_') := by
  obtain ⟨hd, hn⟩ := span_spec (· == '_') run.reverse
  have hsplit := List.takeWhile_append_dropWhile (p := (· == '_')) (l := run.reverse)
  simp only [trimKey]
  generalize run.reverse.takeWhile (· == '_') = d at *
  generalize run.reverse.dropWhile (· == '_') = e at *
  have hrun : run = e.reverse ++ d := by
    rw [← List.reverse_reverse run, ← hsplit, List.reverse_append,
      all_underscore_reverse d fun c hc => eq_of_beq (hd c hc)]
  have htake : run.take (run.length - d.length) = e.reverse := by
    rw [hrun]; exact List.take_left' (by simp)
  rw [htake]
  refine ⟨hrun, ?_⟩
  cases e with
  | nil => exact .inl rfl
  | cons c e' => exact .inr ⟨e'.reverse, c, List.reverse_cons, fun h => by rw [h] at hn; cases hn⟩

theorem lexKey_eq (s : Str) :
    lexKey s = (if (trimKey ((skipWS s).takeWhile isKeyChar)).1.isEmpty then none
      else some ((trimKey ((skipWS s).takeWhile isKeyChar)).1,
        (trimKey ((skipWS s).takeWhile isKeyChar)).2 ++ (skipWS s).dropWhile isKeyChar)) := rfl

theorem lexKey_sound (s k r : Str) (h : lexKey s = some (k, r)) :
    ∃ w, AllWS w ∧ ValidKey k ∧ s = w ++ (k ++ r) := by
  rw [lexKey_eq] at h
  generalize hrun : (skipWS s).takeWhile isKeyChar = run at h
  obtain ⟨h1, h2⟩ := trimKey_spec run
  split at h
  · cases h
  · rename_i hne
    simp only [Option.some.injEq, Prod.mk.injEq] at h
    obtain ⟨hk, hr⟩ := h
    obtain ⟨hw, hs⟩ := ws_split s
    have hall : ∀ d ∈ run, isKeyChar d = true := by
      intro d hd; rw [← hrun] at hd; exact (span_spec _ _).1 d hd
    refine ⟨_, hw, ?_, ?_⟩
    · rcases h2 with h2 | ⟨r', c, h2, hc⟩
      · rw [h2] at hne; simp at hne
      · refine ⟨r', c, by rw [← hk, h2], ?_, ?_⟩
        · have hmem : c ∈ run := by rw [h1, h2]; simp
          have := hall c hmem
          simp only [isKeyChar, Bool.or_eq_true, beq_iff_eq] at this
          rcases this with h | h
          · exact h
          · exact absurd h hc
        · intro d hd
          exact hall d (by rw [h1, h2]; simp [hd])
    · rw [← hk, ← hr, ← List.append_assoc ((trimKey run).1), ← h1, ← hrun, List.takeWhile_append_dropWhile]
      exact hs

theorem scanStr_sound : ∀ (s acc body r : Str), scanStr s acc = some (body, r) →
    ∃ b, EscBody b ∧ body = acc.reverse ++ b ∧ s = b ++ '"' :: r := by
  intro s acc
  fun_induction scanStr s acc with
  | case1 acc => intro body r h; cases h
  | case2 t acc => intro body r h; cases h
  | case3 t acc =>
    intro body r h
    cases h
    exact ⟨[], .nil, by simp, rfl⟩
  | case4 c t acc hc =>
    intro body r h; cases h
  | case5 c t acc hc ih =>
    intro body r h
    obtain ⟨b, hb, e1, e2⟩ := ih body r h
    have hc' : c ≠ '\n' := by simpa using hc
    exact ⟨'\\' :: c :: b, .esc c b hc' hb, by rw [e1]; simp, by rw [e2]; rfl⟩
  | case6 c t acc h1 h2 h3 ih =>
    intro body r h
    obtain ⟨b, hb, e1, e2⟩ := ih body r h
    refine ⟨c :: b, .plain c b ⟨?_, ?_, ?_⟩ hb, by rw [e1]; simp, by rw [e2]; rfl⟩
    · exact h2
    · rintro rfl
      cases t with
      | nil => cases b <;> cases e2
      | cons d t' => exact h3 d t' rfl rfl
    · exact h1

/-! ### `capture?`, `class_spec` -/

theorem parseCapture_sound (s : Str) (cap : Option Str) (r : Str) (h : parseCapture s = some (cap, r)) :
    ∃ c : CCap, c.OK ∧ c.strip = cap ∧ s = c.render ++ r := by
  unfold parseCapture at h
  split at h
  · rename_i t heq
    split at h
    · rename_i k r' hk
      cases h
      obtain ⟨w1, hw1, hs⟩ := ws_split_eq s _ heq
      obtain ⟨w2, hw2, hkey, ht⟩ := lexKey_sound t k _ hk
      exact ⟨.some w1 w2 k, ⟨hw1, hw2, hkey⟩, rfl, by rw [hs, ht]; simp [CCap.render]⟩
    · cases h
  · cases h
  · cases h
    exact ⟨.none, trivial, rfl, rfl⟩

theorem parseAlts_sound : ∀ (fuel : Nat) (s : Str) (cs : List Str) (r : Str), parseAlts fuel s = some (cs, r) →
    ∃ alts : List CAlt, altsOK alts ∧ alts.map (·.name) = cs ∧ s = renderAlts alts ++ r
  | 0, _, _, _, h => by simp [parseAlts] at h
  | fuel + 1, s, cs, r, h => by
    unfold parseAlts at h
    split at h
    · rename_i t heq
      split at h; · cases h
      rename_i n r1 hn
      split at h; · cases h
      rename_i cs' r2 ha
      cases h
      obtain ⟨w1, hw1, hs⟩ := ws_split_eq s _ heq
      obtain ⟨w2, hw2, hname, ht⟩ := lexCName_sound t n r1 hn
      obtain ⟨alts, hok, hmap, hr1⟩ := parseAlts_sound fuel r1 cs' _ ha
      refine ⟨⟨w1, w2, n⟩ :: alts, ⟨hw1, hw2, hname, hok⟩, by simp [hmap], ?_⟩
      rw [hs, ht, hr1]
      simp [renderAlts]
    · cases h
      exact ⟨[], trivial, rfl, rfl⟩

theorem parseClassSpec_sound (s : Str) (cls : ClassSpec) (r : Str) (h : parseClassSpec s = some (cls, r)) :
    ∃ c : CClass, c.OK ∧ c.strip = cls ∧ s = c.render ++ r := by
  unfold parseClassSpec at h
  split at h
  · rename_i t heq
    simp only [Option.some.injEq, Prod.mk.injEq] at h
    obtain ⟨rfl, rfl⟩ := h
    obtain ⟨w, hw, hs⟩ := ws_split_eq s _ heq
    exact ⟨.any w, hw, rfl, by rw [hs]; simp [CClass.render]⟩
  · rename_i t hnot
    split at h; · cases h
    rename_i n r1 hn
    split at h; · cases h
    rename_i cs r2 ha
    cases h
    obtain ⟨hw, hs⟩ := ws_split s
    obtain ⟨w2, hw2, hname, ht⟩ := lexCName_sound _ n r1 hn
    obtain ⟨alts, hok, hmap, hr1⟩ := parseAlts_sound _ r1 cs _ ha
    refine ⟨.names (s.takeWhile isWS ++ w2) n alts, ⟨allWS_append _ _ hw hw2, hname, hok⟩, by simp [CClass.strip, hmap], ?_⟩
    simp only [CClass.render, List.append_assoc]
    rw [← hr1, ← ht]
    exact hs

/-! ### the recursive part: `tree`, `field_spec*`, the `=` part, `(value capture?)*`, `value` -/

/-- what the five mutually recursive parser functions are sound for, at fuel `f` -/
structure SoundAt (f : Nat) : Prop where
  tree : ∀ s p r, parseTree f s = some (p, r) → ∃ c : CPat, c.OK ∧ c.strip = p ∧ s = c.render ++ r
  fields : ∀ s p r, parseFields f s = some (p, r) → ∃ c : CFields, c.OK ∧ c.strip = p ∧ s = c.render ++ r
  fspec : ∀ s p r, parseFSpec f s = some (p, r) → ∃ c : CFSpec, c.OK ∧ c.strip = p ∧ s = c.render ++ r
  items : ∀ s p r, parseItems f s = some (p, r) → ∃ c : CItems, c.OK ∧ c.strip = p ∧ s = c.render ++ r
  value : ∀ s p r, parseValue f s = some (p, r) → ∃ c : CPVal, c.OK ∧ c.strip = p ∧ s = c.render ++ r

/-- white space in front of a tree belongs to its first token -/
theorem pat_prepend (w : Str) (c : CPat) (hw : AllWS w) (hc : c.OK) :
    ∃ c' : CPat, c'.OK ∧ c'.strip = c.strip ∧ c'.render = w ++ c.render := by
  cases c with
  | mk w1 cls fs w2 =>
    obtain ⟨h1, h2, h3, h4⟩ := hc
    exact ⟨.mk (w ++ w1) cls fs w2, ⟨allWS_append _ _ hw h1, h2, h3, h4⟩, by simp [CPat.strip],
      by simp [CPat.render]⟩

theorem tree_step (f : Nat) (ih : SoundAt f) (s : Str) (p : Pat) (r : Str) (h : parseTree (f + 1) s = some (p, r)) :
    ∃ c : CPat, c.OK ∧ c.strip = p ∧ s = c.render ++ r := by
  simp only [parseTree] at h
  split at h; · cases h
  rename_i r0 h1
  split at h; · cases h
  rename_i cls r1 h2
  split at h; · cases h
  rename_i fs r2 h3
  split at h; · cases h
  rename_i r3 h4
  cases h
  obtain ⟨w1, hw1, e1⟩ := expectC_sound _ _ _ h1
  obtain ⟨ccls, hcls, scls, e2⟩ := parseClassSpec_sound _ _ _ h2
  obtain ⟨cfs, hfs, sfs, e3⟩ := ih.fields _ _ _ h3
  obtain ⟨w2, hw2, e4⟩ := expectC_sound _ _ _ h4
  refine ⟨.mk w1 ccls cfs w2, ⟨hw1, hcls, hfs, hw2⟩, by simp [CPat.strip, scls, sfs], ?_⟩
  rw [e1, e2, e3, e4]
  simp [CPat.render]

theorem fields_step (f : Nat) (ih : SoundAt f) (s : Str) (p : Fields) (r : Str)
    (h : parseFields (f + 1) s = some (p, r)) :
    ∃ c : CFields, c.OK ∧ c.strip = p ∧ s = c.render ++ r := by
  unfold parseFields at h
  split at h
  · rename_i t heq
    split at h; · cases h
    rename_i name r1 h1
    split at h; · cases h
    rename_i spec r2 h2
    split at h; · cases h
    rename_i cap r3 h3
    split at h; · cases h
    rename_i rest r4 h4
    cases h
    obtain ⟨w1, hw1, e0⟩ := ws_split_eq s _ heq
    obtain ⟨w2, hw2, hname, e1⟩ := lexCName_sound _ _ _ h1
    obtain ⟨cspec, hspec, sspec, e2⟩ := ih.fspec _ _ _ h2
    obtain ⟨ccap, hcap, scap, e3⟩ := parseCapture_sound _ _ _ h3
    obtain ⟨crest, hrest, srest, e4⟩ := ih.fields _ _ _ h4
    refine ⟨.cons w1 w2 name cspec ccap crest, ⟨hw1, hw2, hname, hspec, hcap, hrest⟩,
      by simp [CFields.strip, sspec, scap, srest], ?_⟩
    rw [e0, e1, e2, e3, e4]
    simp [CFields.render]
  · cases h
    exact ⟨.nil, trivial, rfl, rfl⟩

theorem fspec_step (f : Nat) (ih : SoundAt f) (s : Str) (p : FSpec) (r : Str)
    (h : parseFSpec (f + 1) s = some (p, r)) :
    ∃ c : CFSpec, c.OK ∧ c.strip = p ∧ s = c.render ++ r := by
  unfold parseFSpec at h
  split at h
  · rename_i t heq
    obtain ⟨w1, hw1, e0⟩ := ws_split_eq s _ heq
    split at h
    · rename_i t3 heq2
      obtain ⟨w2, hw2, e1⟩ := ws_split_eq t _ heq2
      split at h; · cases h
      rename_i items r4 h1
      obtain ⟨citems, hitems, sitems, e2⟩ := ih.items _ _ _ h1
      split at h
      · rename_i r5 heq3
        obtain ⟨wt, hwt, e3⟩ := ws_split_eq r4 _ heq3
        split at h; · cases h
        rename_i tc r6 h2
        split at h; · cases h
        rename_i r7 h3
        cases h
        obtain ⟨ccap, hcap, scap, e4⟩ := parseCapture_sound _ _ _ h2
        obtain ⟨w3, hw3, e5⟩ := expectC_sound _ _ _ h3
        refine ⟨.seq w1 w2 citems (some (wt, ccap)) w3, ⟨hw1, hw2, hitems, ⟨hwt, hcap⟩, hw3⟩,
          by simp [CFSpec.strip, stripTail, sitems, scap], ?_⟩
        rw [e0, e1, e2, e3, e4, e5]
        simp [CFSpec.render, renderTail]
      · rename_i r5 heq3
        obtain ⟨w3, hw3, e3⟩ := ws_split_eq r4 _ heq3
        cases h
        refine ⟨.seq w1 w2 citems none w3, ⟨hw1, hw2, hitems, trivial, hw3⟩,
          by simp [CFSpec.strip, stripTail, sitems], ?_⟩
        rw [e0, e1, e2, e3]
        simp [CFSpec.render, renderTail]
      · cases h
    · split at h; · cases h
      rename_i v r3 h1
      cases h
      obtain ⟨cv, hv, sv, e1⟩ := ih.value _ _ _ h1
      refine ⟨.val w1 cv, ⟨hw1, hv⟩, by simp [CFSpec.strip, sv], ?_⟩
      rw [e0, e1]
      simp [CFSpec.render]
  · cases h
    exact ⟨.any, trivial, rfl, rfl⟩

theorem items_step (f : Nat) (ih : SoundAt f) (s : Str) (p : Items) (r : Str)
    (h : parseItems (f + 1) s = some (p, r)) :
    ∃ c : CItems, c.OK ∧ c.strip = p ∧ s = c.render ++ r := by
  unfold parseItems at h
  split at h
  · split at h; · cases h
    rename_i v r1 h1
    split at h; · cases h
    rename_i cap r2 h2
    split at h; · cases h
    rename_i rest r3 h3
    cases h
    obtain ⟨cv, hv, sv, e1⟩ := ih.value _ _ _ h1
    obtain ⟨ccap, hcap, scap, e2⟩ := parseCapture_sound _ _ _ h2
    obtain ⟨crest, hrest, srest, e3⟩ := ih.items _ _ _ h3
    refine ⟨.cons cv ccap crest, ⟨hv, hcap, hrest⟩, by simp [CItems.strip, sv, scap, srest], ?_⟩
    rw [e1, e2, e3]
    simp [CItems.render]
  · cases h
    exact ⟨.nil, trivial, rfl, rfl⟩

theorem value_step (f : Nat) (ih : SoundAt f) (s : Str) (p : PVal) (r : Str)
    (h : parseValue (f + 1) s = some (p, r)) :
    ∃ c : CPVal, c.OK ∧ c.strip = p ∧ s = c.render ++ r := by
  unfold parseValue at h
  split at h
  · rename_i t heq
    obtain ⟨w, hw, e0⟩ := ws_split_eq s _ heq
    split at h; · cases h
    rename_i q r' h1
    cases h
    obtain ⟨c, hc, sc, e1⟩ := ih.tree _ _ _ h1
    obtain ⟨c', hc', sc', e2⟩ := pat_prepend w c hw hc
    refine ⟨.tree c', hc', by simp [CPVal.strip, sc', sc], ?_⟩
    rw [e0, e1, CPVal.render, e2, List.append_assoc]
  · rename_i t heq
    obtain ⟨w, hw, e0⟩ := ws_split_eq s _ heq
    split at h; · cases h
    rename_i k r' h1
    cases h
    obtain ⟨w2, hw2, hk, e1⟩ := lexKey_sound _ _ _ h1
    refine ⟨.var w w2 k, ⟨hw, hw2, hk⟩, rfl, ?_⟩
    rw [e0, e1]
    simp [CPVal.render]
  · rename_i t heq
    obtain ⟨w, hw, e0⟩ := ws_split_eq s _ heq
    split at h; · cases h
    rename_i body r' h1
    cases h
    obtain ⟨b, hb, e1, e2⟩ := scanStr_sound _ _ _ _ h1
    obtain rfl : body = b := e1
    refine ⟨.re w _, ⟨hw, hb⟩, rfl, ?_⟩
    rw [e0, e2]
    simp [CPVal.render]
  · rename_i t heq
    obtain ⟨w, hw, e0⟩ := ws_split_eq s _ heq
    cases h
    refine ⟨.none w, hw, rfl, ?_⟩
    rw [e0]
    simp [CPVal.render]
  · cases h

theorem soundAt : ∀ f, SoundAt f
  | 0 => ⟨nofun, nofun, nofun, nofun, nofun⟩
  | f + 1 =>
    have ih := soundAt f
    ⟨tree_step f ih, fields_step f ih, fspec_step f ih, items_step f ih, value_step f ih⟩

/-- soundness of `tree` for every fuel and every continuation: what the parser consumes is a rendering of
the tree it returns -/
theorem parseTree_sound (f : Nat) (s : Str) (p : Pat) (r : Str) (h : parseTree f s = some (p, r)) :
    ∃ c : CPat, c.OK ∧ c.strip = p ∧ s = c.render ++ r := (soundAt f).tree s p r h

theorem allWS_of_skip_empty (r : Str) (h : (skipWS r).isEmpty = true) : AllWS r := by
  obtain ⟨hw, hs⟩ := ws_split r
  have : skipWS r = [] := by simpa using h
  rw [this, List.append_nil] at hs
  rw [hs]; exact hw

/-- **parser soundness**: a text the pattern parser accepts IS a sentence of the grammar, and the tree
returned is the tree of that sentence -/
theorem parse_sound (s : Str) (p : Pat) (h : parsePattern s = some p) : PatRenders p s := by
  unfold parsePattern at h
  split at h
  · cases h
  · rename_i q rest hq
    split at h
    · rename_i hend
      injection h with h
      subst h
      obtain ⟨c, hc, sc, e⟩ := parseTree_sound _ _ _ _ hq
      exact ⟨c, rest, hc, allWS_of_skip_empty rest hend, sc, e⟩
    · cases h

/-- completeness, for the same relation (this is `parse_render`) -/
theorem parse_complete (s : Str) (p : Pat) (h : PatRenders p s) : parsePattern s = some p := by
  obtain ⟨c, wEnd, hc, hw, rfl, rfl⟩ := h
  exact parse_render c wEnd hc hw

/-- **accepted by the parser ⇔ a sentence of the documented grammar** (with its tree) -/
theorem parsePattern_iff (s : Str) (p : Pat) : parsePattern s = some p ↔ PatRenders p s :=
  ⟨parse_sound s p, parse_complete s p⟩

/-- the parser returns nothing ⇔ the text is no sentence of the grammar -/
theorem parsePattern_none_iff (s : Str) : parsePattern s = none ↔ ¬ ∃ p, PatRenders p s := by
  simp only [← parsePattern_iff, Option.eq_none_iff_forall_ne_some, not_exists]

/-- **the grammar is unambiguous**: a text is a rendering of at most one syntax tree -/
theorem renders_unique (s : Str) (p p' : Pat) (h : PatRenders p s) (h' : PatRenders p' s) : p = p' := by
  have e := parse_complete s p h
  rw [parse_complete s p' h'] at e
  injection e with e
  exact e.symm

/-- two derivations with the same text have the same tree (unambiguity on concrete syntax trees) -/
theorem render_inj_strip (c c' : CPat) (w w' : Str) (hc : c.OK) (hc' : c'.OK) (hw : AllWS w) (hw' : AllWS w')
    (h : c.render ++ w = c'.render ++ w') : c.strip = c'.strip :=
  renders_unique (c.render ++ w) _ _ ⟨c, w, hc, hw, rfl, rfl⟩ ⟨c', w', hc', hw', rfl, h⟩

/-- **the classification of ARBITRARY text**: one of
(1) a rendering of a well-formed tree, compiled to that tree's matcher;
(2) no sentence of the grammar, syntax error;
(3) a rendering of an ill-formed tree, rejected by the interpreter with a non-`runtime` error -/
theorem compilePattern_decides (K : CEnv) (s : Str) :
    (∃ p m, PatRenders p s ∧ p.WF K [] ∧ compile K p = .ok m ∧ compilePattern K s = .ok m)
    ∨ ((¬ ∃ p, PatRenders p s) ∧ compilePattern K s = .error .syntax)
    ∨ (∃ p e, PatRenders p s ∧ ¬ p.WF K [] ∧ e ≠ .runtime ∧ compile K p = .error e
        ∧ compilePattern K s = .error (.interp e)) := by
  cases hp : parsePattern s with
  | none =>
    exact Or.inr (Or.inl ⟨(parsePattern_none_iff s).mp hp, by simp only [compilePattern, hp]⟩)
  | some p =>
    have hr := parse_sound s p hp
    cases hc : compile K p with
    | ok m =>
      exact Or.inl ⟨p, m, hr, (accepts_iff_wf K p).mp ⟨m, hc⟩, hc, by simp only [compilePattern, hp, hc]⟩
    | error e =>
      refine Or.inr (Or.inr ⟨p, e, hr, ?_, ?_, hc, by simp only [compilePattern, hp, hc]⟩)
      · intro hwf
        obtain ⟨m, hm⟩ := (accepts_iff_wf K p).mpr hwf
        rw [hm] at hc; cases hc
      · rintro rfl; exact compile_no_runtime K p hc

/-- **compiled ⇔ the text is a rendering of a well-formed tree** -/
theorem compilePattern_ok_iff (K : CEnv) (s : Str) :
    (∃ m, compilePattern K s = .ok m) ↔ ∃ p, PatRenders p s ∧ p.WF K [] := by
  constructor
  · rintro ⟨m, hm⟩
    rcases compilePattern_decides K s with ⟨p, _, hr, hwf, -, -⟩ | ⟨-, he⟩ | ⟨_, _, -, -, -, -, he⟩
    · exact ⟨p, hr, hwf⟩
    · rw [he] at hm; cases hm
    · rw [he] at hm; cases hm
  · rintro ⟨p, hr, hwf⟩
    obtain ⟨m, hm⟩ := (accepts_iff_wf K p).mpr hwf
    exact ⟨m, by simp only [compilePattern, parse_complete s p hr, hm]⟩

/-- the matcher a compiled text denotes is the matcher of its (unique) tree -/
theorem compilePattern_ok_matcher (K : CEnv) (s : Str) (m : Matcher) (h : compilePattern K s = .ok m) :
    ∃ p, PatRenders p s ∧ p.WF K [] ∧ compile K p = .ok m := by
  rcases compilePattern_decides K s with ⟨p, _, hr, hwf, hc, he⟩ | ⟨-, he⟩ | ⟨_, _, -, -, -, -, he⟩
  · rw [he] at h; cases h; exact ⟨p, hr, hwf, hc⟩
  · rw [he] at h; cases h
  · rw [he] at h; cases h

/-- **syntax error ⇔ the text is not a sentence of the grammar** -/
theorem compilePattern_syntax_iff (K : CEnv) (s : Str) :
    compilePattern K s = .error .syntax ↔ ¬ ∃ p, PatRenders p s := by
  rw [← parsePattern_none_iff]
  cases hp : parsePattern s with
  | none => simp [compilePattern, hp]
  | some p =>
    cases hc : compile K p with
    | ok m => simp [compilePattern, hp, hc]
    | error e => simp [compilePattern, hp, hc]

/-- **interpreter definition error ⇔ the text is a rendering of an ill-formed tree** -/
theorem compilePattern_interp_iff (K : CEnv) (s : Str) :
    (∃ e, compilePattern K s = .error (.interp e)) ↔ ∃ p, PatRenders p s ∧ ¬ p.WF K [] := by
  constructor
  · rintro ⟨e, he⟩
    rcases compilePattern_decides K s with ⟨_, _, -, -, -, h⟩ | ⟨-, h⟩ | ⟨p, _, hr, hill, -, -, -⟩
    · rw [h] at he; cases he
    · rw [h] at he; cases he
    · exact ⟨p, hr, hill⟩
  · rintro ⟨p, hr, hill⟩
    obtain ⟨e, he⟩ := rejects_illformed K p hill
    exact ⟨e, by simp only [compilePattern, parse_complete s p hr, he]⟩

/-- `pattern_ws_irrelevant` (Props/C17Pattern.lean), stated on the relation: two texts that render the same
tree compile alike -/
theorem renders_same_compile (K : CEnv) (s s' : Str) (p : Pat) (h : PatRenders p s) (h' : PatRenders p s') :
    compilePattern K s = compilePattern K s' := by
  obtain ⟨c, w, hc, hw, rfl, rfl⟩ := h
  obtain ⟨c', w', hc', hw', e, rfl⟩ := h'
  exact pattern_ws_irrelevant K c c' w w' hc hc' hw hw' e.symm

section Examples
-- `(T@i="a\"b"->c)` is accepted, hence (by `parse_sound`) a rendering of the tree returned
def exText : Str := ['(', 'T', '@', 'i', '=', '"', 'a', '\\', '"', 'b', '"', '-', '>', 'c', ' ', ')', ' ']
def exTree : Pat := .mk (.names ['T'] []) (.cons ['i'] (.val (.re ['a', '\\', '"', 'b'])) (some ['c']) .nil)
theorem exText_parses : (match parsePattern exText with | some _ => true | none => false) = true := by decide +kernel
example : ∃ p, PatRenders p exText := by
  cases h : parsePattern exText with
  | none => have := exText_parses; rw [h] at this; cases this
  | some p => exact ⟨p, parse_sound _ _ h⟩
-- the hypothesis of `renders_unique` / `parse_complete` is satisfiable: `exC` of C17Pattern
example : PatRenders exC.strip (exC.render ++ [' ']) :=
  ⟨exC, [' '], exC_ok, allWS_single ' ' rfl, rfl, rfl⟩
-- texts the parser rejects: the syntax error (hence, by `compilePattern_syntax_iff`, no sentences of the grammar)
example : outcome (compilePattern C08.exK ['(', 'T', '@', 'i', '=', 'N', 'o', 'n', ')']) = 1 := by decide +kernel
example : outcome (compilePattern C08.exK ['(', 'T', '@', 'i', '-', '>', '_', ')']) = 1 := by decide +kernel
example : outcome (compilePattern C08.exK ['(', 'T', ')', 'x']) = 1 := by decide
end Examples

end C17
end PyOak

#print axioms PyOak.C17.parse_sound
#print axioms PyOak.C17.parsePattern_iff
#print axioms PyOak.C17.renders_unique
#print axioms PyOak.C17.compilePattern_decides
