/-
C19 — A rejected legacy operation changes nothing.

Frame: a state `s'` reached by a rejected call from `s` agrees with `s` on every pre-existing
record and on every registry lookup:

  Frame s s'  :=  (∀ k, s'.lookup k = s.lookup k) ∧ (∀ v, v < s.size → s'.obj v = s.obj v)

(the record of a rejected *new* node is garbage beyond `s.size`; that it is not registered is the
first conjunct).

`step_raised`: a rejected step refused a reference to a missing object (nothing happens), or is a rejected call
of the operation itself; the theorems below start from it.

PROVED (for all states, arguments, fuel):
  fail_frame_new             rejected construction (duplicate children / id collision / parent or
                             registry collision anywhere in the subtree): even `s'.reg = s.reg`
  fail_frame_attach          rejected `attach()`: `s' = s`
  detach_never_rejected      `detach` / `detach_self` raise no documented error (only `hang` / `badRequest`)
  fail_frame_replace_keys    `replace` with a forbidden / unknown key: `s' = s`
  fail_frame_replace         `replace` rejected by the construction of the new node (duplicate children,
                             parent collision, registry collision), receiver attached or detached, with or
                             without parent: the roll-back restores the registry entry, the parent link of
                             the receiver AND the parent links of all its children (finding F16)
  fail_frame_rwith_precheck  `replace_with` rejected by one of its pre-checks (new node has a parent; `None`
                             for a required field; class not accepted by the parent field): `s' = s`

  fail_frame_rwith           `replace_with` rejected with ASTNodeReplaceWithError for WHATEVER reason, in particular
                             because the new node cannot be attached (registry / parent collision anywhere in its
                             subtree): the receiver's subtree has been detached and is re-attached by the roll-back
                             (Props/LegacyRollback.lean: `reattach_frame` = detach + re-attach restores every parent
                             slot, registry entry and content id), the new node gets its ids and its registry entry
                             back; receiver with or without parent, new node attached root or detached.
                             From `fail_frameAll_rwith` (`FrameAll`: also the junk beyond `size`, and the size)

  fail_frame_dup             `duplicate` rejected at any depth (Props/LegacyDupFrame.lean): every pre-existing record
                             untouched, every pre-existing registry entry kept, any additional entry belongs to an
                             object created by the rejected call (an already duplicated child, garbage when the call
                             returns: weak registry, collected by `gcNew` in Handle/Legacy.lean, which is glue)

  C19T.step_dup_clone_reg    `duplicate(as_detached_clone=True)` registers nothing

Transform visitor / transformer (Model/LegacyTransform.lean): Props/C19Transform.lean, Props/C19TransformGen.lean
(with the two witnesses of the known finding: no roll-back across several replaced nodes, known_findings.json).
-/
import PyOak.Props.C18
import PyOak.Props.LegacyRollback
import PyOak.Props.LegacyDupFrame
namespace PyOak.Legacy.C19
open PyOak PyOak.Legacy LState

variable (H Hc : Str → Str)

def Frame (s s' : LState) : Prop :=
  (∀ k, s'.lookup k = s.lookup k) ∧ ∀ v, v < s.size → s'.obj v = s.obj v

theorem Frame.refl (s : LState) : Frame s s := ⟨fun _ => rfl, fun _ _ => rfl⟩

theorem Frame.of_reg {s s' : LState} (hr : s'.reg = s.reg) (ho : ∀ v, v < s.size → s'.obj v = s.obj v) :
    Frame s s' :=
  ⟨fun k => by unfold LState.lookup; rw [hr], ho⟩

theorem Frame.of_construct_fail {s s' : LState} {sp : NewSpec} {fuel : Nat} {e : Err}
    (h : construct H Hc fuel s sp = (s', .error e)) : Frame s s' :=
  .of_reg (construct_fail_frame H Hc h).1 fun v hv => (construct_fail_frame H Hc h).2 v (by omega)

/-- `Frame`, also beyond `s.size`, and no new record -/
def FrameAll (s s' : LState) : Prop :=
  (∀ k, s'.lookup k = s.lookup k) ∧ (∀ v, s'.obj v = s.obj v) ∧ s'.size = s.size

theorem FrameAll.refl (s : LState) : FrameAll s s := ⟨fun _ => rfl, fun _ => rfl, rfl⟩

theorem FrameAll.frame {s s' : LState} (h : FrameAll s s') : Frame s s' := ⟨h.1, fun v _ => h.2.1 v⟩

theorem ofNode_raised {p : LState × Except Err Nat} {s' : LState} {e : Err} (h : ofNode p = (s', .raised e)) :
    p = (s', .error e) := by
  obtain ⟨s, r⟩ := p
  cases r <;> simp_all [ofNode]

theorem ofUnit_raised {p : LState × Except Err Unit} {s' : LState} {e : Err} (h : ofUnit p = (s', .raised e)) :
    p = (s', .error e) := by
  obtain ⟨s, r⟩ := p
  cases r <;> simp_all [ofUnit]

theorem step_cases (s : LState) (op : LOp) :
    step H Hc s op = (s, .raised .badRequest) ∨ ((∀ u ∈ op.refs, u < s.size) ∧ step H Hc s op =
      match op with
      | .new sp => ofNode (construct H Hc (fuelOf s) s sp)
      | .attach u => if !s.detached u then (s, .none) else ofUnit (attach Hc (fuelOf s) s u)
      | .detach u onlySelf =>
        match detachGo (fuelOf s + 1) onlySelf s u with
        | (s1, some b) => (s1, .bool b)
        | (s1, none) => (s1, .raised .hang)
      | .replace u ch => ofNode (replace H Hc (fuelOf s) s u ch)
      | .rwith u n => ofUnit (replaceWith Hc (fuelOf s) s u n)
      | .dup u clone => ofNode (duplicate H Hc (2 * fuelOf s) clone (fuelOf s) s u)) := by
  unfold step
  split
  · exact .inl rfl
  · next hr => exact .inr ⟨C18.refs_lt (by simpa using hr), rfl⟩

theorem ofNode_eq {p : LState × Except Err Nat} {s' : LState} {out : LOut} (h : ofNode p = (s', out)) :
    s' = p.1 ∧ ∀ x, out = .node x → p.2 = .ok x := by
  obtain ⟨s, r⟩ := p
  cases r <;> simp only [ofNode, Prod.mk.injEq] at h <;> obtain ⟨rfl, rfl⟩ := h
  · exact ⟨rfl, fun x hx => by cases hx⟩
  · exact ⟨rfl, fun x hx => by cases hx; rfl⟩

theorem step_raised {s s' : LState} {op : LOp} {e : Err} (h : step H Hc s op = (s', .raised e)) :
    (s' = s ∧ e = .badRequest) ∨ ((∀ u ∈ op.refs, u < s.size) ∧
      match op with
      | .new sp => construct H Hc (fuelOf s) s sp = (s', .error e)
      | .attach u => attach Hc (fuelOf s) s u = (s', .error e)
      | .detach _ _ => e = .hang
      | .replace u ch => replace H Hc (fuelOf s) s u ch = (s', .error e)
      | .rwith u n => replaceWith Hc (fuelOf s) s u n = (s', .error e)
      | .dup u c => duplicate H Hc (2 * fuelOf s) c (fuelOf s) s u = (s', .error e)) := by
  rcases step_cases H Hc s op with hb | ⟨hlt, hs⟩
  · rw [hb] at h; cases h; exact .inl ⟨rfl, rfl⟩
  · rw [hs] at h
    refine .inr ⟨hlt, ?_⟩
    cases op <;> simp only at h ⊢
    · exact ofNode_raised h
    · split at h
      · cases h
      · exact ofUnit_raised h
    · split at h <;> cases h
      rfl
    · exact ofNode_raised h
    · exact ofUnit_raised h
    · exact ofNode_raised h

/-- a rejected construction: nothing but the garbage record of the rejected node -/
theorem fail_frame_new {s s' : LState} {sp : NewSpec} {e : Err}
    (h : step H Hc s (.new sp) = (s', .raised e)) : s'.reg = s.reg ∧ Frame s s' := by
  rcases step_raised H Hc h with ⟨rfl, _⟩ | ⟨_, hc⟩
  · exact ⟨rfl, Frame.refl _⟩
  · exact ⟨(construct_fail_frame H Hc hc).1, .of_construct_fail H Hc hc⟩

theorem fail_frame_attach {s s' : LState} {u : Nat} {e : Err}
    (h : step H Hc s (.attach u) = (s', .raised e)) : s' = s := by
  rcases step_raised H Hc h with ⟨rfl, _⟩ | ⟨_, ha⟩
  · rfl
  · exact attach_fail_frame Hc _ _ _ _ _ ha

/-- `detach` / `detach_self` raise no documented error (a walk that does not end is not a rejection) -/
theorem detach_never_rejected {s s' : LState} {u : Nat} {os : Bool} {e : Err}
    (h : step H Hc s (.detach u os) = (s', .raised e)) : e = .hang ∨ e = .badRequest := by
  rcases step_raised H Hc h with ⟨_, he⟩ | ⟨_, he⟩
  · exact .inr he
  · exact .inl he

/-- `replace` with a forbidden / unknown key -/
theorem fail_frame_replace_keys {s : LState} {u : Nat} {ch : Changes} (hb : ch.bad = true) :
    step H Hc s (.replace u ch) = (s, .raised .replaceError) ∨
    step H Hc s (.replace u ch) = (s, .raised .badRequest) := by
  unfold step
  split
  · exact .inr rfl
  · left; simp [replace, hb, ofNode]

/-- the pre-checks of `replace_with` -/
def rwithPrecheckFails (s : LState) (u : Nat) (new : Option Nat) : Bool :=
  (match new with | some n => s.isAttachedSubtree n | none => false) ||
  (match s.parent u with
   | none => false
   | some p =>
     match (s.obj u).pfield with
     | none => true
     | some f =>
       match (s.obj p).fields.find? (·.name = f) with
       | none => true
       | some fl =>
         !(match new with
           | none => decide (fl.kind = .opt) || fl.kind.isSeq
           | some n => fl.allowed.any fun t => (s.obj n).mro.contains t))

theorem fail_frame_rwith_precheck {s : LState} {u fuel : Nat} {new : Option Nat}
    (hp : rwithPrecheckFails s u new = true) : (replaceWith Hc fuel s u new).1 = s := by
  unfold rwithPrecheckFails at hp
  unfold replaceWith
  cases new with
  | none =>
    simp only [Bool.false_eq_true, if_false, Bool.false_or] at hp ⊢
    cases hpar : s.parent u with
    | none => rw [hpar] at hp; simp at hp
    | some p =>
      rw [hpar] at hp
      simp only at hp ⊢
      cases hf : (s.obj u).pfield with
      | none => rfl
      | some f =>
        rw [hf] at hp
        simp only at hp ⊢
        cases hfl : (s.obj p).fields.find? (·.name = f) with
        | none => rfl
        | some fl => rw [hfl] at hp; simp only at hp ⊢; simp only [hp, if_true]
  | some n =>
    simp only at hp ⊢
    by_cases h1 : s.isAttachedSubtree n = true
    · simp only [h1, if_true]
    · have h1' : s.isAttachedSubtree n = false := by cases hh : s.isAttachedSubtree n <;> simp_all
      simp only [h1', Bool.false_eq_true, if_false, Bool.false_or] at hp ⊢
      cases hpar : s.parent u with
      | none => rw [hpar] at hp; simp at hp
      | some p =>
        rw [hpar] at hp
        simp only at hp ⊢
        cases hf : (s.obj u).pfield with
        | none => rfl
        | some f =>
          rw [hf] at hp
          simp only at hp ⊢
          cases hfl : (s.obj p).fields.find? (·.name = f) with
          | none => rfl
          | some fl => rw [hfl] at hp; simp only at hp ⊢; simp only [hp, if_true]

/-- the state in which the construction of the new node is attempted, and failed: relative to `s`
the receiver has lost its registry entry and (if it had one) its parent link, its children have
lost their parent links; `s3` may contain one more (garbage) record -/
structure Torn (s s3 : LState) (u : Nat) : Prop where
  reg : ∀ k, s3.lookup k = if s.idOf u = k then none else s.lookup k
  obj : ∀ v, v < s.size → s3.obj v =
    (if v ∈ (s.obj u).kidList then clearP else id) ((if v = u ∧ (s.parent u).isSome then clearP else id) (s.obj v))

theorem Torn.same {s s3 : LState} {u : Nat} (h : Torn s s3 u) {v : Nat} (hv : v < s.size) :
    SameButParent (s3.obj v) (s.obj v) := by
  rw [h.obj v hv]
  split <;> split <;> first | exact sameButParent_clearP _ | exact SameButParent.refl _
                            | exact SameButParent.trans (sameButParent_clearP _) (sameButParent_clearP _)

/-- the roll-back of `replace` undoes exactly that -/
theorem replace_rollback_frame {s s3 : LState} {u : Nat} (hI : Inv Hc s) (ha : Att s u) (hT : Torn s s3 u) :
    Frame s (match s.parent u with
      | some p => (reparent u (s3.register u) (s3.obj u).kidsPos).setParent u p ((s.obj u).pfield.getD [])
                    (s.obj u).pindex
      | none => reparent u (s3.register u) (s3.obj u).kidsPos) := by
  have hu : u < s.size := att_lt hI ha
  have hid3 : ∀ v, v < s.size → s3.idOf v = s.idOf v := fun v hv => (hT.same hv).id
  have hkp : (s3.obj u).kidsPos = (s.obj u).kidsPos := by unfold LObj.kidsPos; rw [(hT.same hu).fields]
  have hkid_lt : ∀ e ∈ (s.obj u).kidsPos, e.1 < s.size := fun e he =>
    hI.closed u hu e.1 ((mem_kidList_iff _ _).mpr ⟨e, he, rfl⟩)
  let t := s3.register u
  let o : Nat → LObj := fun x => if x < s.size then s.obj x else t.obj x
  have hsame : ∀ x, SameButParent (t.obj x) (o x) := by
    intro x
    show SameButParent (s3.obj x) (if x < s.size then s.obj x else s3.obj x)
    split
    · next h => exact hT.same h
    · exact SameButParent.refl _
  have hl : ∀ e ∈ (s3.obj u).kidsPos,
      (o e.1).pid = some (t.idOf u) ∧ (o e.1).pfield = some e.2.1 ∧ (o e.1).pindex = e.2.2 := by
    intro e he
    rw [hkp] at he
    have : o e.1 = s.obj e.1 := by show (if e.1 < s.size then _ else _) = _; simp [hkid_lt e he]
    rw [this]
    obtain ⟨_, b, c, d⟩ := hI.down' u ha e he
    exact ⟨by rw [b]; show _ = some (s3.idOf u); rw [hid3 u hu], c, d⟩
  have hr_lookup : ∀ k, (reparent u t (s3.obj u).kidsPos).lookup k = s.lookup k := by
    intro k
    rw [reparent_lookup]
    show (s3.register u).lookup k = _
    rw [register_lookup, hid3 u hu, hT.reg]
    split
    · next h => rw [← h]; exact ha.symm
    · rfl
  have hr_obj : ∀ v, v < s.size → v ≠ u ∨ s.parent u = none →
      (reparent u t (s3.obj u).kidsPos).obj v = s.obj v := by
    intro v hv hc
    by_cases hk : v ∈ (s.obj u).kidList
    · rw [reparent_restore u o _ t hsame hl v (by rw [hkp, kidsPos_map_fst]; exact hk)]
      show (if v < s.size then _ else _) = _; simp [hv]
    · rw [reparent_obj_not_mem u _ t v (by rw [hkp, kidsPos_map_fst]; exact hk)]
      show s3.obj v = _
      rw [hT.obj v hv]
      rcases hc with hc | hc <;> simp [hk, hc]
  cases hp : s.parent u with
  | none => exact ⟨hr_lookup, fun v hv => hr_obj v hv (.inr hp)⟩
  | some p =>
    simp only
    refine ⟨fun k => by rw [setParent_lookup]; exact hr_lookup k, fun v hv => ?_⟩
    rw [setParent_obj]
    by_cases hvu : v = u
    · subst hvu
      simp only [if_true]
      obtain ⟨f, hf, _⟩ := hI.up v ha p hp
      obtain ⟨_, hpa, hpid⟩ := hI.of_parent hp
      have hsb : SameButParent ((reparent v t (s3.obj v).kidsPos).obj v) (s.obj v) :=
        SameButParent.trans (SameButParent.symm (reparent_same v _ t v)) (hT.same hv)
      apply eq_of_sameButParent
      · exact SameButParent.trans (sameButParent_setSlots _ _ _ _) hsb
      · show some _ = _; rw [reparent_idOf, hpid]; exact congrArg some (hid3 p (att_lt hI hpa))
      · show some _ = _; rw [hf]; rfl
      · rfl
    · simp only [hvu, if_false]
      exact hr_obj v hv (.inl hvu)

theorem ite_ok_hang {c : Prop} [Decidable c] {a b s' : LState} {n : Nat} {e : Err}
    (h : (if c then (a, Except.ok n) else (b, Except.error Err.hang)) = (s', Except.error e)) : e = .hang := by
  split at h
  · simp at h
  · simp only [Prod.mk.injEq, Except.error.injEq] at h; exact h.2.symm

/-- a rejected `replace`: a forbidden key, or the construction failed in `s2` (= `s` with the receiver taken out)
and the roll-back ran on what that left, `s3` -/
theorem replace_rejected {s s' : LState} {u fuel : Nat} {ch : Changes} {e : Err}
    (h : replace H Hc fuel s u ch = (s', .error e)) (he : e ≠ .hang) :
    s' = s ∨ ∃ s1 s2 s3 sp,
      s1 = (if (s.parent u).isSome = true then s.clearParent u else s) ∧
      s2 = (if (!s1.detached u) = true then (detachGo (fuel + 1) true s1 u).1 else s1) ∧
      sp.fields = applyFields (s2.obj u).fields ch.fields ∧ construct H Hc fuel s2 sp = (s3, .error e) ∧
      s' = match s.parent u with
        | some p => (if (!s1.detached u) = true then reparent u (s3.register u) (s3.obj u).kidsPos else s3).setParent
            u p ((s.obj u).pfield.getD []) (s.obj u).pindex
        | none => if (!s1.detached u) = true then reparent u (s3.register u) (s3.obj u).kidsPos else s3 := by
  unfold replace at h
  split at h
  · simp only [Prod.mk.injEq] at h; exact .inl h.1.symm
  · simp only at h
    split at h
    · next s3 e3 hc =>
      simp only [Prod.mk.injEq, Except.error.injEq] at h
      obtain ⟨hs', rfl⟩ := h
      exact .inr ⟨_, _, s3, _, rfl, rfl, rfl, hc, hs'.symm⟩
    · -- the construction succeeded: the call returns a node, or does not return
      split at h <;> exact absurd (ite_ok_hang h) he

/-- **`replace` rejected by the construction of the new node** (duplicate children, parent collision,
registry collision): the roll-back restores everything -- the registry entry and the parent link of
the receiver and the parent links of all its children (finding F16). -/
theorem fail_frame_replace {s s' : LState} {u : Nat} {ch : Changes} {e : Err} (hI : Inv Hc s)
    (h : step H Hc s (.replace u ch) = (s', .raised e)) (he : e ≠ .hang) : Frame s s' := by
  rcases step_raised H Hc h with ⟨rfl, _⟩ | ⟨_, h⟩
  · exact Frame.refl _
  rcases replace_rejected H Hc h he with rfl | ⟨s1, s2, s3, sp, hs1, hs2, _, hc, hs'⟩
  · exact Frame.refl _
  obtain ⟨hreg3, hobj3⟩ := construct_fail_frame H Hc hc
  by_cases ha : Att s u
  · have hobj1 : ∀ v, s1.obj v = (if v = u ∧ (s.parent u).isSome then clearP else id) (s.obj v) := by
      intro v; subst hs1; split
      · next hp => rw [clearParent_obj']; by_cases hv : v = u <;> simp [hv, hp]
      · next hp => simp [hp]
    have hlk1 : ∀ k, s1.lookup k = s.lookup k := by intro k; subst hs1; split <;> rfl
    have hsz1 : s1.size = s.size := by subst hs1; split <;> rfl
    have hid1 : ∀ v, s1.idOf v = s.idOf v := by
      intro v; unfold LState.idOf; rw [hobj1]; split <;> simp
    have hkl1 : (s1.obj u).kidList = (s.obj u).kidList := by
      unfold LObj.kidList; rw [hobj1]; split <;> simp
    have ha1 : Att s1 u := by unfold Att; rw [hid1, hlk1]; exact ha
    have hr1 : s1.parent u = none := by
      apply parent_of_pid_none
      rw [hobj1]
      cases hp : s.parent u with
      | some p => simp [clearP]
      | none => simpa using hI.pid_none_of_root hp
    have hd1 : s1.detached u = false := (detached_eq_false_iff _ _).mpr ha1
    simp only [hd1, Bool.not_false, if_true] at hs2 hs'
    rw [detach_self_eq ha1 hr1] at hs2
    have hT : Torn s s3 u := by
      constructor
      · intro k
        show regGet s3.reg k = _
        rw [hreg3, hs2]
        show (((s1.obj u).kidList.foldl LState.clearParent s1).unregister (s1.idOf u)).lookup k = _
        rw [unregister_lookup, foldl_clearParent_lookup, hid1, hlk1]
      · intro v hv
        rw [hobj3 v (by rw [hs2, unregister_size, foldl_clearParent_size, hsz1]; omega), hs2, unregister_obj,
          foldl_clearParent_obj, hkl1, hobj1]
        split <;> rfl
    rw [hs']
    exact replace_rollback_frame Hc hI ha hT
  · -- detached receiver: nothing is touched before the construction
    have hp : s.parent u = none := parent_of_pid_none (hI.pid_none ha)
    have hd : s.detached u = true := (detached_eq_true_iff _ _).mpr ha
    simp only [hp, Option.isSome_none, Bool.false_eq_true, if_false] at hs1
    subst hs1
    simp only [hp, hd, Bool.not_true, Bool.false_eq_true, if_false] at hs2 hs'
    subst hs2 hs'
    exact .of_construct_fail H Hc hc

/-! ### `replace_with` rejected because the new node cannot be attached -/

/-- an attached root other than the receiver is not among the receiver's descendants -/
theorem root_not_desc {s : LState} {u n : Nat} (hI : Inv Hc s) (hua : Att s u) (hnu : n ≠ u) (hna : Att s n)
    (hnroot : s.parent n = none) : ∀ m, Desc s u m → s.idOf m ≠ s.idOf n := by
  intro m hm hidm
  obtain rfl : m = n := att_inj (upFree_of_desc hI hua hm (fun _ _ hx => hx.elim)).1 hna hidm
  cases hm with
  | refl => exact hnu rfl
  | step hd' hkq =>
    have hq := (upFree_of_desc hI hua hd' (fun _ _ hx => hx.elim)).1
    obtain ⟨e, he, rfl⟩ := (mem_kidList_iff _ _).mp hkq
    have := (hI.down' _ hq e he).parent hq
    rw [hnroot] at this; cases this

/-- the registry key that `takeOver` removes: the id of the new node, if that was registered -/
def takenKey (t : LState) (n : Nat) : Option Str := if t.detached n = false then some (t.idOf n) else none

theorem takeOver_restore_lookup_or (t : LState) (u n : Nat) (k : Str) :
    ((takeOver t u n).1.modify n fun y => { y with id := (t.obj n).id, origId := (t.obj n).origId }).lookup k =
        t.lookup k ∨
    (((takeOver t u n).1.modify n fun y => { y with id := (t.obj n).id, origId := (t.obj n).origId }).lookup k = none ∧
      some k = takenKey t n) := by
  rw [takeOver_restore_lookup]
  by_cases hc : t.detached n = false ∧ t.idOf n = k
  · right; simp [takenKey, hc.1, hc.2]
  · left; simp [hc]

/-- the taken key is not the id of a node below the receiver: the new node, if registered, is a root -/
theorem takenKey_not_desc {s t : LState} {u n : Nat} (hI : Inv Hc s) (hua : Att s u) (hid : t.idOf n = s.idOf n)
    (hna : t.detached n = false → Att s n ∧ s.parent n = none ∧ n ≠ u) :
    ∀ k, takenKey t n = some k → ∀ m, Desc s u m → s.idOf m ≠ k := by
  intro k hk m hm
  unfold takenKey at hk
  split at hk
  · next hd =>
    obtain ⟨ha, hr, hnu⟩ := hna hd
    cases hk
    rw [hid]
    exact root_not_desc Hc hI hua hnu ha hr m hm
  · cases hk

theorem reregister_frameAll {s t t7 : LState} {u n : Nat} (hid : t.idOf n = s.idOf n)
    (hna : t.detached n = false → Att s n) (hobj : ∀ x, t7.obj x = s.obj x)
    (hlk : ∀ k, some k ≠ takenKey t n → t7.lookup k = s.lookup k) (hsz : t7.size = s.size) :
    FrameAll s (if (takeOver t u n).2 = true then t7.register n else t7) := by
  have hto : (takeOver t u n).2 = !t.detached n := rfl
  rw [hto]
  cases hd : t.detached n with
  | true =>
    simp only [Bool.not_true, Bool.false_eq_true, if_false]
    exact ⟨fun k => hlk k (by simp [takenKey, hd]), hobj, hsz⟩
  | false =>
    simp only [Bool.not_false, if_true]
    refine ⟨fun k => ?_, fun v => by rw [register_obj]; exact hobj v, by rw [register_size]; exact hsz⟩
    rw [register_lookup]
    have hidn : t7.idOf n = s.idOf n := by unfold LState.idOf; rw [hobj]
    rw [hidn]
    by_cases hk : s.idOf n = k
    · rw [if_pos hk, ← hk]; exact (hna hd).symm
    · rw [if_neg hk]
      exact hlk k (by simp [takenKey, hd, hid]; exact fun e => hk e.symm)

/-- the roll-back after the new node could not be attached: its error is the rejection only if the receiver
could be attached again (`R` puts the saved ids and parent slots back, `K` is the continuation of a success) -/
theorem rollback_tail {t3 s' : LState} {u n fuel : Nat} {R : LState → LState} {K : LState → LState × Except Err Unit}
    {W : Bool}
    (h : (match attach Hc fuel t3 n with
      | (s4, .error e) =>
        match attach Hc fuel (R s4) u with
        | (s7, .error e') => (s7, .error (if e = .hang then .hang else e'))
        | (s7, .ok ()) => (if W then s7.register n else s7, .error (if e = .hang then .hang else .replaceWithError))
      | (s4, .ok ()) => K s4) = (s', Except.error Err.replaceWithError))
    (hK : ∀ s4, (K s4).2 ≠ .error .replaceWithError) :
    ∃ t7, attach Hc fuel (R t3) u = (t7, .ok ()) ∧ s' = if W then t7.register n else t7 := by
  cases hat : attach Hc fuel t3 n with
  | mk s3 r3 =>
    rw [hat] at h
    cases r3 with
    | ok x => cases x; exact absurd (congrArg Prod.snd h) (hK s3)
    | error e =>
      obtain rfl := attach_fail_frame Hc _ _ _ _ _ hat
      simp only at h
      cases hat2 : attach Hc fuel (R s3) u with
      | mk s7 r7 =>
        rw [hat2] at h
        cases r7 with
        | error e' =>
          simp only [Prod.mk.injEq, Except.error.injEq] at h
          obtain ⟨_, h⟩ := h
          split at h
          · cases h
          · -- a failed re-attachment answers `hang` or a collision
            rcases attach_err_kind Hc hat2 with h1 | h1 | h1 <;> rw [h1] at h <;> cases h
        | ok x =>
          cases x
          simp only [Prod.mk.injEq, Except.error.injEq] at h
          exact ⟨s7, rfl, h.1.symm⟩

theorem foldl_commitOne_size : ∀ (l : List Nat) (s : LState), (l.foldl (commitOne Hc) s).size = s.size := by
  intro l; induction l with
  | nil => intro s; rfl
  | cons a r ih => intro s; simp only [List.foldl_cons]; rw [ih, commitOne_size]

theorem attach_size {s s' : LState} {u fuel : Nat} {r : Except Err Unit} (h : attach Hc fuel s u = (s', r)) :
    s'.size = s.size := by
  unfold attach at h
  split at h
  · simp only [Prod.mk.injEq] at h; rw [← h.1]
  · simp only [Prod.mk.injEq] at h; rw [← h.1]
  · simp only [Prod.mk.injEq] at h; rw [← h.1]; exact foldl_commitOne_size Hc _ _

theorem takeOver_size (s : LState) (u n : Nat) : (takeOver s u n).1.size = s.size := by
  unfold takeOver; simp only; split <;> rfl

/-- the receiver has no parent -/
theorem rwith_rollback_root_all {s s' : LState} {u n fuel : Nat} (hI : Inv Hc s)
    (hpar : s.parent u = none) (hsub : s.isAttachedSubtree n = false)
    (h : replaceWith Hc fuel s u (some n) = (s', .error .replaceWithError)) : FrameAll s s' := by
  unfold replaceWith at h
  simp only [hsub, Bool.false_eq_true, if_false, hpar] at h
  cases hd : s.detached u with
  | true =>
    -- detached receiver: nothing is detached, nothing has to be re-attached
    simp only [hd, Bool.not_true, Bool.false_eq_true, if_false] at h
    cases hat : attach Hc fuel (takeOver s u n).1 n with
    | mk s3 r3 =>
      rw [hat] at h
      cases r3 with
      | ok x => cases x; simp at h
      | error e =>
        simp only [Prod.mk.injEq, Except.error.injEq] at h
        obtain ⟨rfl, _⟩ := h
        rw [attach_fail_frame Hc _ _ _ _ _ hat]
        exact reregister_frameAll rfl (detached_eq_false_iff s n).mp (takeOver_restore_obj s u n)
          (fun k hk => (takeOver_restore_lookup_or s u n k).resolve_right fun h => hk h.2)
          (by rw [modify_size, takeOver_size])
  | false =>
    -- attached root: detach, (failed attach of n), re-attach
    have hua : Att s u := (detached_eq_false_iff s u).mp hd
    simp only [hd, Bool.not_false, if_true] at h
    cases hds : detachGo (fuel + 1) false s u with
    | mk s1 r1 =>
      rw [hds] at h
      cases r1 with
      | none => simp at h
      | some b =>
        simp only at h
        obtain ⟨s5, hat2, rfl⟩ := rollback_tail Hc h fun s4 => by simp
        have hS : Shrinks s s1 := by
          have := (detachGo_facts (fuel + 1) false s u b (by rw [hds])).shr; rwa [hds] at this
        -- `detach` clears the parent slots of children of unregistered nodes; the receiver is a root
        have hs1u : s1.obj u = s.obj u := by
          apply Classical.byContradiction; intro hne
          have ht := detachGo_touched (fuel + 1) false s u b (by rw [hds])
          rw [hds] at ht
          obtain ⟨q, hq, huq⟩ := ht u hne
          obtain ⟨e, he, he1⟩ := (mem_kidList_iff _ _).mp huq
          have := (hI.down' q hq.1 e he).parent hq.1
          rw [he1, hpar] at this; cases this
        have hna : s1.detached n = false → Att s n := fun hd1 => hS.att ((detached_eq_false_iff s1 n).mp hd1)
        obtain ⟨f1, f2, _⟩ := reattach_frame Hc (kn := takenKey s1 n) hI hua (fun _ => rfl) (fun _ _ => rfl)
          (SameButParent.refl _) hds (fun x _ => takeOver_restore_obj s1 u n x)
          (by rw [takeOver_restore_obj]; exact hs1u) (takeOver_restore_lookup_or s1 u n)
          (takenKey_not_desc Hc hI hua (hS.id_eq n) fun hd1 =>
            ⟨hna hd1, root_of_not_subtree hsub (hna hd1), fun e => by
              subst e; exact detachGo_root_detaches hua hpar hds ((detached_eq_false_iff s1 n).mp hd1)⟩)
          hat2
        exact reregister_frameAll (hS.id_eq n) hna f1 f2
          (by rw [attach_size Hc hat2, modify_size, takeOver_size, hS.size])

/-- the receiver has a parent -/
theorem rwith_rollback_parent_all {s s' : LState} {u p n fuel : Nat} (hI : Inv Hc s)
    (hpar : s.parent u = some p) (hsub : s.isAttachedSubtree n = false) (hnu : n ≠ u)
    (h : replaceWith Hc fuel s u (some n) = (s', .error .replaceWithError)) : FrameAll s s' := by
  have hua : Att s u := att_of_parent Hc hI hpar
  obtain ⟨f, hf, _⟩ := hI.up u hua p hpar
  unfold replaceWith at h
  simp only [hsub, Bool.false_eq_true, if_false, hpar, hf] at h
  split at h
  · simp at h
  · split at h
    · -- type violation: nothing was touched
      simp only [Prod.mk.injEq] at h; rw [← h.1]; exact FrameAll.refl _
    · cases hds : detachGo (fuel + 1) false (s.clearParent u) u with
      | mk t2 r2 =>
        rw [hds] at h
        cases r2 with
        | none => simp at h
        | some b =>
          simp only at h
          obtain ⟨s7, hat2, rfl⟩ := rollback_tail Hc h fun s4 => by split <;> simp
          have hS : Shrinks (s.clearParent u) t2 := by
            have := (detachGo_facts (fuel + 1) false (s.clearParent u) u b (by rw [hds])).shr
            rwa [hds] at this
          have hobj := takeOver_restore_obj t2 u n
          have hid2 : ∀ x, t2.idOf x = s.idOf x := by intro x; rw [hS.id_eq, clearParent_idOf]
          have hna : t2.detached n = false → Att s n := fun hd2 =>
            (att_clearParent_iff s u n).mp (hS.att ((detached_eq_false_iff t2 n).mp hd2))
          -- the record of the receiver is what it was: its parent slots have been restored
          have h6u : ((((takeOver t2 u n).1.modify n fun x =>
              { x with id := (t2.obj n).id, origId := (t2.obj n).origId }).setParent u p f
                (s.obj u).pindex).obj u) = s.obj u := by
            rw [setParent_obj]; simp only [if_true]
            rw [hobj]
            have hsame : SameButParent (t2.obj u) (s.obj u) := by
              rcases hS.obj u with h1 | h1 <;> rw [h1, clearParent_obj'] <;> simp only [if_true]
              · exact sameButParent_clearP _
              · exact SameButParent.trans (sameButParent_clearP _) (sameButParent_clearP _)
            apply eq_of_sameButParent
            · exact SameButParent.trans (sameButParent_setSlots _ _ _ _) hsame
            · show some _ = _
              rw [(hI.of_parent hpar).2.2]
              congr 1
              unfold LState.idOf; rw [hobj]; exact hid2 p
            · show some f = _; rw [hf]
            · rfl
          obtain ⟨f1, f2, _⟩ := reattach_frame Hc (t1 := s.clearParent u) (kn := takenKey t2 n) hI hua
            (fun _ => rfl) (fun x hx => by rw [clearParent_obj']; simp [hx])
            (by rw [clearParent_obj']; simp only [if_true]; exact sameButParent_clearP _) hds
            (fun x hx => by rw [setParent_obj]; simp only [hx, if_false]; exact hobj x) h6u
            (fun k => by rw [setParent_lookup]; exact takeOver_restore_lookup_or t2 u n k)
            (takenKey_not_desc Hc hI hua (hid2 n) fun hd2 =>
              ⟨hna hd2, root_of_not_subtree hsub (hna hd2), hnu⟩)
            hat2
          exact reregister_frameAll (hid2 n) hna f1 f2 (by
            rw [attach_size Hc hat2, setParent_size, modify_size, takeOver_size, hS.size, clearParent_size])

theorem rwith_rollback_root {s s' : LState} {u n fuel : Nat} (hI : Inv Hc s)
    (hpar : s.parent u = none) (hsub : s.isAttachedSubtree n = false)
    (h : replaceWith Hc fuel s u (some n) = (s', .error .replaceWithError)) : Frame s s' :=
  (rwith_rollback_root_all Hc hI hpar hsub h).frame

theorem rwith_rollback_parent {s s' : LState} {u p n fuel : Nat} (hI : Inv Hc s)
    (hpar : s.parent u = some p) (hsub : s.isAttachedSubtree n = false) (hnu : n ≠ u)
    (h : replaceWith Hc fuel s u (some n) = (s', .error .replaceWithError)) : Frame s s' :=
  (rwith_rollback_parent_all Hc hI hpar hsub hnu h).frame

/-- under the invariant the two `internal` exits of `replace_with` are dead: the receiver reports a parent
field, and the parent has a field of that name -/
theorem rwith_field_found {s : LState} {u p : Nat} (hI : Inv Hc s) (hp : s.parent u = some p) :
    ∃ f fl, (s.obj u).pfield = some f ∧ (s.obj p).fields.find? (·.name = f) = some fl := by
  obtain ⟨f, hf, hm⟩ := hI.up u (hI.of_parent hp).1 p hp
  unfold LObj.kidsPos at hm
  obtain ⟨fl, hfl, hpos⟩ := List.mem_flatMap.mp hm
  have hname : fl.name = f := (pos_field_name fl _ hpos).symm
  cases hfind : (s.obj p).fields.find? (·.name = f) with
  | some fl' => exact ⟨f, fl', hf, hfind⟩
  | none =>
    have := List.find?_eq_none.mp hfind fl hfl
    simp [hname] at this

/-- **`replace_with` rejected (`ASTNodeReplaceWithError`)**, for whatever reason -- a pre-check, or the new
node cannot be attached (registry / parent collision anywhere in its subtree): the receiver, its whole
subtree, the new node and the registry are exactly what they were -/
theorem fail_frameAll_rwith {s s' : LState} {u : Nat} {new : Option Nat} (hI : Inv Hc s)
    (h : step H Hc s (.rwith u new) = (s', .raised .replaceWithError)) : FrameAll s s' := by
  rcases step_raised H Hc h with ⟨rfl, _⟩ | ⟨_, hrw⟩
  · exact FrameAll.refl _
  simp only at hrw
  by_cases hpre : rwithPrecheckFails s u new = true
  · have hs : s' = s := by
      have := fail_frame_rwith_precheck Hc (fuel := fuelOf s) hpre
      rw [hrw] at this; exact this
    rw [hs]; exact FrameAll.refl _
  · -- the pre-checks passed: only `new = some n` can still be rejected
    cases new with
    | none =>
      exfalso
      unfold replaceWith at hrw
      simp only [Bool.false_eq_true, if_false] at hrw
      unfold rwithPrecheckFails at hpre
      simp only [Bool.false_or] at hpre
      cases hp : s.parent u with
      | none =>
        rw [hp] at hrw; simp only at hrw
        split at hrw <;> simp at hrw
      | some p =>
        obtain ⟨f, fl, hf, hfl⟩ := rwith_field_found Hc hI hp
        simp only [hp, hf, hfl] at hrw hpre
        rw [Bool.not_eq_true] at hpre
        simp only [hpre, Bool.false_eq_true, if_false] at hrw
        split at hrw
        · simp at hrw
        · split at hrw <;> simp at hrw
    | some n =>
      have hsub : s.isAttachedSubtree n = false := by
        unfold rwithPrecheckFails at hpre
        cases hh : s.isAttachedSubtree n <;> simp_all
      cases hp : s.parent u with
      | none => exact rwith_rollback_root_all Hc hI hp hsub hrw
      | some p =>
        have hnu : n ≠ u := by
          intro e; subst e
          simp [LState.isAttachedSubtree, hp, (detached_eq_false_iff s n).mpr (att_of_parent Hc hI hp)] at hsub
        exact rwith_rollback_parent_all Hc hI hp hsub hnu hrw

/-- **`replace_with` rejected (`ASTNodeReplaceWithError`)**: the frame of the property -/
theorem fail_frame_rwith {s s' : LState} {u : Nat} {new : Option Nat} (hI : Inv Hc s)
    (h : step H Hc s (.rwith u new) = (s', .raised .replaceWithError)) : Frame s s' :=
  (fail_frameAll_rwith H Hc hI h).frame

/-- **`duplicate` rejected** (at any depth of the recursion, clone or not): every pre-existing record is
untouched, every pre-existing registry entry is kept, and an additional entry can only belong to an object
created by the rejected call (an already duplicated child: nothing refers to it, so with the weak registry
it is gone when the call returns -- `gcNew` in Handle/Legacy.lean) -/
theorem fail_frame_dup {s s' : LState} {u : Nat} {clone : Bool} {e : Err} (hI : Inv Hc s)
    (h : step H Hc s (.dup u clone) = (s', .raised e)) :
    (∀ v, v < s.size → s'.obj v = s.obj v) ∧ (∀ k v, s.lookup k = some v → s'.lookup k = some v) ∧
    (∀ k v, s'.lookup k = some v → s.lookup k = some v ∨ s.size ≤ v) := by
  rcases step_raised H Hc h with ⟨rfl, _⟩ | ⟨hlt, hd⟩
  · exact ⟨fun _ _ => rfl, fun _ _ h => h, fun _ _ h => .inl h⟩
  · obtain ⟨⟨_, hN, _⟩, _⟩ := duplicate_all H Hc _ _ _ s u s' _ hI (NewOnly.refl s) (hlt u (by simp [LOp.refs])) hd
    exact ⟨hN.obj, hN.keep, hN.fresh⟩

end PyOak.Legacy.C19

/-! ### `duplicate(as_detached_clone=True)` registers nothing -/
namespace PyOak.Legacy.C19T
open PyOak PyOak.Legacy LState PyOak.Legacy.C19

variable (H Hc : Str → Str)

/-- a construction with `create_detached=True` touches nothing but the new record -/
theorem construct_detached_eff {t t' : LState} {sp : NewSpec} {fuel : Nat} {r : Except Err Nat}
    (hd : sp.createDetached = true) (h : construct H Hc fuel t sp = (t', r)) :
    t'.reg = t.reg ∧ t'.size = t.size + 1 ∧ (∀ v, v ≠ t.size → t'.obj v = t.obj v) ∧ ∀ n, r = .ok n → n = t.size := by
  have ha : ∀ v, v ≠ t.size → (t.alloc (newObj sp)).1.obj v = t.obj v := fun v hv => alloc_obj_ne t _ hv
  rcases construct_cases H Hc h with ⟨rfl, e, rfl⟩ | ⟨nid, coll, orig, _, hf⟩
  · exact ⟨rfl, rfl, ha, fun n hn => by cases hn⟩
  · rw [hd] at hf
    rcases finishConstruct_cases Hc hf with ⟨_, rfl, rfl⟩ | ⟨h0, _⟩
    · refine ⟨rfl, rfl, ?_, fun n hn => by cases hn; rfl⟩
      intro v hv
      rw [setContentId_obj]
      simp only [hv, if_false]
      rw [modify_obj_ne _ _ _ _ hv]
      exact ha v hv
    · cases h0

theorem dupList_reg (rec : LState → Nat → LState × Except Err Nat) (hrec : ∀ t c, (rec t c).1.reg = t.reg) :
    ∀ (ks : List Nat) (t : LState), (dupList rec t ks).1.reg = t.reg := by
  intro ks
  induction ks with
  | nil => intro t; rfl
  | cons c cs ih =>
    intro t
    unfold dupList
    have h1 := hrec t c
    split
    · next s1 e heq => rw [heq] at h1; exact h1
    · next s1 c' heq =>
      rw [heq] at h1
      have h2 := ih s1
      split
      · next s2 e heq2 => rw [heq2] at h2; exact h2.trans h1
      · next s2 cs' heq2 => rw [heq2] at h2; exact h2.trans h1

theorem dupFields_reg (rec : LState → Nat → LState × Except Err Nat) (hrec : ∀ t c, (rec t c).1.reg = t.reg) :
    ∀ (fs : List LField) (t : LState), (dupFields rec t fs).1.reg = t.reg := by
  intro fs
  induction fs with
  | nil => intro t; rfl
  | cons f fr ih =>
    intro t
    unfold dupFields
    have h1 := dupList_reg rec hrec f.kids t
    split
    · next s1 e heq => rw [heq] at h1; exact h1
    · next s1 ks heq =>
      rw [heq] at h1
      have h2 := ih s1
      split
      · next s2 e heq2 => rw [heq2] at h2; exact h2.trans h1
      · next s2 fs' heq2 => rw [heq2] at h2; exact h2.trans h1

theorem duplicate_clone_reg (cfuel : Nat) : ∀ (fuel : Nat) (t : LState) (u : Nat),
    (duplicate H Hc cfuel true fuel t u).1.reg = t.reg := by
  intro fuel
  induction fuel with
  | zero => intro t u; rfl
  | succ fuel ih =>
    intro t u
    unfold duplicate
    have h1 := dupFields_reg (duplicate H Hc cfuel true fuel) ih (t.obj u).fields t
    split
    · next s1 e heq => rw [heq] at h1; exact h1
    · next s1 fs heq =>
      rw [heq] at h1
      dsimp only
      split
      · next s2 e hc => exact ((construct_detached_eff H Hc rfl hc).1).trans h1
      · next s2 n hc => exact ((construct_detached_eff H Hc rfl hc).1).trans h1

theorem step_dup_clone_reg {s s1 : LState} {u : Nat} {out : LOut} (h : step H Hc s (.dup u true) = (s1, out)) :
    s1.reg = s.reg := by
  rcases step_cases H Hc s (.dup u true) with hb | ⟨_, hs⟩
  · rw [hb] at h; cases h; rfl
  · rw [hs] at h
    rw [(ofNode_eq h).1]
    exact duplicate_clone_reg H Hc (2 * fuelOf s) (fuelOf s) s u

end PyOak.Legacy.C19T

namespace PyOak.Legacy.C19
open PyOak PyOak.Legacy LState

/-! ### non-vacuity: every theorem is applied to a concrete rejected call -/
section examples
open PyOak.Legacy.Ex PyOak.Legacy.C18

/-- two leaves, a tuple over the first, a unary node over the second -/
def base : List LOp := [.new (leaf "1"), .new (leaf "2"), .new (tup [0]), .new (un 1)]

theorem inv_base : Inv id (st base) := inv_run_init_partial id id base (by decide +kernel)

theorem mk_eq {α β : Type} (p : α × β) (b : β) (h : p.2 = b) : p = (p.1, b) := by
  cases p; simp_all

/-- the step behind an answer.  Stated over `outOf`: against `mk_eq _ _ h` directly, the unifier and the kernel
compare `outOf ops op` with a projection of `step …` by normalising both -/
theorem step_of_outOf {ops : List LOp} {op : LOp} {out : LOut} (h : outOf ops op = out) :
    step id id (st ops) op = ((step id id (st ops) op).1, out) := mk_eq _ _ h

-- constructor rejected: the same child twice / a child attached elsewhere
private theorem out_new00 : outOf base (.new (tup [0, 0])) = .raised .dupChildren := by decide +kernel
example : outOf base (.new (tup [0, 0])) = .raised .dupChildren := out_new00
example : Frame (st base) (step id id (st base) (.new (tup [0, 0]))).1 :=
  (fail_frame_new id id (step_of_outOf out_new00)).2
private theorem out_new21 : outOf base (.new (tup [2, 1])) = .raised .parentCollision := by decide +kernel
example : outOf base (.new (tup [2, 1])) = .raised .parentCollision := out_new21
example : Frame (st base) (step id id (st base) (.new (tup [2, 1]))).1 :=
  (fail_frame_new id id (step_of_outOf out_new21)).2
-- attach rejected: the tree 3 -> 1 is detached; node 1 is then taken by a new parent
def base2 : List LOp := base ++ [.detach 3 false, .new (tup [1])]
private theorem out_attach3 : outOf base2 (.attach 3) = .raised .parentCollision := by decide +kernel
example : outOf base2 (.attach 3) = .raised .parentCollision := out_attach3
example : (step id id (st base2) (.attach 3)).1 = st base2 :=
  fail_frame_attach id id (step_of_outOf out_attach3)
-- detach of something that does not exist
private theorem out_detach9 : outOf base (.detach 9 false) = .raised .badRequest := by decide +kernel
example : outOf base (.detach 9 false) = .raised .badRequest := out_detach9
example := detach_never_rejected id id (s := st base) (u := 9) (os := false) (e := .badRequest) (step_of_outOf out_detach9)
-- replace: forbidden key; duplicate children (receiver 2 = attached root with a child)
example := fail_frame_replace_keys id id (s := st base) (u := 2) (ch := ⟨[], [], true⟩) rfl
private theorem out_replace2 :
    outOf base (.replace 2 ⟨[], [("items".toList, [0, 0])], false⟩) = .raised .dupChildren := by decide +kernel
example : outOf base (.replace 2 ⟨[], [("items".toList, [0, 0])], false⟩) = .raised .dupChildren := out_replace2
example : Frame (st base) (step id id (st base) (.replace 2 ⟨[], [("items".toList, [0, 0])], false⟩)).1 :=
  fail_frame_replace id id inv_base (step_of_outOf out_replace2) (by decide)
-- replace on a receiver WITH a parent (node 3 under node 4), rejected for a parent collision (child 0 sits in 2)
def base3 : List LOp := base ++ [.new (un 3)]
private theorem out_replace3 :
    outOf base3 (.replace 3 ⟨[], [("arg".toList, [0])], false⟩) = .raised .parentCollision := by decide +kernel
example : outOf base3 (.replace 3 ⟨[], [("arg".toList, [0])], false⟩) = .raised .parentCollision := out_replace3
example : Frame (st base3) (step id id (st base3) (.replace 3 ⟨[], [("arg".toList, [0])], false⟩)).1 :=
  fail_frame_replace id id (inv_run_init_partial id id _ (by decide +kernel)) (step_of_outOf out_replace3) (by decide)
-- replace_with a node that has a parent; None for a required field
private theorem pre_2_1 : rwithPrecheckFails (st base) 2 (some 1) = true := by decide +kernel
example : rwithPrecheckFails (st base) 2 (some 1) = true := pre_2_1
example : (replaceWith id 9 (st base) 2 (some 1)).1 = st base := fail_frame_rwith_precheck id pre_2_1
private theorem pre_1_none : rwithPrecheckFails (st base) 1 none = true := by decide +kernel
example : rwithPrecheckFails (st base) 1 none = true := pre_1_none
example : (replaceWith id 9 (st base) 1 none).1 = st base := fail_frame_rwith_precheck id pre_1_none

-- replace_with a node that cannot be attached (its child 0 sits in node 2): the receiver's subtree is
-- detached and re-attached by the roll-back -- receiver a root (3) / a child (1)
def base4 : List LOp := base ++ [.new (un 0 true)]
theorem inv_base4 : Inv id (st base4) := inv_run_init_partial id id base4 (by decide +kernel)
private theorem out_rwith3 : outOf base4 (.rwith 3 (some 4)) = .raised .replaceWithError := by decide +kernel
example : outOf base4 (.rwith 3 (some 4)) = .raised .replaceWithError := out_rwith3
example : Frame (st base4) (step id id (st base4) (.rwith 3 (some 4))).1 :=
  fail_frame_rwith id id inv_base4 (step_of_outOf out_rwith3)
theorem out_rwith1 : outOf base4 (.rwith 1 (some 4)) = .raised .replaceWithError := by decide +kernel
example : outOf base4 (.rwith 1 (some 4)) = .raised .replaceWithError := out_rwith1
example : Frame (st base4) (step id id (st base4) (.rwith 1 (some 4))).1 :=
  fail_frame_rwith id id inv_base4 (step_of_outOf out_rwith1)

-- duplicate of something that does not exist
example := fail_frame_dup id id (s := st base) (u := 9) (clone := false) (e := .badRequest) inv_base
  (mk_eq _ _ (by decide +kernel))

end examples

end PyOak.Legacy.C19
