/-
Bridge for `is_equal`: the hand-written model `isEqual` (Model/Encode.lean) is the definition GENERATED from
`ASTNode.is_equal` (src/pyoak/node.py); hence `C01.isEqual_iff` is a theorem about the source as it is now.
-/
import PyOak.Gen.KernelsIsEq
import PyOak.Model.Encode
namespace PyOak.GenBridge
open PyOak

theorem isEqual_eq_gen (H : Str → Str) (a b : Node) :
    (Except.ok (isEqual H a b) : Except Unit Bool) =
      GenK.is_equal (fun x y => x.cls == y.cls) (cid H) (fun n => n.org.key) (fun _ => ([] : List Node)) a b := by
  simp only [isEqual, GenK.is_equal, BEq.comm (a := b.cls)]
  cases a.cls == b.cls <;> rfl

end PyOak.GenBridge
