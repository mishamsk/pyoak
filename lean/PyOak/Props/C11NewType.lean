/-
C11, "the verdict is the same … for NewType wrappers": erasing EVERY NewType wrapper, at any depth.

* `classify_erase_cases`         for every annotation: the only thing erasure can change is rejected ↦ child
                                 (`childShape_erase`: a child shape stays one; `hasNode_erase`, `validProp_erase`:
                                 what is mentioned does not change)
* `classify_erase_of_accepted`   so an accepted annotation (child or property) keeps its verdict
* `erase_same`, `classify_erase_weak`   the classifier cannot tell `t` from `erase t` as soon as no union member is
                                 a NewType of None (`noNoneNT`)
* `classify_erase`               in particular when every NewType wraps, as PEP 484 requires, a non-Union, non-None
                                 base (`ntBaseOk`); `ntBaseOk_noNoneNT`, `noNoneNT_strictly_weaker`;
                                 `classify_erase_from_weak` is the same statement
* `classify_erase_needs_noNoneNT`, `classify_erase_needs_base`   the hypothesis cannot be dropped (`Union[N, NT]`,
                                 `NT = NewType(.., None)`: rejected, `Union[N, None]`: child)
* `union_base_python_erasure`    `ntBaseOk` also excludes Union bases: the model's `erase` leaves the nested
                                 union `Union[Union[A, B], None]` in place (still rejected), but Python flattens
                                 it to `Union[A, B, None]`, a child, whereas `Optional[NT]`, `NT = NewType(..,
                                 Union[A, B])`, is rejected — for Python's reading of "the annotation without
                                 NewTypes" the Union-base condition IS needed.
A probe of the pyoak code gave the same verdicts at these four points: `Optional[NTU]` → InvalidFieldAnnotations
(NON_NODE_TYPE), `Union[A, B, None]` → child; `Union[A, NTN]` → InvalidFieldAnnotations, `Union[A, None]` → child.
-/
import PyOak.Props.C11
namespace PyOak
namespace C11
open Annot Annot.Ty

theorem eraseL_eq (l : List Ty) : eraseL l = l.map erase := by
  induction l with
  | nil => rfl
  | cons t r ih => rw [List.map_cons, ← ih]; rfl

theorem erase_union (m : Ty) (ms : List Ty) : erase (.union m ms) = .union (erase m) (ms.map erase) := by
  rw [← eraseL_eq]; rfl

theorem erase_coll (k : CollKind) (args : List Ty) : erase (.coll k args) = .coll k (args.map erase) := by
  rw [← eraseL_eq]; rfl

theorem hasNode_erase : ∀ t, hasNode (erase t) = hasNode t := by
  intro t
  induction t using Ty.induct with
  | hnt t ih => exact ih
  | hvt t ih => exact ih
  | hunion m ms ih => rw [erase_union, hasNode_union, hasNode_union]; exact any_map_congr ih
  | hcoll k args ih => rw [erase_coll, hasNode_coll, hasNode_coll]; exact any_map_congr ih
  | _ => rfl

theorem validProp_erase : ∀ t, validProp (erase t) = validProp t := by
  intro t
  induction t using Ty.induct with
  | hnt t ih => exact ih
  | hvt t ih => exact ih
  | hunion m ms ih => rw [erase_union, validProp_union, validProp_union]; exact all_map_congr ih
  | hcoll k args ih => rw [erase_coll, validProp_coll, validProp_coll, all_map_congr ih]
  | _ => rfl

theorem nodeLike_erase {t : Ty} (h : NodeLike t) : NodeLike (erase t) := by
  induction h with
  | node c => exact .node c
  | fwd c => exact .fwd c
  | newtype _ ih => exact ih

theorem elemShape_erase {t : Ty} (h : ElemShape t) : ElemShape (erase t) := by
  induction h with
  | one h => exact .one (nodeLike_erase h)
  | union h =>
    rw [erase_union, elemShape_union, ← List.map_cons]
    exact List.forall_mem_map.2 fun x hx => nodeLike_erase (h x hx)
  | newtype _ ih => exact ih

theorem childShape_erase {t : Ty} (h : ChildShape t) : ChildShape (erase t) := by
  induction h with
  | one h => exact .one (nodeLike_erase h)
  | union h1 h2 =>
    obtain ⟨y, hy, hn⟩ := h2
    rw [erase_union, childShape_union, ← List.map_cons]
    exact ⟨List.forall_mem_map.2 fun x hx => (h1 x hx).imp (congrArg erase) nodeLike_erase,
      erase y, List.mem_map_of_mem hy, nodeLike_erase hn⟩
  | vtuple h => exact .vtuple (elemShape_erase h)
  | tuple hne h =>
    rw [erase_coll]
    exact .tuple (fun e => hne (List.map_eq_nil_iff.1 e)) (List.forall_mem_map.2 fun a ha => elemShape_erase (h a ha))
  | newtype _ ih => exact ih

/-- erasure never produces or removes a property -/
theorem classify_erase_prop_iff (t : Ty) : classify (erase t) = .prop ↔ classify t = .prop := by
  rw [classify_eq_prop, classify_eq_prop, hasNode_erase, validProp_erase]

/-- in general the only possible effect of erasing NewType wrappers is rejected ↦ child (a NewType of None
in a union becoming a plain None); a property never appears or disappears -/
theorem classify_erase_cases (t : Ty) :
    classify (erase t) = classify t ∨ (classify t = .reject ∧ classify (erase t) = .child) := by
  cases h : classify t with
  | child => exact .inl ((classify_child_iff _).2 (childShape_erase ((classify_child_iff t).1 h)))
  | prop => exact .inl ((classify_erase_prop_iff t).2 h)
  | reject =>
    cases h' : classify (erase t) with
    | child => exact .inr ⟨rfl, rfl⟩
    | prop => rw [(classify_erase_prop_iff t).1 h'] at h; cases h
    | reject => exact .inl rfl

/-- erasing all NewType wrappers never changes the verdict of an accepted annotation -/
theorem classify_erase_of_accepted (t : Ty) (h : classify t ≠ .reject) : classify (erase t) = classify t :=
  (classify_erase_cases t).resolve_right fun h' => h h'.1

theorem noNoneNT_union (m : Ty) (ms : List Ty) :
    noNoneNT (.union m ms) = (m :: ms).all fun x => !(isNoneNT x) && noNoneNT x := by
  have : ∀ l, noNoneNTL l = l.all fun x => !(isNoneNT x) && noNoneNT x := fun l => by
    induction l with
    | nil => rfl
    | cons t r ih => rw [List.all_cons, ← ih]; rfl
  rw [List.all_cons, ← this]; rfl

theorem noNoneNT_coll (k : CollKind) (args : List Ty) : noNoneNT (.coll k args) = args.all noNoneNT := by
  show noNoneNTArgs args = _
  induction args with
  | nil => rfl
  | cons t r ih => rw [List.all_cons, ← ih]; rfl

theorem isNone_erase : ∀ t, (erase t).isNone = t.unwrap.isNone := by
  intro t
  induction t using Ty.induct with
  | hnt t ih => exact ih
  | _ => rfl

theorem isNone_erase_of (t : Ty) (h : isNoneNT t = false) : (erase t).isNone = t.isNone := by
  rw [isNone_erase]
  cases t with
  | newtype u => exact h
  | _ => rfl

theorem erase_same : ∀ t, noNoneNT t = true → Same t (erase t) := by
  intro t
  induction t using Ty.induct with
  | hnt t ih => exact fun h => (Same.unwrapped t).trans (ih h)
  | hvt t ih => exact fun h => (ih h).vtuple
  | hunion m ms ih =>
    intro h
    rw [noNoneNT_union, List.all_eq_true] at h
    rw [erase_union]
    refine Same.union_map _ fun x hx => ?_
    have hx' := h x hx
    rw [Bool.and_eq_true, Bool.not_eq_true'] at hx'
    exact ⟨ih x hx hx'.2, isNone_erase_of x hx'.1⟩
  | hcoll k args ih =>
    intro h
    rw [noNoneNT_coll, List.all_eq_true] at h
    rw [erase_coll]
    exact Same.coll_map _ fun x hx => ih x hx (h x hx)
  | _ => exact fun _ => Same.refl _

/-- removing the NewType wrappers at every depth keeps the verdict as soon as no union member is a NewType
of None -/
theorem classify_erase_weak (t : Ty) (h : noNoneNT t = true) : classify (erase t) = classify t :=
  (erase_same t h).classify_eq

/-- the weak hypothesis cannot be dropped: `Union[N, NT]` with `NT = NewType("NT", None)` is rejected,
`Union[N, None]` is a child -/
theorem classify_erase_needs_noNoneNT :
    noNoneNT (.union (.node 0) [.newtype .none]) = false ∧
    classify (.union (.node 0) [.newtype .none]) = .reject ∧
    classify (erase (.union (.node 0) [.newtype .none])) = .child := by decide

theorem ntBaseOk_union (m : Ty) (ms : List Ty) : ntBaseOk (.union m ms) = (m :: ms).all ntBaseOk := by
  have : ∀ l, ntBaseOkL l = l.all ntBaseOk := fun l => by
    induction l with
    | nil => rfl
    | cons t r ih => rw [List.all_cons, ← ih]; rfl
  rw [List.all_cons, ← this]; rfl

theorem ntBaseOk_coll (k : CollKind) (args : List Ty) : ntBaseOk (.coll k args) = args.all ntBaseOk := by
  show ntBaseOkL args = _
  induction args with
  | nil => rfl
  | cons t r ih => rw [List.all_cons, ← ih]; rfl

theorem ntBaseOk_isNoneNT (t : Ty) (h : ntBaseOk t = true) : isNoneNT t = false := by
  cases t with
  | newtype u =>
    simp only [ntBaseOk, Bool.and_eq_true] at h
    simp only [isNoneNT]
    cases hu : u.unwrap <;> simp_all [isNone]
  | _ => rfl

/-- `noNoneNT` is implied by `ntBaseOk` … -/
theorem ntBaseOk_noNoneNT : ∀ t, ntBaseOk t = true → noNoneNT t = true := by
  intro t
  induction t using Ty.induct with
  | hnt t ih => exact fun h => ih (Bool.and_eq_true_iff.1 h).1
  | hvt t ih => exact ih
  | hunion m ms ih =>
    intro h
    rw [ntBaseOk_union, List.all_eq_true] at h
    rw [noNoneNT_union, List.all_eq_true]
    intro x hx
    rw [Bool.and_eq_true, Bool.not_eq_true']
    exact ⟨ntBaseOk_isNoneNT x (h x hx), ih x hx (h x hx)⟩
  | hcoll k args ih =>
    intro h
    rw [ntBaseOk_coll, List.all_eq_true] at h
    rw [noNoneNT_coll, List.all_eq_true]
    exact fun x hx => ih x hx (h x hx)
  | _ => exact fun _ => rfl

/-- … and is strictly weaker: `Optional[NT]` with `NT = NewType("NT", Union[N0, N1])`, and a NewType of None
outside a union -/
theorem noNoneNT_strictly_weaker :
    (∃ t, noNoneNT t = true ∧ ntBaseOk t = false) ∧
    noNoneNT (.union (.newtype (.union (.node 0) [.node 1])) [.none]) = true ∧
    noNoneNT (.vtuple (.newtype .none)) = true ∧ ntBaseOk (.vtuple (.newtype .none)) = false :=
  have h : noNoneNT (.union (.newtype (.union (.node 0) [.node 1])) [.none]) = true ∧
      noNoneNT (.vtuple (.newtype .none)) = true ∧ ntBaseOk (.vtuple (.newtype .none)) = false := by decide
  ⟨⟨_, h.2⟩, h⟩

/-- the verdict does not change when NewType wrappers are removed at every depth (for NewTypes
whose base is, as PEP 484 requires, not a Union and not None) -/
theorem classify_erase (t : Ty) (h : ntBaseOk t = true) : classify (erase t) = classify t :=
  classify_erase_weak t (ntBaseOk_noNoneNT t h)

theorem classify_erase_from_weak (t : Ty) (h : ntBaseOk t = true) : classify (erase t) = classify t :=
  classify_erase t h

/-- so the side condition of `classify_erase` cannot be dropped either -/
theorem classify_erase_needs_base :
    ∃ t, classify (erase t) ≠ classify t :=
  ⟨_, by rw [classify_erase_needs_noNoneNT.2.2, classify_erase_needs_noNoneNT.2.1]; nofun⟩

/-- Python's own erasure flattens nested unions: for it the Union-base condition of `ntBaseOk` is needed -/
theorem union_base_python_erasure :
    classify (.union (.newtype (.union (.node 0) [.node 1])) [.none]) = .reject ∧        -- Optional[NT]
    classify (erase (.union (.newtype (.union (.node 0) [.node 1])) [.none])) = .reject ∧ -- Union[Union[..], None]
    classify (.union (.node 0) [.node 1, .none]) = .child := by decide                     -- Union[N0, N1, None]

-- a deep term with NewTypes over a Union base: `noNoneNT` holds, `ntBaseOk` does not
example : noNoneNT (.coll .tuple [.newtype (.newtype (.union (.node 0) [.fwd 1])), .newtype (.node 2)]) = true ∧
    classify (.coll .tuple [.newtype (.newtype (.union (.node 0) [.fwd 1])), .newtype (.node 2)]) = .child ∧
    ntBaseOk (.coll .tuple [.newtype (.newtype (.union (.node 0) [.fwd 1])), .newtype (.node 2)]) = false := by
  decide
example : classify (.coll .mapping [.atom .str, .newtype (.vtuple (.newtype (.atom .int)))]) ≠ .reject := by decide

end C11
end PyOak
