/-
`replace_with(None)` on a receiver that has a parent: `_replace_child(old, field, index, None)` removes the
child from the parent's field, shifts the indexes of the later siblings down, and walks the content ids up.
Afterwards the invariant holds except, possibly, for the parent's content id (`removed_invX`), which the
`_reset_content_id` walk puts right (`replaceChild_none_inv`).
-/
import PyOak.Props.LegacyReplace
import PyOak.Props.LegacyCycle
namespace PyOak.Legacy
open LState

/-! ### positions in a sequence field -/

/-- the value of the field after the removal -/
def removedKids (kids : List Nat) (idx : Option Nat) : List Nat :=
  match idx with
  | some i => kids.take i ++ kids.drop (i + 1)
  | none => []

/-- the siblings whose index is shifted -/
def shifted (kids : List Nat) (idx : Option Nat) : List Nat :=
  match idx with
  | some i => kids.drop (i + 1)
  | none => []

section
variable (Hc : Str → Str)

/-! ### `shiftDown` -/

theorem shiftDown_lookup (p : Nat) (f : Str) : ∀ (l : List Nat) (s : LState) (k : Str),
    (shiftDown p f s l).lookup k = s.lookup k := by
  intro l; induction l with
  | nil => intro s k; rfl
  | cons c r ih => intro s k; simp only [shiftDown]; rw [ih]; rfl

theorem shiftDown_size (p : Nat) (f : Str) : ∀ (l : List Nat) (s : LState), (shiftDown p f s l).size = s.size := by
  intro l; induction l with
  | nil => intro s; rfl
  | cons c r ih => intro s; simp only [shiftDown]; rw [ih]; rfl

/-- the index shift touches parent slots only -/
theorem shiftDown_proj {α : Type} (g : LObj → α)
    (hslot : ∀ (o : LObj) a b c, g { o with pid := a, pfield := b, pindex := c } = g o) (p : Nat) (f : Str) :
    ∀ (l : List Nat) (s : LState) (x : Nat), g ((shiftDown p f s l).obj x) = g (s.obj x) := by
  intro l; induction l with
  | nil => intro s x; rfl
  | cons c r ih =>
    intro s x
    simp only [shiftDown]
    rw [ih]
    unfold LState.setParent
    refine modify_proj g s c _ ?_ x
    exact hslot _ _ _ _

theorem shiftDown_idOf (p : Nat) (f : Str) : ∀ (l : List Nat) (s : LState) (x : Nat),
    (shiftDown p f s l).idOf x = s.idOf x :=
  shiftDown_proj (·.id) (fun _ _ _ _ => rfl) p f

theorem shiftDown_not_mem (p : Nat) (f : Str) : ∀ (l : List Nat) (s : LState) (x : Nat), x ∉ l →
    (shiftDown p f s l).obj x = s.obj x := by
  intro l; induction l with
  | nil => intro s x _; rfl
  | cons c r ih =>
    intro s x hx
    simp only [List.mem_cons, not_or] at hx
    simp only [shiftDown]
    rw [ih _ x hx.2, setParent_obj]; simp [hx.1]

theorem shiftDown_mem (p : Nat) (f : Str) : ∀ (l : List Nat) (s : LState), l.Nodup → ∀ x ∈ l,
    (shiftDown p f s l).obj x =
      { s.obj x with pid := some (s.idOf p), pfield := some f, pindex := (s.obj x).pindex.map (· - 1) } := by
  intro l; induction l with
  | nil => intro s _ x hx; cases hx
  | cons c r ih =>
    intro s hnd x hx
    simp only [List.nodup_cons] at hnd
    simp only [shiftDown]
    rcases List.mem_cons.mp hx with rfl | hx
    · rw [shiftDown_not_mem p f r _ x hnd.1, setParent_obj]; simp
    · have hne : x ≠ c := fun h => hnd.1 (h ▸ hx)
      rw [ih _ hnd.2 x hx, setParent_idOf, setParent_obj]; simp [hne]

theorem nodup_of_index_inj {l : List Nat} (g : Nat → Nat) (h : ∀ m x, l[m]? = some x → g x = m) : l.Nodup := by
  rw [List.nodup_iff_pairwise_ne, List.pairwise_iff_getElem]
  intro i j hi hj hij heq
  have h1 := h i l[i] (List.getElem?_eq_getElem hi)
  have h2 := h j l[j] (List.getElem?_eq_getElem hj)
  rw [heq] at h1; omega

/-! ### the state after the removal -/

/-- the field assignment and the index shift of `_replace_child(old, field, index, None)` -/
def removed (s : LState) (p : Nat) (f : Str) (idx : Option Nat) : LState :=
  shiftDown p f (setField s p f (removedKids (fieldKids s p f) idx)) (shifted (fieldKids s p f) idx)

theorem replaceChild_none (fuel : Nat) (s : LState) (p u : Nat) (f : Str) (idx : Option Nat) :
    replaceChild Hc fuel s p u f idx none = (removed s p f idx).resetContentId Hc fuel p := by
  unfold replaceChild removed removedKids shifted
  cases idx <;> simp [shiftDown]

/-! ### the child positions of the parent after the removal -/

/-- one field: the entries after the removed one move down by one index -/
theorem pos_removed (fl : LField) (idx : Option Nat) (u : Nat) (he : (u, fl.name, idx) ∈ fl.pos)
    (e' : Nat × Str × Option Nat) :
    e' ∈ ({ fl with kids := removedKids fl.kids idx } : LField).pos ↔
      ∃ i m x, idx = some i ∧ e' = (x, fl.name, some m) ∧
        (x, fl.name, some (if m < i then m else m + 1)) ∈ fl.pos := by
  unfold LField.pos at he ⊢
  by_cases hs : fl.kind.isSeq = true
  · simp only [hs, if_true] at he ⊢
    obtain ⟨i, h1, _, _⟩ := posFrom_idx_ge fl.name fl.kids 0 _ he
    simp only at h1; subst h1
    simp only [removedKids, ← List.eraseIdx_eq_take_drop_succ]
    rw [posFrom_mem_iff]
    constructor
    · rintro ⟨m, x, hx, rfl⟩
      refine ⟨i, m, x, rfl, by simp, ?_⟩
      rw [posFrom_mem_zero]
      rw [List.getElem?_eraseIdx] at hx
      split <;> simp_all
    · rintro ⟨i', m, x, hi, rfl, hm⟩
      cases hi
      refine ⟨m, x, ?_, by simp⟩
      rw [posFrom_mem_zero] at hm
      rw [List.getElem?_eraseIdx]
      split <;> simp_all
  · simp only [hs, Bool.false_eq_true, if_false] at he ⊢
    obtain ⟨c, _, hce⟩ := List.mem_map.mp he
    simp only [Prod.mk.injEq] at hce
    have : idx = none := hce.2.2.symm
    subst this
    simp [removedKids]

/-- the child positions of the parent after the removal -/
theorem kidsPos_removed (o : LObj) (ho : o.wf) (u : Nat) (f : Str) (idx : Option Nat)
    (he : (u, f, idx) ∈ o.kidsPos) (ks : List Nat)
    (hks : ∀ fl ∈ o.fields, fl.name = f → ks = removedKids fl.kids idx) (e' : Nat × Str × Option Nat) :
    e' ∈ ({ o with fields := o.fields.map fun fl => if fl.name = f then { fl with kids := ks } else fl } : LObj).kidsPos ↔
      (e' ∈ o.kidsPos ∧ e'.2.1 ≠ f) ∨
      ∃ i m x, idx = some i ∧ e' = (x, f, some m) ∧ (x, f, some (if m < i then m else m + 1)) ∈ o.kidsPos := by
  unfold LObj.kidsPos at he ⊢
  obtain ⟨fl0, hfl0, he0⟩ := List.mem_flatMap.mp he
  have hn0 : fl0.name = f := (pos_field_name fl0 _ he0).symm
  have uniq : ∀ fl ∈ o.fields, fl.name = f → fl = fl0 := fun fl hfl hname =>
    eq_of_nodup_map (·.name) o.fields ho.1 fl hfl fl0 hfl0 (hname.trans hn0.symm)
  have hpr := pos_removed fl0 idx u (by rw [hn0]; exact he0)
  rw [hn0] at hpr
  simp only [List.mem_flatMap, List.mem_map]
  constructor
  · rintro ⟨fl', ⟨fl, hfl, rfl⟩, hm⟩
    by_cases hname : fl.name = f
    · have := uniq fl hfl hname; subst this
      simp only [hname, if_true] at hm
      rw [hks fl hfl hname] at hm
      obtain ⟨i, m, x, h1, h2, h3⟩ := (hpr e').mp hm
      exact .inr ⟨i, m, x, h1, h2, fl, hfl, h3⟩
    · simp only [hname, if_false] at hm
      exact .inl ⟨⟨fl, hfl, hm⟩, by rw [pos_field_name fl e' hm]; exact hname⟩
  · rintro (⟨⟨fl, hfl, hm⟩, hne⟩ | ⟨i, m, x, h1, h2, fl, hfl, h3⟩)
    · have hname : fl.name ≠ f := by rw [← pos_field_name fl e' hm]; exact hne
      exact ⟨_, ⟨fl, hfl, rfl⟩, by simp only [hname, if_false]; exact hm⟩
    · have hname : fl.name = f := (pos_field_name fl _ h3).symm
      have := uniq fl hfl hname; subst this
      refine ⟨_, ⟨fl, hfl, rfl⟩, ?_⟩
      simp only [hname, if_true]
      rw [hks fl hfl hname]
      exact (hpr e').mpr ⟨i, m, x, h1, h2, h3⟩

/-! ### closing the hole by removal -/

/-- after the removal (field assignment + index shift) the invariant holds except, possibly, for the
content id of the parent -/
theorem removed_invX {s : LState} {p u : Nat} {f : Str} {idx : Option Nat}
    (hI : InvX Hc (Hole p (u, f, idx)) NoY s) (hp : Att s p) (he : (u, f, idx) ∈ (s.obj p).kidsPos)
    (hudet : ¬ Att s u) : InvX Hc NoX (fun x => x = p) (removed s p f idx) := by
  -- Plan: the entries of the field `f` of `p` are the hole, the entries before it, and the entries after it,
  -- whose children are exactly the shifted siblings; `newkid` / `oldkid` match them with the entries after
  -- the removal, and `InvX.close_hole` does the rest.
  obtain ⟨fl0, hfl0, he0⟩ := List.mem_flatMap.mp (show (u, f, idx) ∈ (s.obj p).fields.flatMap LField.pos from he)
  have hn0 : fl0.name = f := (pos_field_name fl0 _ he0).symm
  have hkids : fieldKids s p f = fl0.kids := fieldKids_eq (hI.wf p) hfl0 hn0
  have hwf0 : fl0.wf := (hI.wf p).2 fl0 hfl0
  have in_fl0 : ∀ x j, (x, f, j) ∈ (s.obj p).kidsPos → (x, f, j) ∈ fl0.pos := by
    intro x j hm
    obtain ⟨fl, hfl, hm'⟩ := List.mem_flatMap.mp (show (x, f, j) ∈ (s.obj p).fields.flatMap LField.pos from hm)
    have hname : fl.name = f := (pos_field_name fl _ hm').symm
    have := eq_of_nodup_map (·.name) _ (hI.wf p).1 fl hfl fl0 hfl0 (hname.trans hn0.symm)
    rw [← this]; exact hm'
  have of_fl0 : ∀ e', e' ∈ fl0.pos → e' ∈ (s.obj p).kidsPos := fun e' h =>
    List.mem_flatMap.mpr ⟨fl0, hfl0, h⟩
  -- every entry of the field is the hole or a sequence entry with another index
  have hp0 := ((fl0.mem_pos_iff u f idx).mp he0).2
  have hfield : ∀ x j, (x, f, j) ∈ (s.obj p).kidsPos →
      (x = u ∧ j = idx) ∨ ∃ i m, idx = some i ∧ j = some m ∧ m ≠ i ∧ fl0.kids[m]? = some x ∧
        fl0.kind.isSeq = true := by
    intro x j hm
    rcases hp0 with ⟨hs, i, hi, hui⟩ | ⟨hs, hi, hu⟩ <;>
      rcases ((fl0.mem_pos_iff x f j).mp (in_fl0 x j hm)).2 with ⟨hs', m, hj, hxm⟩ | ⟨hs', hj, hx⟩
    · by_cases hmi : m = i
      · rw [hmi, hui] at hxm
        exact .inl ⟨(Option.some.inj hxm).symm, by rw [hj, hi, hmi]⟩
      · exact .inr ⟨i, m, hi, hj, hmi, hxm, hs⟩
    · rw [hs] at hs'; cases hs'
    · rw [hs] at hs'; cases hs'
    · -- a single field holds at most one child
      refine .inl ⟨?_, by rw [hj, hi]⟩
      have hlen : fl0.kids.length ≤ 1 := hwf0.resolve_left (by rw [hs]; exact fun h => nomatch h)
      match hkk : fl0.kids, hu, hx, hlen with
      | [y], hu, hx, _ => simp at hu hx; rw [hu, hx]
      | _ :: _ :: _, _, _, hl => simp at hl
  -- entries of p other than the hole are consistent
  have old_entry : ∀ e', e' ∈ (s.obj p).kidsPos → e' ≠ (u, f, idx) → KidOk s p e' :=
    fun e' he' hne => hI.down p hp e' he' (fun hx => hne hx.2)
  have hshdef : ∀ x, x ∈ shifted (fieldKids s p f) idx ↔
      ∃ i m, idx = some i ∧ i < m ∧ fl0.kids[m]? = some x := by
    intro x
    rw [hkids]
    cases idx with
    | none => simp [shifted]
    | some i =>
      simp only [shifted, List.mem_iff_getElem?, List.getElem?_drop]
      constructor
      · rintro ⟨m', hm'⟩; exact ⟨i, i + 1 + m', rfl, by omega, hm'⟩
      · rintro ⟨i', m, hi, hlt, hm⟩
        cases hi
        exact ⟨m - (i + 1), by rw [show i + 1 + (m - (i + 1)) = m by omega]; exact hm⟩
  have hseq_of_some : ∀ i, idx = some i → fl0.kind.isSeq = true := by
    intro i hi
    rcases hp0 with ⟨hs, _⟩ | ⟨_, hn, _⟩
    · exact hs
    · rw [hi] at hn; cases hn
  have kid_entry : ∀ i m x, idx = some i → fl0.kids[m]? = some x → (x, f, some m) ∈ (s.obj p).kidsPos :=
    fun i m x hi hm =>
      of_fl0 _ ((fl0.mem_pos_iff x f (some m)).mpr ⟨hn0.symm, .inl ⟨hseq_of_some i hi, m, rfl, hm⟩⟩)
  have hshOk : ∀ x ∈ shifted (fieldKids s p f) idx, ∃ i m, idx = some i ∧ i < m ∧ Att s x ∧
      (s.obj x).pid = some (s.idOf p) ∧ (s.obj x).pfield = some f ∧ (s.obj x).pindex = some m := by
    intro x hx
    obtain ⟨i, m, hi, hlt, hm⟩ := (hshdef x).mp hx
    obtain ⟨a, b, c, d⟩ := old_entry _ (kid_entry i m x hi hm) (by
      intro h; simp only [Prod.mk.injEq] at h; rw [hi] at h; have := h.2.2; simp at this; omega)
    exact ⟨i, m, hi, hlt, a, b, c, d⟩
  have hshnd : (shifted (fieldKids s p f) idx).Nodup := by
    rw [hkids]
    cases hidx : idx with
    | none => simp [shifted]
    | some i =>
      simp only [shifted]
      apply nodup_of_index_inj (fun x => (s.obj x).pindex.getD 0 - (i + 1))
      intro m x hm
      rw [List.getElem?_drop] at hm
      obtain ⟨_, _, _, d⟩ := old_entry _ (kid_entry i _ x hidx hm) (by
        intro h; simp only [Prod.mk.injEq] at h; rw [hidx] at h; have := h.2.2; simp at this; omega)
      simp only at d
      simp only [d, Option.getD_some]; omega
  have hpnsh : p ∉ shifted (fieldKids s p f) idx := by
    intro hm
    obtain ⟨_, _, _, _, _, b, _, _⟩ := hshOk p hm
    exact hI.noSelf p ((parent_of_pid b).trans hp)
  have hidp' : (setField s p f (removedKids (fieldKids s p f) idx)).idOf p = s.idOf p := by
    unfold LState.idOf; rw [setField_obj, if_pos rfl]
  have hobj_sh : ∀ x ∈ shifted (fieldKids s p f) idx, (removed s p f idx).obj x =
      { s.obj x with pid := some (s.idOf p), pfield := some f, pindex := (s.obj x).pindex.map (· - 1) } := by
    intro x hx
    have hxp : x ≠ p := fun e => hpnsh (e ▸ hx)
    unfold removed
    rw [shiftDown_mem p f _ _ hshnd x hx, hidp', setField_obj, if_neg hxp]
  have hsl_n : ∀ x, x ∉ shifted (fieldKids s p f) idx →
      slots ((removed s p f idx).obj x) = slots (s.obj x) := by
    intro x hx
    unfold removed
    rw [shiftDown_not_mem p f _ _ x hx, setField_obj]
    by_cases hxp : x = p
    · rw [if_pos hxp, hxp]; rfl
    · rw [if_neg hxp]
  have hsl_s : ∀ x ∈ shifted (fieldKids s p f) idx, ∀ m, (s.obj x).pindex = some m →
      slots ((removed s p f idx).obj x) = (some (s.idOf p), some f, some (m - 1)) := by
    intro x hx m hm
    rw [hobj_sh x hx]
    show (some (s.idOf p), some f, (s.obj x).pindex.map (· - 1)) = _
    rw [hm]; rfl
  have hproj : ∀ {α : Type} (g : LObj → α),
      (∀ (o : LObj) a b c, g { o with pid := a, pfield := b, pindex := c } = g o) →
      ∀ x, g ((removed s p f idx).obj x) = g ((setField s p f (removedKids (fieldKids s p f) idx)).obj x) :=
    fun g hg x => shiftDown_proj g hg p f _ _ x
  have hflp : ((removed s p f idx).obj p).fields = (s.obj p).fields.map fun fl =>
      if fl.name = f then { fl with kids := removedKids (fieldKids s p f) idx } else fl := by
    rw [hproj (·.fields) (fun _ _ _ _ => rfl) p, setField_obj, if_pos rfl]
  have hkpp : ∀ e', e' ∈ ((removed s p f idx).obj p).kidsPos ↔
      (e' ∈ (s.obj p).kidsPos ∧ e'.2.1 ≠ f) ∨
      ∃ i m x, idx = some i ∧ e' = (x, f, some m) ∧ (x, f, some (if m < i then m else m + 1)) ∈ (s.obj p).kidsPos := by
    intro e'
    have := kidsPos_removed (s.obj p) (hI.wf p) u f idx he (removedKids (fieldKids s p f) idx)
      (fun fl hfl hname => by rw [fieldKids_eq (hI.wf p) hfl hname]) e'
    unfold LObj.kidsPos at this ⊢
    rw [hflp]; exact this
  have ne_hole : ∀ (x : Nat) (i m : Nat), idx = some i → m ≠ i → (x, f, some m) ≠ (u, f, idx) := by
    intro x i m hi hne h
    rw [hi] at h
    exact hne (Option.some.inj (congrArg (fun t => t.2.2) h))
  -- every child position of p after the removal comes from one that was not the hole; the child carries
  -- the new position
  have newkid : ∀ e' ∈ ((removed s p f idx).obj p).kidsPos, ∃ e0 ∈ (s.obj p).kidsPos, e0 ≠ (u, f, idx) ∧
      e0.1 = e'.1 ∧ slots ((removed s p f idx).obj e'.1) = (some (s.idOf p), some e'.2.1, e'.2.2) := by
    intro e' he'
    rcases (hkpp e').mp he' with ⟨hold, hne⟩ | ⟨i, m, x, hi, rfl, hold⟩
    · have hnh : e' ≠ (u, f, idx) := fun h => hne (by rw [h])
      have hk := old_entry e' hold hnh
      have hns : e'.1 ∉ shifted (fieldKids s p f) idx := by
        intro hm
        obtain ⟨_, _, _, _, _, _, c', _⟩ := hshOk _ hm
        rw [hk.2.2.1] at c'; exact hne (Option.some.inj c')
      exact ⟨e', hold, hnh, rfl, by rw [hsl_n _ hns]; exact hk.slots_eq⟩
    · by_cases hmi : m < i
      · rw [if_pos hmi] at hold
        have hnh := ne_hole x i m hi (Nat.ne_of_lt hmi)
        have hk := old_entry _ hold hnh
        have hns : x ∉ shifted (fieldKids s p f) idx := by
          intro hm
          obtain ⟨i', m', hi', hlt, _, _, _, d'⟩ := hshOk _ hm
          rw [hi] at hi'; cases hi'
          have d := hk.2.2.2
          rw [d'] at d; cases d; exact absurd hmi (Nat.lt_asymm hlt)
        exact ⟨_, hold, hnh, rfl, by rw [hsl_n _ hns]; exact hk.slots_eq⟩
      · rw [if_neg hmi] at hold
        have hnh := ne_hole x i (m + 1) hi (fun h => hmi (by omega))
        have hk := old_entry _ hold hnh
        have hxs : x ∈ shifted (fieldKids s p f) idx := by
          rcases hfield x _ hold with ⟨rfl, _⟩ | ⟨i', m', hi', hm', _, hkk, _⟩
          · exact absurd hk.1 hudet
          · rw [hi] at hi'; cases hi'; cases hm'
            exact (hshdef x).mpr ⟨i, m + 1, hi, by omega, hkk⟩
        exact ⟨_, hold, hnh, rfl, hsl_s x hxs (m + 1) hk.2.2.2⟩
  -- every former child of p other than the hole is still one
  have oldkid : ∀ e0 ∈ (s.obj p).kidsPos, e0 ≠ (u, f, idx) →
      ∃ e' ∈ ((removed s p f idx).obj p).kidsPos, e'.1 = e0.1 := by
    intro e0 he0 hne0
    by_cases hff : e0.2.1 = f
    · have he0' : (e0.1, f, e0.2.2) ∈ (s.obj p).kidsPos := by rw [← hff]; exact he0
      rcases hfield e0.1 e0.2.2 he0' with ⟨h1, h2⟩ | ⟨i, m, hi, hj, hne, hk, _⟩
      · exact absurd (Prod.ext h1 (Prod.ext hff h2)) hne0
      · rw [hj] at he0'
        by_cases hlt : m < i
        · exact ⟨(e0.1, f, some m), (hkpp _).mpr (.inr ⟨i, m, e0.1, hi, rfl, by rw [if_pos hlt]; exact he0'⟩), rfl⟩
        · refine ⟨(e0.1, f, some (m - 1)), (hkpp _).mpr (.inr ⟨i, m - 1, e0.1, hi, rfl, ?_⟩), rfl⟩
          rw [if_neg (by omega), show m - 1 + 1 = m by omega]; exact he0'
    · exact ⟨e0, (hkpp e0).mpr (.inl ⟨he0, hff⟩), rfl⟩
  refine InvX.close_hole Hc hI hp hudet (by unfold removed; rw [shiftDown_size]; rfl)
    (fun k => by unfold removed; rw [shiftDown_lookup]; rfl) ?_ ?_ ?_ ?_ ?_ oldkid ?_
  · intro x
    have hs : ∀ {α : Type} (g : LObj → α), (∀ (o : LObj) fs, g { o with fields := fs } = g o) →
        g ((setField s p f (removedKids (fieldKids s p f) idx)).obj x) = g (s.obj x) :=
      fun g hg => modify_proj g s p _ (hg _ _) x
    exact ⟨(hproj (·.id) (fun _ _ _ _ => rfl) x).trans (hs (·.id) (fun _ _ => rfl)),
      (hproj (·.cid) (fun _ _ _ _ => rfl) x).trans (hs (·.cid) (fun _ _ => rfl)),
      (hproj (·.cls) (fun _ _ _ _ => rfl) x).trans (hs (·.cls) (fun _ _ => rfl)),
      (hproj (·.props) (fun _ _ _ _ => rfl) x).trans (hs (·.props) (fun _ _ => rfl))⟩
  · intro x hx
    rw [hproj (·.fields) (fun _ _ _ _ => rfl) x, setField_obj, if_neg hx]
  · unfold LObj.wf
    rw [hflp]
    refine wf_setKids (hI.wf p) f _ (fun fl hfl hname => ?_)
    rcases (hI.wf p).2 fl hfl with hs | hs
    · exact .inl hs
    · right
      rw [fieldKids_eq (hI.wf p) hfl hname]
      cases idx with
      | none => exact Nat.zero_le 1
      | some i =>
        simp only [removedKids, List.length_append, List.length_take, List.length_drop]
        omega
  · intro e' he'
    obtain ⟨e0, he0, hne0, h1, hs⟩ := newkid e' he'
    have hk := old_entry e0 he0 hne0
    exact ⟨h1 ▸ hk.1, fun h => hI.noSelf p (by have := hk.parent hp; rwa [h1, h] at this), hs⟩
  · intro e' he'
    obtain ⟨e0, he0, _, h1, _⟩ := newkid e' he'
    exact .inl (h1 ▸ mem_kidList_of_pos he0)
  · intro x hx
    refine hsl_n x (fun hxs => ?_)
    obtain ⟨i, m, hi, hlt, hk⟩ := (hshdef x).mp hxs
    obtain ⟨e', he', he'1⟩ := oldkid _ (kid_entry i m x hi hk) (ne_hole x i m hi (Nat.ne_of_gt hlt))
    exact hx e' he' he'1

/-- **`_replace_child(old, field, index, None)`** closes the hole by removing the child and, walking up,
repairs the content ids -/
theorem replaceChild_none_inv {s s' : LState} {p u fuel : Nat} {f : Str} {idx : Option Nat}
    (hI : InvX Hc (Hole p (u, f, idx)) NoY s) (hp : Att s p) (he : (u, f, idx) ∈ (s.obj p).kidsPos)
    (hudet : ¬ Att s u) (h : replaceChild Hc fuel s p u f idx none = (s', true)) : Inv Hc s' := by
  rw [replaceChild_none] at h
  exact resetContentId_inv Hc fuel _ p s' (removed_invX Hc hI hp he hudet) h

/-! ### `replace_with(None)` on a receiver that has a parent -/

theorem replaceWith_inv_parent_none {s s' : LState} {u p fuel : Nat} (hI : Inv Hc s)
    (hpar : s.parent u = some p) (h : replaceWith Hc fuel s u none = (s', .ok ())) : Inv Hc s' := by
  obtain ⟨f, hf, _⟩ := hI.up u (hI.of_parent hpar).1 p hpar
  unfold replaceWith at h
  simp only [Bool.false_eq_true, if_false, hpar, hf] at h
  split at h
  · simp at h
  · split at h
    · simp at h
    · cases hds : detachGo (fuel + 1) false (s.clearParent u) u with
      | mk s2 res =>
        rw [hds] at h
        cases res with
        | none => simp at h
        | some b =>
          simp only at h
          obtain ⟨f', hO⟩ := rwith_open Hc hI hpar hds
          have hff : f' = f := by have := hO.hf; rw [hf] at this; exact (Option.some.inj this).symm
          subst hff
          cases hrc : replaceChild Hc fuel s2 p u f' (s.obj u).pindex none with
          | mk s3 fin =>
            rw [hrc] at h
            cases fin with
            | false => simp at h
            | true =>
              simp only [if_true, Prod.mk.injEq, and_true] at h
              subst h
              exact replaceChild_none_inv Hc hO.inv2 hO.pa2 hO.mem2 hO.nu2 hrc

end

end PyOak.Legacy
