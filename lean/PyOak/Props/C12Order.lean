/- C12: Python's `str` order (`strLt`) is a strict total order; `sorted(…, key=name)` (`sortByName`) returns
   a permutation that is non-decreasing by key, and such an arrangement is unique when the keys are pairwise
   distinct.  The order laws and the insertion-sort facts are those of `Lemmas/Framing.lean`, under the names
   the C12 check audits (`strLt_negtrans` with the arguments in the order of `keyLe`). -/
import PyOak.Spec.Accessors
import PyOak.Lemmas.Framing
namespace PyOak
namespace Acc
namespace C12

theorem strLt_irrefl (a : Str) : strLt a a = false := Framing.strLt_irrefl a

theorem strLt_asymm (a b : Str) (h : strLt a b = true) : strLt b a = false := Framing.strLt_asymm a b h

theorem strLt_total (a b : Str) (h₁ : strLt a b = false) (h₂ : strLt b a = false) : a = b :=
  Framing.strLt_total a b h₁ h₂

/-- `≤` is transitive -/
theorem strLt_negtrans (a b c : Str) (h₁ : strLt b a = false) (h₂ : strLt c b = false) : strLt c a = false :=
  Framing.strLt_negtrans c b a h₂ h₁

section SortSec
variable {α : Type} (key : α → Str)

/-- `keyLe FDecl.name` unfolds to `nameLe` of Spec/Accessors.lean -/
def keyLe (a b : α) : Prop := strLt (key b) (key a) = false

theorem sortByName_perm (l : List α) : (sortByName key l).Perm l := Framing.sortBy_perm _ l

theorem sortByName_pairwise (l : List α) : (sortByName key l).Pairwise (keyLe key) :=
  Framing.sortBy_pairwise (fun a b => strLt (key a) (key b)) (fun _ _ => Framing.strLt_asymm _ _)
    (fun _ _ _ => Framing.strLt_negtrans _ _ _) l

/-- a list with pairwise distinct keys has exactly one arrangement in key order -/
theorem keyOrder_unique (l₁ l₂ : List α) (hp : l₁.Perm l₂) (h₁ : l₁.Pairwise (keyLe key))
    (h₂ : l₂.Pairwise (keyLe key)) (hn : (l₁.map key).Nodup) : l₁ = l₂ :=
  hp.eq_of_pairwise (fun a b ha hb hab hba =>
    Framing.eq_of_nodup_map key l₁ hn a ha b (hp.mem_iff.mpr hb) (strLt_total _ _ hba hab)) h₁ h₂

end SortSec
end C12
end Acc
end PyOak
