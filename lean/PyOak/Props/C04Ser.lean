/-
C04 (registry half): a SERIALIZER on the registry machine (`RState.serOf`, Model/RegistrySer.lean) and

* `roundtrip_alive` — `deser (ser u)` while `u` is still registered: the very object `u` is
  answered, nothing is created, the state is unchanged.  `roundtrip_alive_step`: the same as one
  public `as_obj` operation of the machine.
* `clash_free` — `AcyclicIds t → Inv s → FreshOk s f → clashAux s t f = false`: the hypothesis
  "no forced id clashes with a key of the registry" (negation of defect F19) of every C04 theorem
  and of C03's `noClash` follows from a static property of the payload: no node carries the id of
  one of its proper ancestors.  An example below shows that the excluded payload (F19) does clash.
  Key lemma `deserAux_keys`: the ids registered by `_deserialize` are ids of the payload.

cf. AUDIT.md C04 §4.
-/
import PyOak.Props.C04
import PyOak.Model.RegistrySer
namespace PyOak
namespace C04
open RState RegL C03

theorem serOf_zero (s : RState) (u : Nat) : s.serOf 0 u = .mk (s.idOf u) (s.clsOf u) (s.mroOf u) [] := rfl

theorem serOf_succ (s : RState) (n u : Nat) :
    s.serOf (n + 1) u = .mk (s.idOf u) (s.clsOf u) (s.mroOf u) ((s.kidsOf u).map (s.serOf n)) := rfl

theorem serOf_sid (s : RState) (n u : Nat) : SerTree.sid (s.serOf n u) = s.idOf u := by
  cases n <;> rfl

/-- whoever is registered under its own id (alive or not) is answered by `deser (ser u)`; nothing is created -/
theorem roundtrip_registered {s : RState} {u : Nat} (hr : s.regGet (s.idOf u) = some u) (n : Nat) (f : Fresh) :
    s.deserAux (s.serOf n u) f = some (s, u, f) := by
  apply deser_reuse'
  rw [serOf_sid]; exact hr

/-- `deser (ser u) = u` in the state where `u` is live and not detached (hence registered under its id): the
original object is answered, nothing is created (no token is consumed), the state is unchanged.
(`hu`: `u` is an object of the heap — `isLive` alone only says "reachable from a root".) -/
theorem roundtrip_alive {s : RState} (hI : Inv s) (hL : LiveRegistered s) {u : Nat}
    (hu : u ∈ s.heap.map (·.uid)) (hl : s.isLive u = true) (hd : u ∉ s.detached) (n : Nat) (f : Fresh) :
    s.deserAux (s.serOf n u) f = some (s, u, f) := by
  obtain ⟨o, ho, rfl⟩ := List.mem_map.mp hu
  refine roundtrip_registered ?_ n f
  rw [idOf_of_mem hI.heapNodup ho]
  exact rget_of_mem hI.keysNodup (hL o ho hl hd)

/-- `roundtrip_alive` as a public operation: `v = Cls.as_obj(u.as_dict())` answers `u` itself -/
theorem roundtrip_alive_step {s : RState} (hI : Inv s) (hL : LiveRegistered s) {u : Nat}
    (hu : u ∈ s.heap.map (·.uid)) (hl : s.isLive u = true) (hd : u ∉ s.detached) (n v : Nat) :
    (s.step (.asObj v (s.serOf n u) [])).2 = .ok (some u) none ∧
    (s.step (.asObj v (s.serOf n u) [])).1 = (s.bind v u).gc := by
  simp [step, roundtrip_alive hI hL hu hl hd n [], finish]

/-- a child of a live node is live, so `roundtrip_alive` applies to it as well, if it is an object of the
heap and was not detached -/
theorem roundtrip_alive_kid {s : RState} (hI : Inv s) (hL : LiveRegistered s) {u k : Nat}
    (hl : s.isLive u = true) (hk : k ∈ s.kidsOf u) (hku : k ∈ s.heap.map (·.uid)) (hd : k ∉ s.detached)
    (n : Nat) (f : Fresh) : s.deserAux (s.serOf n k) f = some (s, k, f) :=
  roundtrip_alive hI hL hku (isLive_kid hI.heapNodup hl hk) hd n f

theorem mem_sids_mk {k sid cls : Str} {mro : List Str} {kids : List SerTree} :
    k ∈ SerTree.sids (.mk sid cls mro kids) ↔ k = sid ∨ k ∈ SerTree.sidsL kids := by
  rw [SerTree.sids]; simp

theorem mem_sidsL_cons {k : Str} {t : SerTree} {r : List SerTree} :
    k ∈ SerTree.sidsL (t :: r) ↔ k ∈ SerTree.sids t ∨ k ∈ SerTree.sidsL r := by
  rw [SerTree.sidsL]; simp

theorem sidsL_nil : SerTree.sidsL [] = [] := by rw [SerTree.sidsL]

theorem mem_sidsL {k : Str} : ∀ {ts : List SerTree}, k ∈ SerTree.sidsL ts ↔ ∃ t ∈ ts, k ∈ SerTree.sids t
  | [] => by simp [sidsL_nil]
  | t :: r => by
    rw [mem_sidsL_cons, mem_sidsL (ts := r)]
    simp

mutual
/-- every key of the registry after `_deserialize` was a key before or is an id of the payload
(the temporary fresh id of a re-created node is popped again when its id is forced) -/
theorem deserAux_keys : ∀ (t : SerTree) (s : RState) (f : Fresh) (s' : RState) (r : Nat) (fr : Fresh),
    Inv s → FreshOk s f → s.deserAux t f = some (s', r, fr) →
    ∀ k ∈ s'.reg.map (·.1), k ∈ s.reg.map (·.1) ∨ k ∈ SerTree.sids t
  | .mk sid cls mro kids, s, f, s', r, fr, hI, hf, h => by
    rcases deserAux_inv h with ⟨_, rfl, rfl⟩ | ⟨_, s1, ks, base, hk, rfl⟩
    · exact fun k hk => Or.inl hk
    · have ih := deserKids_keys kids s f s1 ks _ hI hf hk
      obtain ⟨_, hf1⟩ := evol_good (deserKids_evol kids s f s1 ks _ hk) hI hf
      have htok : r ∉ s1.heap.map (·.uid) := hf1.head
      have hid : (s1.pNew r cls mro base ks).idOf r = s1.freshId base := idOf_pNew htok _ _ _ _
      intro k hkm
      have hold : k ∈ s1.reg.map (·.1) → k ∈ s.reg.map (·.1) ∨ k ∈ SerTree.sids (.mk sid cls mro kids) := by
        intro hk1
        rcases ih k hk1 with h1 | h1
        · exact Or.inl h1
        · exact Or.inr (mem_sids_mk.mpr (Or.inr h1))
      split at hkm
      · rename_i heq
        have heq' : s1.freshId base = sid := by rw [← hid]; simpa using heq
        rw [pNew_reg] at hkm
        simp only [List.map_append, List.mem_append, List.map_cons, List.map_nil, List.mem_singleton] at hkm
        rcases hkm with hk1 | rfl
        · exact hold hk1
        · exact Or.inr (mem_sids_mk.mpr (Or.inl heq'))
      · obtain ⟨e, he, rfl⟩ := List.mem_map.mp hkm
        simp only [pForceId] at he
        rcases mem_regSet.mp he with ⟨he1, _⟩ | rfl
        · obtain ⟨he2, hne⟩ := mem_regDel.mp he1
          rw [pNew_reg] at he2
          rcases List.mem_append.mp he2 with he3 | he3
          · exact hold (List.mem_map.mpr ⟨e, he3, rfl⟩)
          · simp only [List.mem_singleton] at he3
            subst he3
            exact absurd hid.symm hne
        · exact Or.inr (mem_sids_mk.mpr (Or.inl rfl))
theorem deserKids_keys : ∀ (ts : List SerTree) (s : RState) (f : Fresh) (s' : RState) (us : List Nat) (fr : Fresh),
    Inv s → FreshOk s f → s.deserKids ts f = some (s', us, fr) →
    ∀ k ∈ s'.reg.map (·.1), k ∈ s.reg.map (·.1) ∨ k ∈ SerTree.sidsL ts
  | [], s, f, s', us, fr, _, _, h => by
    simp [deserKids_nil] at h
    obtain ⟨rfl, _, _⟩ := h
    exact fun k hk => Or.inl hk
  | t :: r, s, f, s', us, fr, hI, hf, h => by
    obtain ⟨s1, u, f1, us', ha, hk, _⟩ := deserKids_cons_inv h
    obtain ⟨hI1, hf1⟩ := evol_good (deserAux_evol t s f s1 u f1 ha) hI hf
    have ih1 := deserAux_keys t s f s1 u f1 hI hf ha
    have ih2 := deserKids_keys r s1 f1 s' us' fr hI1 hf1 hk
    intro k hkm
    rcases ih2 k hkm with h2 | h2
    · rcases ih1 k h2 with h1 | h1
      · exact Or.inl h1
      · exact Or.inr (mem_sidsL_cons.mpr (Or.inl h1))
    · exact Or.inr (mem_sidsL_cons.mpr (Or.inr h2))
end

theorem acyclicIds_mk {sid cls : Str} {mro : List Str} {kids : List SerTree} :
    SerTree.AcyclicIds (.mk sid cls mro kids) ↔ sid ∉ SerTree.sidsL kids ∧ SerTree.AcyclicIdsL kids := by
  rw [SerTree.AcyclicIds]

theorem acyclicIdsL_cons {t : SerTree} {r : List SerTree} :
    SerTree.AcyclicIdsL (t :: r) ↔ SerTree.AcyclicIds t ∧ SerTree.AcyclicIdsL r := by
  rw [SerTree.AcyclicIdsL]

theorem acyclicIdsL_iff : ∀ {ts : List SerTree}, SerTree.AcyclicIdsL ts ↔ ∀ t ∈ ts, SerTree.AcyclicIds t
  | [] => by rw [SerTree.AcyclicIdsL]; simp
  | t :: r => by rw [acyclicIdsL_cons, acyclicIdsL_iff (ts := r)]; simp

mutual
theorem acyclicIds_bool : ∀ (t : SerTree), t.acyclicIds = true ↔ t.AcyclicIds
  | .mk sid cls mro kids => by
    rw [SerTree.acyclicIds, acyclicIds_mk, Bool.and_eq_true, acyclicIdsL_bool kids]
    simp
theorem acyclicIdsL_bool : ∀ (ts : List SerTree), SerTree.acyclicIdsL ts = true ↔ SerTree.AcyclicIdsL ts
  | [] => by rw [SerTree.acyclicIdsL, SerTree.AcyclicIdsL]; simp
  | t :: r => by
    rw [SerTree.acyclicIdsL, acyclicIdsL_cons, Bool.and_eq_true, acyclicIds_bool t, acyclicIdsL_bool r]
end

instance (t : SerTree) : Decidable t.AcyclicIds := decidable_of_iff _ (acyclicIds_bool t)

mutual
/-- a payload in which no node carries the id of one of its proper ancestors never makes
`_deserialize` force an id that is a key of the registry: `clashAux` is false, whatever the
state, the digests (`f`) and the other ids are.  Shared nodes (equal ids at positions not on one
root path) are allowed. -/
theorem clash_free : ∀ (t : SerTree) (s : RState) (f : Fresh), t.AcyclicIds → Inv s → FreshOk s f →
    clashAux s t f = false
  | .mk sid cls mro kids, s, f, hA, hI, hf => by
    rw [clashAux_eq]
    obtain ⟨hA1, hA2⟩ := acyclicIds_mk.mp hA
    cases hg : s.regGet sid with
    | some u => rfl
    | none =>
      simp only [Bool.or_eq_false_iff]
      refine ⟨clashKids_free kids s f hA2 hI hf, ?_⟩
      cases hk : s.deserKids kids f with
      | none => rfl
      | some res =>
        obtain ⟨s1, ks, fr1⟩ := res
        cases fr1 with
        | nil => rfl
        | cons e fr' =>
          obtain ⟨tok, base⟩ := e
          simp only
          obtain ⟨_, hf1⟩ := evol_good (deserKids_evol kids s f s1 ks _ hk) hI hf
          have hid : (s1.pNew tok cls mro base ks).idOf tok = s1.freshId base := idOf_pNew hf1.head _ _ _ _
          by_cases heq : s1.freshId base = sid
          · simp [hid, heq]
          · have hns : sid ∉ (s1.pNew tok cls mro base ks).reg.map (·.1) := by
              rw [pNew_reg]
              simp only [List.map_append, List.mem_append, List.map_cons, List.map_nil, List.mem_singleton, not_or]
              refine ⟨?_, fun e => heq e.symm⟩
              intro hm
              rcases deserKids_keys kids s f s1 ks _ hI hf hk sid hm with h1 | h1
              · rw [regGet_def] at hg
                exact rget_none_iff.mp hg h1
              · exact hA1 h1
            have : (s1.pNew tok cls mro base ks).regGet sid = none := by
              rw [regGet_def]; exact rget_none_iff.mpr hns
            simp [this]
theorem clashKids_free : ∀ (ts : List SerTree) (s : RState) (f : Fresh), SerTree.AcyclicIdsL ts → Inv s →
    FreshOk s f → clashKids s ts f = false
  | [], s, f, _, _, _ => by rw [clashKids]
  | t :: r, s, f, hA, hI, hf => by
    obtain ⟨hA1, hA2⟩ := acyclicIdsL_cons.mp hA
    rw [clashKids_cons, Bool.or_eq_false_iff]
    refine ⟨clash_free t s f hA1 hI hf, ?_⟩
    cases ha : s.deserAux t f with
    | none => rfl
    | some res =>
      obtain ⟨s1, u, f1⟩ := res
      obtain ⟨hI1, hf1⟩ := evol_good (deserAux_evol t s f s1 u f1 ha) hI hf
      exact clashKids_free r s1 f1 hA2 hI1 hf1
end

/-- C03's `noClash` hypothesis for `as_obj`, discharged statically -/
theorem noClash_of_acyclic {s : RState} (hI : Inv s) (v : Nat) {t : SerTree} {f : Fresh} (hA : t.AcyclicIds)
    (hf : FreshOk s f) : noClash s (.asObj v t f) = true := by
  simp [noClash, clash_free t s f hA hI hf]

/-- `deser_persist`, whose conclusion holds for every payload (`hA` is not needed) -/
theorem deser_persist_acyclic {s : RState} {t : SerTree} {f : Fresh} {s' : RState} {u : Nat} {fr : Fresh}
    (hI : Inv s) (hf : FreshOk s f) (hA : t.AcyclicIds) (h : s.deserAux t f = some (s', u, fr)) :
    Persist s s' :=
  deser_persist hI hf h


section Examples
private def A : Str := "A".toList
private def x : Str := "x".toList

/-- shared child (same id twice, not on one root path): acyclic -/
example : SerTree.AcyclicIds (.mk "p".toList A [A] [.mk "c".toList A [A] [], .mk "c".toList A [A] []]) := by decide
/-- the F19 payload (child carries its parent's id) is exactly what `AcyclicIds` excludes, and it does clash -/
example : ¬ SerTree.AcyclicIds (.mk x A [A] [.mk x A [A] []]) ∧
    clashAux {} (.mk x A [A] [.mk x A [A] []]) [(1, "a".toList), (2, "b".toList)] = true := by decide
/-- digest collisions are harmless: child's fresh id = the digest "x" = the parent's serialized id -/
example : SerTree.AcyclicIds (.mk x A [A] [.mk "y".toList A [A] []]) ∧ Inv {} ∧
    FreshOk {} [(1, x), (2, "b".toList)] := ⟨by decide, inv_empty, by decide⟩

/-- `roundtrip_alive_step`: a two-level tree, serialized and read back while alive -/
private def hist : List ROp :=
  [ .construct 0 A [A] [] [(1, "l".toList)], .construct 1 A [A] [1, 1] [(2, "p".toList)] ]
example : (run {} hist).serOf 5 2 =
    .mk "p".toList A [A] [.mk "l".toList A [A] [], .mk "l".toList A [A] []] := by rfl
example : 2 ∈ (run {} hist).heap.map (·.uid) ∧ (run {} hist).isLive 2 = true ∧ 2 ∉ (run {} hist).detached ∧
    AllOkK {} hist := by decide
example : ((run {} hist).step (.asObj 7 ((run {} hist).serOf 5 2) [])).2 = .ok (some 2) none := by decide
end Examples

end C04
end PyOak

#print axioms PyOak.C04.roundtrip_alive
#print axioms PyOak.C04.roundtrip_registered
#print axioms PyOak.C04.roundtrip_alive_step
#print axioms PyOak.C04.deserAux_keys
#print axioms PyOak.C04.clash_free
#print axioms PyOak.C04.noClash_of_acyclic
#print axioms PyOak.C04.deser_persist_acyclic
