/-
C20 — the legacy xpath constructor at the CHARACTER level, and the value `calculate_xpath` finally stores.

`lparseXPath_render` / `lparseXPath_render_rel`: every written path (`C07P.Step` list), rendered to characters with
any admissible white space after the tokens — absolute, or relative (no leading slash: read as `//…`) —, is accepted
by legacy `ASTXpath(text)`, and legacy `match` on a node decides `sat` of the denoted path (`lelemOf`: class omitted
= `AwareASTNode`, `[]` = no index, all decimal digits significant, `//` = anywhere) along the node's root-first
chain; composition of `C07P.xlex_render` (lexer), `C20.lparseSteps_render` (step parser) and
`C20.legacy_written_path` (transformer walk + matcher).  `legacy_text_agrees_with_successor`: on the same text the
legacy matcher and the successor's `sat` of `C07P.elemsOf` agree up to the default class name (`AwareASTNode` vs
`ASTNode`).  `lparseXPath_unknown_class_rejected` (and `parseXPath_unknown_class_rejected` for the successor): a
written path that names a class which is not a node class is rejected by both constructors, whatever the white
space.  `calc_final`: under `NoRepeat`, whatever assignment `calculate_xpath` makes to the object with `n`'s
identity, the value stored is the spelling of `n`'s chain; `calc_eq_get_xpath`: it is what the successor's
`Tree.get_xpath` returns.  (cf. AUDIT.md, C20 §4)
-/
import PyOak.Props.C07All
import PyOak.Props.C17Legacy
namespace PyOak
namespace C20
open C07P

/-- the element a written step denotes for the LEGACY xpath (default class `AwareASTNode`) -/
def lelemOf (s : Step) : XElem := ⟨s.cls.getD awareName, s.field, s.idx.getD none, s.anywhere⟩

theorem lraw_nonEmpty (s : Step) (h : s.NonEmpty) :
    PStep.raw s.pstep = some (s.field, s.idx.getD none, s.cls.getD awareName) := by
  obtain ⟨a, f, i, c⟩ := s
  rcases f with _ | f <;> rcases i with _ | i <;> rcases c with _ | c <;>
    first | rfl | (simp [Step.NonEmpty] at h)

theorem lpathOfRaw (path : List Step) (hne : ∀ s ∈ path, s.NonEmpty) :
    pathOfRaw ((path.flatMap Step.psteps).map PStep.raw) false = path.map lelemOf := by
  induction path with
  | nil => simp [pathOfRaw]
  | cons s r ih =>
    have hs := lraw_nonEmpty s (hne s (by simp))
    have hr := ih (fun t ht => hne t (by simp [ht]))
    have he : PStep.raw emptyP = none := rfl
    simp only [List.flatMap_cons, List.map_append] at hr ⊢
    cases ha : s.anywhere
    · simp [Step.psteps, ha, hs, pathOfRaw, hr, lelemOf]
    · simp [Step.psteps, ha, he, hs, pathOfRaw, hr, lelemOf]

/-- a rendered path starts with `/`, so the legacy constructor adds no prefix and lexes it back to its tokens -/
theorem lrawSteps_render (known0 known : Str → Bool) (path : List Step) (hp : PathOK known0 path)
    (ws : Nat → Str) (hs : SepOK (renderToks path) ws) :
    lrawSteps known (renderChars (renderToks path) ws) =
      lparseSteps known ((renderToks path).length + 1) (renderToks path) := by
  obtain ⟨s0, r, rfl⟩ : ∃ s r, path = s :: r := by
    cases path with
    | nil => exact absurd rfl hp.ne
    | cons s r => exact ⟨s, r, rfl⟩
  obtain ⟨tl, htl⟩ : ∃ tl, renderChars (renderToks (s0 :: r)) ws = '/' :: tl := by
    cases h : s0.anywhere <;> simp [renderToks, Step.toks, h, renderChars, tokChars]
  have hlex := xlex_render (renderToks (s0 :: r)) ws (renderToks_tokOK known0 _ hp) hs
    ((renderChars (renderToks (s0 :: r)) ws).length + 1) (Nat.le_succ _)
  unfold lrawSteps lprefix
  rw [htl] at hlex ⊢
  simp only [hlex]

/-- **legacy, TEXT level (absolute texts).**  The characters of a written path (arbitrary admissible
white space) are accepted by the legacy constructor, and legacy `match` decides `sat` of the denoted
path along the node's chain (`chain` is root-first; the matcher consumes the node-first parent
chain `chain.reverse`). -/
theorem lparseXPath_render (known : Str → Bool) (path : List Step) (hp : PathOK known path)
    (ws : Nat → Str) (hs : SepOK (renderToks path) ws) :
    ∃ L, lparseXPath known (renderChars (renderToks path) ws) = some L ∧
      ∀ chain : Chain, lxmatch L chain.reverse = sat chain (path.map lelemOf) := by
  obtain ⟨s, hsl⟩ : ∃ s, path.getLast? = some s := by
    cases h : path.getLast? with
    | none => exact absurd (List.getLast?_eq_none_iff.mp h) hp.ne
    | some s => exact ⟨s, rfl⟩
  obtain ⟨init, hinit⟩ := getLast?_flatMap_psteps path s hsl
  obtain ⟨c, hc⟩ := Option.isSome_iff_exists.mp (hp.last s hsl)
  have hk : ∀ t ∈ init ++ [s.pstep], ∀ c, t.cls = some c → known c = true := by
    intro t ht c hc
    rw [← hinit] at ht
    simp only [List.mem_flatMap] at ht
    obtain ⟨st, hst, ht⟩ := ht
    simp only [Step.psteps, List.mem_append, List.mem_singleton] at ht
    rcases ht with ht | rfl
    · split at ht
      · simp only [List.mem_singleton] at ht; subst ht; cases hc
      · cases ht
    · exact (hp.classes st hst c hc).2
  have htoks : renderToks path = init.flatMap PStep.toks ++ s.pstep.toks := by
    rw [renderToks_eq, hinit]; simp
  have hfuel : init.length < (renderToks path).length + 1 := by
    have := psteps_length_le (path.flatMap Step.psteps)
    rw [← renderToks_eq, hinit] at this
    simp at this; omega
  refine ⟨lwalk (init.map PStep.raw ++ [s.pstep.raw]).reverse false, ?_, fun chain => ?_⟩
  · rw [lparseXPath, lrawSteps_render known known path hp ws hs, htoks,
      lparseSteps_render known init s.pstep c hc hk _ (htoks ▸ hfuel)]
    rfl
  · rw [(legacy_written_path known init s.pstep c hc hk chain).2, ← lpathOfRaw path hp.nonEmpty, hinit]
    simp

theorem lparseXPath_prefix (known : Str → Bool) (text : Str) (h : ∀ tl, text ≠ '/' :: tl) :
    lparseXPath known text = lparseXPath known ('/' :: '/' :: text) := by
  have : lprefix text = lprefix ('/' :: '/' :: text) := by
    unfold lprefix
    split
    · rename_i tl; exact absurd rfl (h tl)
    · rfl
  unfold lparseXPath lrawSteps
  rw [this]

/-- **legacy, TEXT level (relative texts)**: a text that does not start with a slash is read as the
same path with the first step `anywhere` (the constructor prepends `//`) -/
theorem lparseXPath_render_rel (known : Str → Bool) (path : List Step) (hp : PathOK known path)
    (ws : Nat → Str) (hs : SepOK (renderRelToks path) ws) :
    ∃ L, lparseXPath known (renderChars (renderRelToks path) ws) = some L ∧
      ∀ chain : Chain, lxmatch L chain.reverse = sat chain ((relPath path).map lelemOf) := by
  obtain ⟨s, r, rfl⟩ : ∃ s r, path = s :: r := by
    cases path with
    | nil => exact absurd rfl hp.ne
    | cons s r => exact ⟨s, r, rfl⟩
  rw [lparseXPath_prefix known _ (rel_not_slash known s r hp ws)]
  have htoks : renderToks (relPath (s :: r)) = .slash :: .slash :: renderRelToks (s :: r) := by
    simp [renderToks, relPath, Step.toks, renderRelToks, Step.pstep]
  have hchars : '/' :: '/' :: renderChars (renderRelToks (s :: r)) ws =
      renderChars (renderToks (relPath (s :: r))) (shiftWs ws) := by
    rw [htoks]
    simp [renderChars, tokChars, shiftWs]
  rw [hchars]
  apply lparseXPath_render known _ (pathOK_rel known s r hp)
  rw [htoks]
  exact sepOK_slash _ _ rfl (sepOK_slash _ _ rfl hs)

/-- a written step denotes the same element for the legacy and the successor xpath once it names its
class (the two differ only in the default class: `AwareASTNode` / `ASTNode`) -/
theorem lelemOf_eq_elemOf (s : Step) (h : s.cls.isSome) : lelemOf s = elemOf s := by
  obtain ⟨c, hc⟩ := Option.isSome_iff_exists.mp h
  simp only [lelemOf, elemOf, hc, Option.getD_some]

/-- **same semantics as the successor, from the same text**: when every step names its class, legacy
`ASTXpath(text).match(node)` and the successor's `ASTXpath(text).match(root, node)` decide the same
`sat` (of `elemsOf path`) along the node's chain -/
theorem legacy_text_agrees_with_successor (known : Str → Bool) (path : List Step) (hp : PathOK known path)
    (hcls : ∀ s ∈ path, s.cls.isSome)
    (ws : Nat → Str) (hs : SepOK (renderToks path) ws) :
    ∃ L elsRev, lparseXPath known (renderChars (renderToks path) ws) = some L
      ∧ parseXPath known (renderChars (renderToks path) ws) = some elsRev
      ∧ ∀ chain : Chain, lxmatch L chain.reverse = sat chain elsRev.reverse := by
  obtain ⟨L, hL, hm⟩ := lparseXPath_render known path hp ws hs
  have he : path.map lelemOf = elemsOf path :=
    List.map_congr_left fun s hsm => lelemOf_eq_elemOf s (hcls s hsm)
  refine ⟨L, _, hL, parseXPath_render known path hp ws hs, fun chain => ?_⟩
  rw [hm chain, List.reverse_reverse, he]

/-! ## rejection: a class that is not a (legacy) node class -/

theorem pathToks_x (ps : List PStep) : C17.pathToks (ps.map PStep.x) = ps.flatMap PStep.toks := by
  induction ps with
  | nil => rfl
  | cons s r ih => rw [List.map_cons, C17.pathToks_cons, ih, ← s.body_eq]; rfl

theorem lparseSteps_unknown (known : Str → Bool) (ps : List PStep) (fuel : Nat)
    (h : ∃ s ∈ ps, ∃ c, s.cls = some c ∧ known c = false) : lparseSteps known fuel (ps.flatMap PStep.toks) = none := by
  obtain ⟨s, hs, c, hc, hk⟩ := h
  rw [C17.lparseSteps_eq, ← pathToks_x]
  exact C17.stepsWith_unknown lmkRaw known _ fuel ⟨s.x, List.mem_map_of_mem hs, c, hc, hk⟩

/-- **legacy: a written path naming a class that is not a node class is rejected** (with the one definition
error), whatever the admissible white space — `PathOK (fun _ => true)` is the lexical well-formedness of the
written path (names are CNAMEs, every step writes something, the last one has a class) -/
theorem lparseXPath_unknown_class_rejected (known : Str → Bool) (path : List Step)
    (hp : PathOK (fun _ => true) path) (hbad : ∃ s ∈ path, ∃ c, s.cls = some c ∧ known c = false)
    (ws : Nat → Str) (hs : SepOK (renderToks path) ws) :
    lparseXPath known (renderChars (renderToks path) ws) = none := by
  have hbad' : ∃ p ∈ path.flatMap Step.psteps, ∃ c, p.cls = some c ∧ known c = false := by
    obtain ⟨s, hsm, c, hc, hk⟩ := hbad
    exact ⟨s.pstep, List.mem_flatMap.mpr ⟨s, hsm, by simp [Step.psteps]⟩, c, hc, hk⟩
  rw [lparseXPath, lrawSteps_render _ known path hp ws hs, renderToks_eq, lparseSteps_unknown known _ _ hbad']
  rfl

/-- the successor rejects the same texts (both constructors refuse a class that `check_and_get_ast_node_type` does
not know): they accept the same texts, `C17.legacy_accepts_iff_successor` -/
theorem parseXPath_unknown_class_rejected (known : Str → Bool) (path : List Step)
    (hp : PathOK (fun _ => true) path) (hbad : ∃ s ∈ path, ∃ c, s.cls = some c ∧ known c = false)
    (ws : Nat → Str) (hs : SepOK (renderToks path) ws) :
    parseXPath known (renderChars (renderToks path) ws) = none := by
  cases h : parseXPath known (renderChars (renderToks path) ws) with
  | none => rfl
  | some els =>
    obtain ⟨L, hL⟩ := (C17.legacy_accepts_iff_successor known _).mpr ⟨els, h⟩
    rw [lparseXPath_unknown_class_rejected known path hp hbad ws hs] at hL
    cases hL

/-! ## calculate_xpath: the value finally stored on each node object -/

/-- under `NoRepeat` the value stored on a node object — whichever assignment comes last — is the
spelling of its chain -/
theorem calc_final (root : Node) (h : NoRepeat root) (c : Chain) (n : Node) (oe : Option Edge)
    (hc : IsChain root (c ++ [(n, oe)])) (m : Node) (s : Str) (hm : (m, s) ∈ calcXpath root)
    (hu : m.uid = n.uid) : s = spellChain (c ++ [(n, oe)]) := by
  have h1 := calc_spells_chain root c n oe hc
  have hk : ((calcXpath root).map (fun p => p.1.uid)).Nodup := by
    have := calc_nodes root
    have h2 : (calcXpath root).map (fun p => p.1.uid) = ((calcXpath root).map (·.1)).map (·.uid) := by simp
    rw [h2, this]; exact h
  have := C07.inj_of_nodup_map (fun p : Node × Str => p.1.uid) _ hk (m, s) (n, spellChain (c ++ [(n, oe)])) hm h1 hu
  exact (Prod.mk.inj this).2

/-- legacy `calculate_xpath` stores, on every node of the tree, exactly what the successor's
`Tree.get_xpath` returns for it -/
theorem calc_eq_get_xpath (root : Node) (h : NoRepeat root) (m : Node) (s : Str)
    (hm : (m, s) ∈ calcXpath root) : (TreeT.build root).getXpath m = .ok s := by
  obtain ⟨c, oe, hc, hs⟩ := calc_sound root m s hm
  rw [hs]
  exact C06.xpath_chain root h c m oe hc

/-! ## examples -/
section Examples
private def known : Str → Bool := fun c => c == ['R'] || c == ['M'] || c == ['L']
/-- `/R//M/@x[12]L` -/
private def pth : List Step :=
  [⟨false, none, none, some ['R']⟩, ⟨true, none, none, some ['M']⟩,
   ⟨false, some ['x'], some (some 12), some ['L']⟩]
private def ws1 : Nat → Str := fun i => if i == 8 then [' '] else if i == 10 then ['\t', ' '] else []
private theorem pth_ok : PathOK known pth := by
  refine ⟨by decide, by decide, ?_, by decide, by decide⟩
  intro s hs
  simp [pth] at hs
  subst hs
  rfl
-- the theorems apply to this path (absolute and relative rendering)
example : ∃ L, lparseXPath known (renderChars (renderToks pth) ws1) = some L ∧
    ∀ chain : Chain, lxmatch L chain.reverse = sat chain (pth.map lelemOf) :=
  lparseXPath_render known pth pth_ok ws1 (by decide +kernel)
example : ∃ L, lparseXPath known (renderChars (renderRelToks pth) (fun _ => [' '])) = some L ∧
    ∀ chain : Chain, lxmatch L chain.reverse = sat chain ((relPath pth).map lelemOf) :=
  lparseXPath_render_rel known pth pth_ok _ (by decide)
example : String.ofList (renderChars (renderToks pth) ws1) = "/R//M/@x[ 12\t ]L" := by decide +kernel
example : (lparseXPath known "/R//M/@x[ 12\t ]L".toList).isSome = true := by decide +kernel
example : ∀ s ∈ pth, s.cls.isSome := by decide
-- rejection: `/R//Q/@x[12]L` names the unknown class `Q`
private def pthBad : List Step :=
  [⟨false, none, none, some ['R']⟩, ⟨true, none, none, some ['Q']⟩,
   ⟨false, some ['x'], some (some 12), some ['L']⟩]
private theorem pthBad_ok : PathOK (fun _ => true) pthBad := by
  refine ⟨by decide, by decide, ?_, by decide, by decide⟩
  intro s hs
  simp [pthBad] at hs
  subst hs
  rfl
private theorem pthBad_bad : ∃ s ∈ pthBad, ∃ c, s.cls = some c ∧ known c = false :=
  ⟨⟨true, none, none, some ['Q']⟩, by simp [pthBad], ['Q'], rfl, by decide⟩
private theorem pthBad_sep : SepOK (renderToks pthBad) ws1 := by decide +kernel
example : lparseXPath known (renderChars (renderToks pthBad) ws1) = none :=
  lparseXPath_unknown_class_rejected known pthBad pthBad_ok pthBad_bad ws1 pthBad_sep
example : parseXPath known (renderChars (renderToks pthBad) ws1) = none :=
  parseXPath_unknown_class_rejected known pthBad pthBad_ok pthBad_bad ws1 pthBad_sep
-- a step without class gets the legacy default class
example : lelemOf ⟨false, some ['x'], none, none⟩ = ⟨awareName, some ['x'], none, false⟩ := rfl

private def nd (u : Nat) (c : Str) (ks : List Kid) : Node :=
  .mk { uid := u, cls := c, mro := [c, awareName], org := ⟨0, []⟩, props := [], truthy := true } ks
private def leaf (u : Nat) : Node := nd u ['L'] []
private def mid : Node := nd 2 ['M'] [.mk ['x'] false [leaf 3]]
private def tree : Node := nd 0 ['R'] [.mk ['a'] true [leaf 1, mid, leaf 4]]
example : NoRepeat tree := by unfold NoRepeat; decide
example : (calcXpath tree).map (fun p => (p.1.uid, String.ofList p.2)) =
    [(0, "/@root[0]R"), (1, "/@root[0]R/@a[0]L"), (2, "/@root[0]R/@a[1]M"), (3, "/@root[0]R/@a[1]M/@x[0]L"),
     (4, "/@root[0]R/@a[2]L")] := by decide +kernel
end Examples

end C20
end PyOak
