/-
C15 — totality and validity preservation of `+`, `merge_origins`, `concat_origins`.

`codeValid o`: every code origin inside the origin value `o` (at any nesting depth) carries a range the
constructors accept: both points pass `CodePoint.__post_init__` (the GENERATED `CodePoint.valid`) and the range passes
`CodeRange.__post_init__` (the GENERATED `CodeRange.valid`).  Every object the real code can build satisfies it
(the constructors raise otherwise).

Main results, each asserting that the operation returns:
* `concat_total`   the model's `concat_origins` raises on NO operands at all, because `+` does not (`add_total`,
                   Props/C15.lean: in the fusing case the hull of overlapping ranges is well-ordered even for
                   ill-formed operands);
* `add_ok`, `merge_valid`, `concat_ok`  on flat valid operands the three operations return, and the result is again
                   flat and valid;  the `codeValid` half holds for ALL operands (nested ones included): `add_codeValid`,
                   `merge_codeValid`, `concat_codeValid`.
* the "within its source text" part: `inText` is preserved when `==` sources carry texts of the same length (`add_inText`),
  and is NOT preserved in general (`add_inText_fails`: two `==` sources with texts of different length).
-/
import PyOak.Props.C15
namespace PyOak.C15
open PyOak.Gen PyOak.OriginAlg

/-- a range the constructors `CodePoint(..)`, `CodePoint(..)`, `CodeRange(..)` accept -/
def rangeWF (r : CodeRange) : Prop := r.start.valid = true ∧ r.end_.valid = true ∧ r.valid = true

instance (r : CodeRange) : Decidable (rangeWF r) := by unfold rangeWF; infer_instance

mutual
def codeValid : Origin → Prop
  | .code _ _ r => rangeWF r
  | .multi _ _ os => codeValidList os
  | _ => True
def codeValidList : List Origin → Prop
  | [] => True
  | o :: r => codeValid o ∧ codeValidList r
end

theorem codeValid_code (g : Bool) (s : SrcV) (r : CodeRange) : codeValid (.code g s r) ↔ rangeWF r := Iff.rfl

theorem codeValidList_iff (os : List Origin) : codeValidList os ↔ ∀ o ∈ os, codeValid o := by
  induction os with
  | nil => simp [codeValidList]
  | cons o r ih => simp [codeValidList, ih]

theorem codeValidList_append (xs ys : List Origin) :
    codeValidList (xs ++ ys) ↔ codeValidList xs ∧ codeValidList ys := by
  simp only [codeValidList_iff, List.mem_append, or_imp, forall_and]

theorem codeValid_leaves (o : Origin) : codeValidList (leaves o) ↔ codeValid o := by
  cases o <;> simp [leaves, codeValid, codeValidList]

theorem codeValidList_flatMap (os : List Origin) :
    codeValidList (os.flatMap leaves) ↔ ∀ o ∈ os, codeValid o := by
  induction os with
  | nil => simp [codeValidList]
  | cons o r ih => simp [List.flatMap_cons, codeValidList_append, codeValid_leaves, ih]

/-- the hull of two well-formed ranges is well-formed (its points are points of the operands) -/
theorem rangeWF_add (a b : CodeRange) (ha : rangeWF a) (hb : rangeWF b) : rangeWF (a.add b) := by
  unfold rangeWF at *
  rw [add_start, add_end]
  refine ⟨?_, ?_, add_valid a b (.inl ha.2.2)⟩ <;> split <;> simp only [ha, hb]

theorem pack_codeValid (xs : List Origin) (r : Origin) (h : pack xs = .ok r) : codeValid r ↔ codeValidList xs := by
  match xs, h with
  | [], h => cases h; simp [codeValid, codeValidList]
  | [x], h => cases h; simp [codeValidList]
  | x :: y :: t, h =>
    rw [pack_many, mkMulti_spec] at h
    cases h
    simp [codeValid]

/-- `merge_origins` keeps validity, for ALL operands (flat or not) -/
theorem merge_codeValid (os : List Origin) (hv : ∀ o ∈ os, codeValid o) (r : Origin) (h : merge os = .ok r) :
    codeValid r := by
  by_cases h1 : os.length = 1
  · match os, h1 with
    | [o], _ => cases h; exact hv r (List.mem_singleton_self r)
  · rw [merge_spec os h1] at h
    exact (pack_codeValid _ r h).mpr ((codeValidList_flatMap os).mpr hv)

/-- `merge_origins` on flat valid operands: returns, and the result is flat and valid -/
theorem merge_valid (os : List Origin) (hf : ∀ o ∈ os, Flat o) (hv : ∀ o ∈ os, codeValid o) :
    ∃ r, merge os = .ok r ∧ codeValid r ∧ Flat r ∧ leaves r = os.flatMap leaves := by
  obtain ⟨r, hr⟩ := merge_ok os
  exact ⟨r, hr, merge_codeValid os hv r hr, merge_flat os hf r hr⟩

/-- `add_mergeable` written out on two code origins -/
theorem add_fuse (ga gb : Bool) (sa sb : SrcV) (ra rb : CodeRange)
    (hm : mergeable (.code ga sa ra) (.code gb sb rb) = true) :
    add (.code ga sa ra) (.code gb sb rb) = .ok (.code false sa (ra.add rb)) :=
  add_mergeable _ _ hm

/-- `+` keeps validity, for ALL operands (flat or not) -/
theorem add_codeValid (a b : Origin) (ha : codeValid a) (hb : codeValid b) (r : Origin) (h : add a b = .ok r) :
    codeValid r := by
  rw [add_eq] at h
  split at h
  next hm =>
    obtain ⟨ga, sa, ra, gb, sb, rb, rfl, rfl⟩ := mergeable_code a b hm
    cases h
    exact rangeWF_add ra rb ha hb
  next => exact merge_codeValid [a, b] (forall_mem_pair ha hb) r h

/-- **`+` never raises on flat valid operands; the result is flat and valid** -/
theorem add_ok (a b : Origin) (hfa : Flat a) (hfb : Flat b) (ha : codeValid a) (hb : codeValid b) :
    ∃ r, add a b = .ok r ∧ codeValid r ∧ Flat r := by
  obtain ⟨r, hr⟩ := add_total a b
  exact ⟨r, hr, add_codeValid a b ha hb r hr, (add_flat a b hfa hfb r hr).1⟩

theorem concat_total (o : Origin) (os : List Origin) : ∃ r, concat o os = .ok r :=
  have ⟨r, hr, _⟩ := concat_fold (fun (x : Unit) _ => x) (fun _ _ => True) (fun _ => True)
    (fun _ _ _ _ _ _ _ => trivial) () o os trivial (fun _ _ => trivial)
  ⟨r, hr⟩

/-- `concat_origins` keeps validity, for ALL operands (flat or not) -/
theorem concat_codeValid (o : Origin) (os : List Origin) (ho : codeValid o) (hv : ∀ b ∈ os, codeValid b) :
    ∃ r, concat o os = .ok r ∧ codeValid r :=
  concat_fold (fun (x : Unit) _ => x) (fun _ => codeValid) codeValid
    (fun _ a b r ha hb hr => add_codeValid a b ha hb r hr) () o os ho hv

/-- **`concat_origins` never raises on flat valid operands; the result is flat and valid**, and lists the fold of
`specStep` (as `concat_flat`, but without assuming `= .ok r`) -/
theorem concat_ok (o : Origin) (os : List Origin) (hfo : Flat o) (hf : ∀ b ∈ os, Flat b) (ho : codeValid o)
    (hv : ∀ b ∈ os, codeValid b) :
    ∃ r, concat o os = .ok r ∧ codeValid r ∧ Flat r ∧ leaves r = os.foldl specStep (leaves o) := by
  obtain ⟨r, hr, hvr⟩ := concat_codeValid o os ho hv
  exact ⟨r, hr, hvr, concat_flat o os hfo hf r hr⟩

/-! ### "within its source text" -/

def srcLen : SrcV → Option Nat
  | .one s => match s.raw with
    | .text t => some t.length
    | _ => none
  | .set _ => none

/-- the range ends inside the text of the source (when the source has a text) -/
def rangeIn (s : SrcV) (r : CodeRange) : Prop := ∀ n, srcLen s = some n → r.end_.index ≤ (n : Int)

mutual
/-- every code origin inside `o` lies within the text of its source -/
def inText : Origin → Prop
  | .code _ s r => rangeIn s r
  | .multi _ _ os => inTextList os
  | _ => True
def inTextList : List Origin → Prop
  | [] => True
  | o :: r => inText o ∧ inTextList r
end

/-- fusing keeps "within the text" when the two `==` sources carry texts of the same length (in particular when they
are one object, or equal objects built from one text) -/
theorem add_inText (ga gb : Bool) (sa sb : SrcV) (ra rb : CodeRange)
    (hm : mergeable (.code ga sa ra) (.code gb sb rb) = true) (hl : srcLen sa = srcLen sb)
    (ha : inText (.code ga sa ra)) (hb : inText (.code gb sb rb)) :
    ∃ r, add (.code ga sa ra) (.code gb sb rb) = .ok r ∧ inText r := by
  refine ⟨_, add_mergeable _ _ hm, fun n hn => ?_⟩
  have h1 := ha n hn
  have h2 := hb n (hl ▸ hn)
  show (ra.add rb).end_.index ≤ _
  rw [(add_index ra rb).2]
  omega

/-- … and not otherwise: `==` is blind to the text (`_raw` is `compare=False`), so the hull taken with the LEFT source
may exceed the left text.  Here: `"ab"[0:2] + "abcd"[2:4]` over two `==` sources gives the range 0-4 over the text "ab". -/
theorem add_inText_fails :
    let s1 : SrcV := .one { key := 1, fqn := ['a'], raw := .text ['a', 'b'] }
    let s2 : SrcV := .one { key := 1, fqn := ['a'], raw := .text ['a', 'b', 'c', 'd'] }
    let a : Origin := .code false s1 ⟨⟨0, 1, 0⟩, ⟨2, 1, 2⟩⟩
    let b : Origin := .code false s2 ⟨⟨2, 1, 2⟩, ⟨4, 1, 4⟩⟩
    inText a ∧ inText b ∧ codeValid a ∧ codeValid b ∧
      add a b = .ok (.code false s1 ⟨⟨0, 1, 0⟩, ⟨4, 1, 4⟩⟩) ∧ ¬ inText (.code false s1 ⟨⟨0, 1, 0⟩, ⟨4, 1, 4⟩⟩) := by
  refine ⟨?_, ?_, (codeValid_code ..).mpr (by decide), (codeValid_code ..).mpr (by decide), rfl, ?_⟩
  · intro n hn; cases hn; decide
  · intro n hn; cases hn; decide
  · intro h; exact absurd (h 2 rfl) (by decide)

example : Flat c02 ∧ Flat c24 ∧ codeValid c02 ∧ codeValid c24 ∧ mergeable c02 c24 = true := by
  refine ⟨trivial, trivial, (codeValid_code ..).mpr (by decide), (codeValid_code ..).mpr (by decide), by decide⟩
example : ∃ m, merge [c02, xB, c57] = .ok m ∧ Flat m ∧ codeValid m ∧ m.isMulti = true := by
  refine ⟨_, rfl, ⟨by decide, rfl⟩, ?_, rfl⟩
  exact ⟨(codeValid_code ..).mpr (by decide), trivial, (codeValid_code ..).mpr (by decide), trivial⟩
/-- ill-formed overlapping operands still do not raise (the hull is well-ordered) -/
example : add (.code false sA ⟨⟨3, 1, 3⟩, ⟨1, 1, 1⟩⟩) (.code false sA ⟨⟨0, 1, 0⟩, ⟨4, 1, 4⟩⟩)
    = .ok (.code false sA ⟨⟨0, 1, 0⟩, ⟨4, 1, 4⟩⟩) := rfl

end PyOak.C15
