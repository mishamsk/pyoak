/-
C11, classes: "rejected with InvalidFieldAnnotations no later than the first instantiation and never silently
treated as a property", and "inherited and overridden fields" for ANY replay of declarations (several
declarations of one name at one level = the flattened reversed-MRO replay of multiple inheritance).

* `defCheck_passed_accepts`     the definition-time pass and the first-use pass never disagree: a class that
                                passes `check_annotations` is classified by `process_node_fields`
                                (`defCheck_passed_iff`, Props/C11.lean: passed ⇔ no unresolved forward reference ∧
                                the class is accepted)
* `rejection_is_reported`       what the first-use pass rejects was raised by the definition-time pass or was
                                skipped by it (it never passed it); in both cases the user-visible outcome is `none`
* `never_silently_prop`         in an accepted class every field whose annotation mentions a node class is a
                                CHILD field, and no field mentions a mutable collection
* `lookup_effective`, `fieldVerdict_most_derived`   the verdict of field `n` of a class is the verdict of the
                                LAST declaration of `n` in the replay (most derived declaration decides), also
                                when one level, a flattened MI replay, declares a name several times.  The accessor
                                model has the same fact as `Acc.C12.fields_most_derived` (Props/C12Fields.lean);
                                it is not carried over through `resolve_eq_effective` (Props/C11Fields.lean)
                                because an `Acc.FDecl` does not hold the annotation
* `verdict_last_declaration`, `verdict_redeclared_twice`, `verdict_not_redeclared`, `verdict_inherited`,
  `verdict_overridden`          corollaries: an inherited field keeps its verdict, an overriding field gets the
                                verdict of its new annotation
-/
import PyOak.Props.C11Shapes
namespace PyOak
namespace C11
open Annot Annot.Ty

/-- a class that passes the definition-time check is accepted at first use, with the per-field verdicts of
its (own, inherited, overriding) annotations -/
theorem defCheck_passed_accepts (ls : List Level) (h : defCheck ls = .passed) :
    processNodeFields ls = some ((effective ls).map fun f => (f.name, f.ty.classify)) := by
  have hr := ((defCheck_passed_iff ls).1 h).2
  rw [Ne, classOutcome_eq_none, Bool.not_eq_true] at hr
  rw [processNodeFields_eq, hr]
  rfl

theorem defCheck_passed_ne_none (ls : List Level) (h : defCheck ls = .passed) :
    processNodeFields ls ≠ Option.none := by
  rw [defCheck_passed_accepts ls h]; simp

/-- "no later than the first instantiation": if the authoritative first-use pass rejects the class, then
either the definition-time pass already raised, or it did not pass (it was skipped on an unresolved forward
reference) and the first-use pass raises; the class never gets verdicts -/
theorem rejection_is_reported (ls : List Level) (h : processNodeFields ls = Option.none) :
    (defCheck ls = .raised ∨ defCheck ls = .skipped) ∧ classOutcome ls = Option.none := by
  refine ⟨?_, by rw [classOutcome_eq, h]⟩
  cases hd : defCheck ls
  · exact absurd h (defCheck_passed_ne_none ls hd)
  · exact .inr rfl
  · exact .inl rfl

/-- the user-visible outcome is a rejection iff one of the two passes rejects -/
theorem classOutcome_none_iff_phase (ls : List Level) :
    classOutcome ls = Option.none ↔ (defCheck ls = .raised ∨ processNodeFields ls = Option.none) := by
  rw [classOutcome_eq]
  exact ⟨.inr, fun h => h.elim (defCheck_raised_sound ls) id⟩

/-- "never silently treated as a property": in an accepted class, a field whose annotation mentions a node
class is listed as a child field, and no annotation mentions a mutable collection; every field is listed with
the verdict of its annotation, which is not `reject` -/
theorem never_silently_prop (ls : List Level) (vs : List (Str × Verdict)) (h : classOutcome ls = some vs)
    (f : Field) (hf : f ∈ effective ls) :
    (MentionsNode f.ty → (f.name, Verdict.child) ∈ vs) ∧ ¬ MentionsMutable f.ty ∧
    (f.name, classify f.ty) ∈ vs ∧ classify f.ty ≠ .reject := by
  have hvs := (classOutcome_some ls vs h).1
  have hmem : (f.name, classify f.ty) ∈ vs := by
    rw [hvs]; exact List.mem_map.2 ⟨f, hf, rfl⟩
  have hnr : classify f.ty ≠ .reject := fun hr => by
    rw [(classOutcome_none_iff ls).2 ⟨f, hf, hr⟩] at h; cases h
  refine ⟨fun hn => ?_, fun hm => hnr (mutable_rejected _ hm), hmem, hnr⟩
  rcases node_never_prop f.ty hn with hc | hc
  · rw [hc] at hmem; exact hmem
  · exact absurd hc hnr

theorem lookup_addField_same (acc : List Field) (f : Field) : lookup (addField acc f) f.name = some f.ty := by
  unfold lookup addField
  split
  · rename_i h
    induction acc with
    | nil => simp at h
    | cons g r ih =>
      simp only [List.map_cons, List.find?_cons]
      by_cases hg : g.name = f.name
      · simp [hg]
      · have hg' : (g.name == f.name) = false := by simpa using hg
        simp only [hg', Bool.false_eq_true, if_false]
        simp only [List.any_cons, hg', Bool.false_or] at h
        exact ih h
  · rename_i h
    have hnone : acc.find? (·.name == f.name) = Option.none := by
      apply List.find?_eq_none.2
      intro g hg hc
      exact h (List.any_eq_true.2 ⟨g, hg, hc⟩)
    simp [List.find?_append, hnone]

theorem lookup_addField_other (acc : List Field) (f : Field) (n : Str) (hn : f.name ≠ n) :
    lookup (addField acc f) n = lookup acc n := by
  have hf : (f.name == n) = false := by simpa using hn
  unfold lookup addField
  split
  · rename_i hany
    clear hany
    congr 1
    induction acc with
    | nil => rfl
    | cons g r ih =>
      simp only [List.map_cons, List.find?_cons]
      by_cases hg : g.name = f.name
      · simp only [hg, beq_self_eq_true, if_true, hf]
        exact ih
      · have hg' : (g.name == f.name) = false := by simpa using hg
        simp only [hg', Bool.false_eq_true, if_false]
        cases (g.name == n)
        · exact ih
        · rfl
  · simp [List.find?_append, hf]

/-- the last declaration of the name `n` in a replay -/
def lastDecl (ds : List Field) (n : Str) : Option Field := ds.reverse.find? (·.name == n)

theorem lookup_foldl (l acc : List Field) (n : Str) :
    lookup (l.foldl addField acc) n = ((lastDecl l n).map (·.ty)).or (lookup acc n) := by
  induction l generalizing acc with
  | nil => simp [lastDecl]
  | cons f r ih =>
    rw [List.foldl_cons, ih]
    unfold lastDecl
    rw [List.reverse_cons, List.find?_append]
    cases hr : r.reverse.find? (·.name == n) with
    | some g => simp
    | none =>
      simp only [Option.map_none, Option.none_or, List.find?_cons, List.find?_nil]
      by_cases hfn : f.name = n
      · subst hfn
        simp [lookup_addField_same]
      · have : (f.name == n) = false := by simpa using hfn
        simp [this, lookup_addField_other acc f n hfn]

/-- the type of field `n` of a class is the type given by the LAST declaration of `n` along the replay of all
declarations (base classes first; multiple inheritance: the reversed-MRO replay) -/
theorem lookup_effective (ls : List Level) (n : Str) :
    lookup (effective ls) n = (lastDecl ls.flatten n).map (·.ty) := by
  rw [effective_eq_foldl, lookup_foldl]
  simp [lookup]

/-- the verdict of a field is the verdict of its most derived declaration — whatever earlier declarations
(of base classes, or earlier in a flattened multiple-inheritance replay) said -/
theorem fieldVerdict_most_derived (ls : List Level) (n : Str) :
    fieldVerdict ls n = (lastDecl ls.flatten n).map fun f => classify f.ty := by
  unfold fieldVerdict
  rw [lookup_effective, Option.map_map]
  rfl

theorem lastDecl_append (a b : List Field) (n : Str) (h : ∀ g ∈ b, g.name ≠ n) :
    lastDecl (a ++ b) n = lastDecl a n := by
  unfold lastDecl
  rw [List.reverse_append, List.find?_append]
  have : b.reverse.find? (·.name == n) = Option.none := by
    apply List.find?_eq_none.2
    intro g hg
    simpa using h g (List.mem_reverse.1 hg)
  rw [this, Option.none_or]

theorem lastDecl_append_cons (l1 l2 : List Field) (f : Field) (h : ∀ g ∈ l2, g.name ≠ f.name) :
    lastDecl (l1 ++ f :: l2) f.name = some f := by
  rw [List.append_cons, lastDecl_append _ l2 _ h]
  simp [lastDecl]

/-- a declaration that is the last one of its name in the last level decides, even if the same level (a
flattened replay) declares the name before -/
theorem verdict_last_declaration (ls : List Level) (l1 l2 : List Field) (f : Field)
    (h : ∀ g ∈ l2, g.name ≠ f.name) :
    fieldVerdict (ls ++ [l1 ++ f :: l2]) f.name = some (classify f.ty) := by
  rw [fieldVerdict_most_derived]
  have : (ls ++ [l1 ++ f :: l2]).flatten = (ls.flatten ++ l1) ++ f :: l2 := by simp
  rw [this, lastDecl_append_cons _ l2 f h]
  rfl

/-- a name declared twice in one replay: the later declaration wins -/
theorem verdict_redeclared_twice (pre mid post : List Field) (f g : Field) (hn : f.name = g.name)
    (h : ∀ x ∈ post, x.name ≠ g.name) :
    fieldVerdict [pre ++ f :: mid ++ g :: post] f.name = some (classify g.ty) := by
  rw [hn]
  have := verdict_last_declaration [] (pre ++ f :: mid) post g h
  simpa using this

/-- a name that the later declarations do not mention keeps the verdict of the earlier replay -/
theorem verdict_not_redeclared (ds later : List Field) (n : Str) (h : ∀ g ∈ later, g.name ≠ n) :
    fieldVerdict [ds ++ later] n = fieldVerdict [ds] n := by
  rw [fieldVerdict_most_derived, fieldVerdict_most_derived]
  simp only [List.flatten_cons, List.flatten_nil, List.append_nil]
  rw [lastDecl_append ds later n h]

/-- an inherited field (not redeclared by the subclass) has in the subclass the verdict it has
in the base class -/
theorem verdict_inherited (ls : List Level) (lvl : Level) (n : Str) (h : ∀ f ∈ lvl, f.name ≠ n) :
    fieldVerdict (ls ++ [lvl]) n = fieldVerdict ls n := by
  rw [fieldVerdict_most_derived, fieldVerdict_most_derived]
  simp only [List.flatten_append, List.flatten_cons, List.flatten_nil, List.append_nil]
  rw [lastDecl_append _ lvl n h]

/-- an overriding field has the verdict of its *new* annotation, whatever the base class said -/
theorem verdict_overridden (ls : List Level) (lvl : Level) (f : Field) (hf : f ∈ lvl)
    (hnd : (lvl.map (·.name)).Nodup) :
    fieldVerdict (ls ++ [lvl]) f.name = some (classify f.ty) := by
  obtain ⟨l1, l2, rfl⟩ := List.append_of_mem hf
  refine verdict_last_declaration ls l1 l2 f fun g hg hc => ?_
  simp only [List.map_append, List.map_cons] at hnd
  exact (List.nodup_cons.1 (List.nodup_append.1 hnd).2.1).1 (hc ▸ List.mem_map.2 ⟨g, hg, rfl⟩)

example : defCheck [[⟨['x'], .vtuple (.node 0)⟩, ⟨['y'], .atom .int⟩]] = .passed := by decide
example : processNodeFields [[⟨['x'], .coll .list [.fwd 0]⟩]] = Option.none ∧
    defCheck [[⟨['x'], .coll .list [.fwd 0]⟩]] = .skipped := by decide
-- `class D(B1, B2)`: replay `B2.y, B2.x: Leaf, B1.x: int, B1.z`, then D's own `y: tuple[Leaf, ...]`
example : fieldVerdict [[⟨['y'], .atom .str⟩, ⟨['x'], .node 0⟩, ⟨['x'], .atom .int⟩, ⟨['z'], .none⟩,
      ⟨['y'], .vtuple (.node 0)⟩]] ['x'] = some .prop ∧
    fieldVerdict [[⟨['y'], .atom .str⟩, ⟨['x'], .node 0⟩, ⟨['x'], .atom .int⟩, ⟨['z'], .none⟩,
      ⟨['y'], .vtuple (.node 0)⟩]] ['y'] = some .child := by decide

end C11
end PyOak
