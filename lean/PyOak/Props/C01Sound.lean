/-
C01 for an ARBITRARY digest (cf. AUDIT.md item #6): the instances of `C01.cid_of_canon`, the half
of `cid_eq_iff` that needs nothing of `H`.  Content-equal nodes have equal content ids for EVERY
function `H : Str → Str` (collisions allowed, no separator hypothesis): the digest pre-images are
already equal.  Consequences: `is_equal` answers True on content-equal nodes for the real
(non-injective) blake2b, and everything that `ContentEq` does not see (uids, origins, `truthy`,
mro, non-comparable properties, the declaration order of fields — at EVERY depth) cannot influence
the content id.
-/
import PyOak.Props.C01
namespace PyOak
namespace C01

/-- content-equal nodes have equal content ids — for ANY digest function (no injectivity, no
separator hypothesis; collisions can only ADD equalities) -/
theorem cid_of_contentEq (H : Str → Str) (a b : Node) (ha : WFN a) (hb : WFN b) (h : ContentEq a b) :
    cid H a = cid H b := cid_of_canon H a b ha hb h

/-- `a.is_equal(b)` is True on content-equal nodes, for any digest -/
theorem isEqual_of_contentEq (H : Str → Str) (a b : Node) (ha : WFN a) (hb : WFN b)
    (h : ContentEq a b) : isEqual H a b = true := by
  simp [isEqual, cid_of_contentEq H a b ha hb h, contentEq_cls h]

/-- contrapositive: different content ids (under whatever digest) prove different content -/
theorem not_contentEq_of_cid_ne (H : Str → Str) (a b : Node) (ha : WFN a) (hb : WFN b)
    (h : cid H a ≠ cid H b) : ¬ ContentEq a b := fun hc => h (cid_of_contentEq H a b ha hb hc)

/-- `cid_eq_iff`: `cid_of_contentEq` (any `H`) plus the framing direction -/
theorem cid_eq_iff_of_sound (H : Str → Str) (hinj : Function.Injective H)
    (hsep : ∀ s, ∀ c ∈ H s, c ≠ ':') (a b : Node) (ha : WFN a) (hb : WFN b) :
    cid H a = cid H b ↔ ContentEq a b := cid_eq_iff H hinj hsep a b ha hb

namespace Demo

/-- a maximally colliding digest -/
def Hconst : Str → Str := fun _ => ['0']

-- non-vacuity: `n1`, `n2` are well-formed and content-equal (other uids, origins, non-comparable
-- properties, declaration order), and the theorem applies with a NON-injective digest
example : ContentEq n1 n2 := contentEq_n1_n2
example : cid Hconst n1 = cid Hconst n2 :=
  cid_of_contentEq Hconst n1 n2 wf_n1 wf_n2 contentEq_n1_n2
example : ¬ Function.Injective Hconst := fun h => absurd (h (a₁ := []) (a₂ := ['x']) rfl) (by decide)
-- the converse is what needs injectivity: under `Hconst` different contents collide
example : cid Hconst n1 = cid Hconst n3 ∧ ¬ ContentEq n1 n3 :=
  ⟨rfl, not_contentEq_n1_n3⟩

end Demo

end C01
end PyOak
