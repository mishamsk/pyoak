/-
Bridge for the top-down search: the hand-written model of `ASTXpath.findall` (Model/XPath.lean: `findFirst`, `findStep`,
`findallPos`, `findall`) is the definition GENERATED from the source (Gen/KernelsFindall.lean, harness/py2lean_x.py).

The generated function is polymorphic in the node type and takes its primitives as a record (`GenF.Py`).  Here they are
instantiated over `Option Node` (`none` = the `_DUMMY_XPATH_ROOT` object built around `root`, which the model never
materialises): its only child is `root`, `x is dummy_root` holds of `none` only, `x.dfs()` is the model's `dfsImpl` with
the defaults (tied to the generated `dfs` by C05: `dfs_defaults_eq_gen`), dict keys compare by object identity of node
and parent plus field and index (`XPos.key`).

  gen_unfold            the generated term, with its three nested folds named (by `rfl`)
  findStep_eq_gen       one round of the work list over positions of real nodes  = `findStep`
  findFirst_eq_gen      the first round, from the dummy root (`_unwrap` at work)  = `findFirst`
  findall_eq_gen        generated findall = (model `findall`, no exception) for every non-empty element list, every tree
  findall_nil_eq_gen    on an empty element list the source raises UnboundLocalError (the model answers []; no parsed xpath
                        has an empty list: `parseSteps` yields at least `self`)
`ASTXpath` has no `find` method in this version of the library (only `findall` and `match`): nothing to tie there.
-/
import PyOak.Gen.KernelsFindall
import PyOak.Props.GenBridge
import PyOak.Model.XPath
namespace PyOak.GenBridgeFindall
open PyOak PyOak.GenK

/-- node objects as the generated function sees them: `none` is the dummy root -/
abbrev ON := Option Node
abbrev Info := NodeTraversalInfo ON

/-- a position of the model as the record the source builds -/
def ofX (p : XPos) : Info :=
  { node := some p.node, parent := p.parent.map some, field := p.edge.map (fun e => ⟨e.field⟩),
    findex := (p.edge.bind (·.idx)).map Int.ofNat }

def childR : FieldR := ⟨['c', 'h', 'i', 'l', 'd']⟩

/-- the dict key of a record: identity of node and parent, field, index -/
def kOf (t : Info) : Option Nat × Option (Option Nat) × Option FieldR × Option Int :=
  (t.node.map Node.uid, t.parent.map (·.map Node.uid), t.field, t.findex)

/-- `x.dfs()` with the default arguments, in the model -/
def dfsDefault (n : Node) : List Item := dfsImpl (fun _ => false) (fun _ => true) false n

/-- the primitives, for the tree under `root` wrapped in `_DUMMY_XPATH_ROOT(root)` -/
def pyOf (root : Node) : GenF.Py ON where
  dummy_root _ := none
  is_ a b := match a, b with
    | none, none => true
    | some x, some y => x.uid == y.uid
    | _, _ => false
  child_items n := match n with
    | none => [(some root, childR, none)]
    | some n => n.edges.map (fun (c, e) => (some c, ⟨e.field⟩, e.idx.map Int.ofNat))
  dfs n := match n with
    | none => { node := some root, parent := some none, field := some childR, findex := none }
        :: (dfsDefault root).map (fun it => ofX (XPos.ofItem it))
    | some n => (dfsDefault n).map (fun it => ofX (XPos.ofItem it))
  key_eq a b := kOf a == kOf b

/-- the element test on records of real nodes -/
def okOf (t : Info) (el : XElem) : Bool :=
  match t.node with
  | none => false
  | some n => GenK.match_node_element Node.isInst
      { node := n, parent := t.parent.map (fun _ => n), field := t.field, findex := t.findex } (GenBridge.toEl el)

theorem okOf_ofX (p : XPos) (el : XElem) : okOf (ofX p) el = matchElem p.node p.edge el := by
  rw [GenBridge.matchElem_eq_gen p.node (p.parent.map (fun _ => p.node)) p.edge el]
  simp [okOf, ofX, GenBridge.toInfo, GenK.match_node_element]

/-! ### the generated term with its folds named -/

variable {E : Type}

/-- `if _match_node_element(c_info, el): if c_info not in new_work: new_work[c_info] = None` -/
def gIns (py : GenF.Py ON) (ok : Info → E → Bool) (el : E) (nw : List Info) (c : Info) : List Info :=
  if ok c el then (if !(nw.any (fun k => py.key_eq k c)) then nw ++ [c] else nw) else nw

/-- `_unwrap` -/
def gUnwrap (py : GenF.Py ON) (dummy : ON) (c : Info) : Info :=
  if (match c.parent with | none => false | some p => py.is_ p dummy) then
    { node := c.node, parent := none, field := none, findex := none } else c

/-- the body of `for el in self._elements` : the new work list -/
def gRound (py : GenF.Py ON) (ok : Info → E → Bool) (aw : E → Bool) (dummy : ON) (work : List Info) (el : E) : List Info :=
  work.foldl (fun nw n_info =>
    if aw el then ((py.dfs n_info.node).map (gUnwrap py dummy)).foldl (gIns py ok el) nw
    else (py.child_items n_info.node).foldl (fun nw (c, f, i) =>
      gIns py ok el nw (gUnwrap py dummy { node := c, parent := some n_info.node, field := some f, findex := i })) nw) []

theorem gen_unfold (py : GenF.Py ON) (ok : Info → E → Bool) (aw : E → Bool) (els : List E) (root : ON) :
    GenF.findall py ok aw els root =
      match els.foldl (fun ((_, work) : Option (List Info) × List Info) el =>
          (some (gRound py ok aw (py.dummy_root root) work el), gRound py ok aw (py.dummy_root root) work el))
          (none, [{ node := py.dummy_root root, parent := none, field := none, findex := none }]) with
      | (nw, _) => match nw with
        | none => ([], some GenF.Err.UnboundLocalError)
        | some nw => (nw.map (·.node), none) := by
  -- the `match`es of the two sides are different declarations, which `rfl` unfolds only without smart unfolding;
  -- a harmless rewrite of the source (a test under `not`, branches swapped) is not an unfolding: `grind` decides it
  first
  | set_option smartUnfolding false in rfl
  | (delta gRound gIns gUnwrap; simp only [GenF.findall]; grind)

/-! ### the primitives on records of real nodes -/

theorem edge_of_record : ∀ {e e' : Option Edge},
    e.map (fun e => FieldR.mk e.field) = e'.map (fun e => FieldR.mk e.field) →
    (e.bind (·.idx)).map Int.ofNat = (e'.bind (·.idx)).map Int.ofNat → e = e'
  | none, none, _, _ => rfl
  | none, some _, h, _ => by cases h
  | some _, none, h, _ => by cases h
  | some ⟨f, i⟩, some ⟨f', i'⟩, hf, hi => by
    obtain rfl : f = f' := congrArg FieldR.name (Option.some.inj hf)
    obtain rfl : i = i' := Option.map_injective (fun _ _ => Int.ofNat.inj) hi
    rfl

/-- the dict key of the record of a position is `XPos.key`, component by component -/
theorem kOf_ofX (p : XPos) : kOf (ofX p) =
    (some p.node.uid, (p.parent.map Node.uid).map some, p.edge.map (fun e => ⟨e.field⟩),
      (p.edge.bind (·.idx)).map Int.ofNat) := by
  obtain ⟨n, par, e⟩ := p
  cases par <;> rfl

theorem key_ofX (root : Node) (p q : XPos) : (pyOf root).key_eq (ofX p) (ofX q) = (p.key == q.key) := by
  rw [Bool.eq_iff_iff]
  simp only [pyOf, beq_iff_eq, kOf_ofX, XPos.key, Prod.mk.injEq, Option.some.injEq]
  constructor
  · rintro ⟨hn, hp, hf, hi⟩
    exact ⟨hn, Option.map_injective (fun _ _ => Option.some.inj) hp, edge_of_record hf hi⟩
  · rintro ⟨hn, hp, he⟩
    rw [hn, hp, he]
    exact ⟨rfl, rfl, rfl, rfl⟩

theorem gIns_ofX (root : Node) (el : XElem) (nw : List XPos) (c : XPos) :
    gIns (pyOf root) okOf el (nw.map ofX) (ofX c)
      = (if matchElem c.node c.edge el then insertPos nw c else nw).map ofX := by
  simp only [gIns, okOf_ofX, insertPos, List.any_map, Function.comp_def, key_ofX]
  by_cases h1 : matchElem c.node c.edge el <;> simp only [h1, if_true, if_false, Bool.false_eq_true]
  by_cases h2 : (nw.any fun q => q.key == c.key) <;> simp [h2]

theorem gUnwrap_ofX (root : Node) (p : XPos) : gUnwrap (pyOf root) none (ofX p) = ofX p := by
  obtain ⟨n, par, e⟩ := p
  cases par <;> simp [gUnwrap, ofX, pyOf]

theorem foldl_map_rel {A B X Y : Type} (f : A → B) (g : X → Y) (sA : List A → X → List A) (sB : List B → Y → List B)
    (h : ∀ acc x, sB (acc.map f) (g x) = (sA acc x).map f) :
    ∀ (xs : List X) (acc : List A), (xs.map g).foldl sB (acc.map f) = (xs.foldl sA acc).map f := by
  intro xs
  induction xs with
  | nil => intro acc; rfl
  | cons x r ih => intro acc; simp only [List.map_cons, List.foldl_cons, h, ih]

theorem pyOf_child_some (root n : Node) :
    (pyOf root).child_items (some n) = n.edges.map (fun (c, e) => (some c, ⟨e.field⟩, e.idx.map Int.ofNat)) := rfl
theorem pyOf_child_none (root : Node) : (pyOf root).child_items none = [(some root, childR, none)] := rfl
theorem pyOf_dfs_some (root n : Node) :
    (pyOf root).dfs (some n) = (dfsDefault n).map (fun it => ofX (XPos.ofItem it)) := rfl
theorem pyOf_dfs_none (root : Node) :
    (pyOf root).dfs none = { node := some root, parent := some none, field := some childR, findex := none }
        :: (dfsDefault root).map (fun it => ofX (XPos.ofItem it)) := rfl
theorem ofX_node (p : XPos) : (ofX p).node = some p.node := rfl

/-! ### one round of the work list -/

theorem ins_fold (root : Node) (el : XElem) (cs acc : List XPos) :
    (cs.map ofX).foldl (gIns (pyOf root) okOf el) (acc.map ofX)
      = (cs.foldl (fun nw c => if matchElem c.node c.edge el then insertPos nw c else nw) acc).map ofX :=
  foldl_map_rel ofX ofX _ _ (gIns_ofX root el) cs acc

/-- the inner loops below one work item that is a real node: both run over the records of `candidates` -/
theorem inner_eq_gen (root : Node) (el : XElem) (acc : List XPos) (n : Node) :
    (if el.anywhere then (((pyOf root).dfs (some n)).map (gUnwrap (pyOf root) none)).foldl (gIns (pyOf root) okOf el) (acc.map ofX)
      else ((pyOf root).child_items (some n)).foldl (fun nw (c, f, i) =>
        gIns (pyOf root) okOf el nw (gUnwrap (pyOf root) none { node := c, parent := some (some n), field := some f, findex := i }))
          (acc.map ofX))
    = ((candidates n el.anywhere).foldl (fun nw c =>
        if matchElem c.node c.edge el then insertPos nw c else nw) acc).map ofX := by
  rw [← ins_fold]
  cases el.anywhere
  · simp only [Bool.false_eq_true, if_false, candidates, pyOf_child_some, Node.items, List.map_map, List.foldl_map]
    rfl  -- `_unwrap` computes to the identity on the record of a child of a real node
  · simp only [if_true, candidates, pyOf_dfs_some, dfsDefault, List.map_map, Function.comp_def, gUnwrap_ofX]

/-- a round over positions of real nodes is the model's `findStep` -/
theorem findStep_eq_gen (root : Node) (work : List XPos) (el : XElem) :
    gRound (pyOf root) okOf (·.anywhere) none (work.map ofX) el = (findStep work el).map ofX :=
  foldl_map_rel ofX ofX _ _ (fun acc w => inner_eq_gen root el acc w.node) work []

/-- `_unwrap` on the position the dummy root gives `root`: no parent, field or index -/
theorem gUnwrap_dummy (root : Node) (f : Option FieldR) (i : Option Int) :
    gUnwrap (pyOf root) none { node := some root, parent := some none, field := f, findex := i } = ofX ⟨root, none, none⟩ := by
  simp [gUnwrap, pyOf, ofX]

/-- the record of the dummy root the work list starts with -/
def dummyInfo : Info := { node := none, parent := none, field := none, findex := none }

/-- the first round, from the dummy root, is the model's `findFirst` -/
theorem findFirst_eq_gen (root : Node) (el : XElem) :
    gRound (pyOf root) okOf (·.anywhere) none [dummyInfo] el = (findFirst root el).map ofX := by
  unfold gRound findFirst
  simp only [List.foldl_cons, List.foldl_nil, dummyInfo]
  cases ha : el.anywhere
  · simp only [Bool.false_eq_true, if_false, pyOf_child_none, List.foldl_cons, List.foldl_nil, gUnwrap_dummy]
    exact gIns_ofX root el [] ⟨root, none, none⟩
  · simp only [if_true, pyOf_dfs_none, List.map_cons, gUnwrap_dummy, List.map_map]
    have h := ins_fold root el (⟨root, none, none⟩ :: candidates root true) []
    simp only [List.map_cons, candidates, if_true, List.map_map, List.map_nil] at h
    simpa only [Function.comp_def, gUnwrap_ofX, dfsDefault, candidates, List.foldl_cons, if_true, List.map_map] using h

theorem pyOf_dummy (root : Node) (x : ON) : (pyOf root).dummy_root x = none := rfl

/-- the rounds after the first -/
theorem rounds_eq_gen (root : Node) : ∀ (rest : List XElem) (X : List XPos),
    rest.foldl (fun ((_, work) : Option (List Info) × List Info) el =>
        (some (gRound (pyOf root) okOf (·.anywhere) none work el), gRound (pyOf root) okOf (·.anywhere) none work el))
      (some (X.map ofX), X.map ofX)
    = (some ((rest.foldl findStep X).map ofX), (rest.foldl findStep X).map ofX) := by
  intro rest
  induction rest with
  | nil => intro X; rfl
  | cons el r ih => intro X; simp only [List.foldl_cons, findStep_eq_gen, ih]

/-- **the tie**: for every tree and every non-empty element list the function generated from `ASTXpath.findall` ends
without an exception and yields exactly the model's `findall` (no fuel: the source has no `while` loop; the fuel of
`x.dfs()` is the one of C05) -/
theorem findall_eq_gen (root : Node) (el : XElem) (rest : List XElem) :
    GenF.findall (pyOf root) okOf (·.anywhere) (el :: rest) (some root) = ((findall (el :: rest) root).map some, none) := by
  rw [gen_unfold]
  simp only [List.foldl_cons, pyOf_dummy]
  have h := findFirst_eq_gen root el
  simp only [dummyInfo] at h
  rw [h, rounds_eq_gen]
  simp [findall, findallPos, List.map_map, Function.comp_def, ofX]

/-- on an EMPTY element list the source reads the unbound `new_work` (UnboundLocalError), where the model answers `[]` -/
theorem findall_nil_eq_gen (root : Node) :
    GenF.findall (pyOf root) okOf (·.anywhere) ([] : List XElem) (some root) = ([], some GenF.Err.UnboundLocalError)
      ∧ findall [] root = [] := by
  constructor
  · rw [gen_unfold]; rfl
  · rfl

end PyOak.GenBridgeFindall
