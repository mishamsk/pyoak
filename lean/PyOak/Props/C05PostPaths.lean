/-
C05, bottom-up: `dfs(bottom_up=True)` by PATHS, for every tree (shared objects allowed).

`Trav.trailsPost P n` lists the same trails as `Trav.trails P n` (`trailsPost_perm`), the trails
through a position BEFORE the trail that ends there; its ends are the post-order stream
(`trailsPost_end`), its paths increase for the post-order of paths `PathLtPost`
(`postPaths_sorted`), which is irreflexive under `WellKeyed` (`pathLtPost_irrefl`).
`dfs_bottom_up_enumerates_paths` puts it together: under `WellKeyed n` only, the unpruned,
unfiltered bottom-up stream enumerates the non-empty valid paths exactly once, in post-order.
-/
import PyOak.Props.C05Paths
namespace PyOak
namespace C05P
open C05 C05X C05T Trav

variable (P : Item → Bool)

/-- the recursion equation of `trailsPost` (no fuel) -/
theorem trailsPost_eq (n : Node) : trailsPost P n = n.items.flatMap fun it =>
    (if P it then [] else (trailsPost P it.node).map (it :: ·)) ++ [[it]] :=
  fuel_unfold (T := trailsPostF P)
    (step := fun it r => (if P it then [] else r.map (it :: ·)) ++ [[it]]) (fun _ => rfl) (fun _ _ => rfl) n

theorem flatMap_perm_congr {α β : Type} {l : List α} {f g : α → List β}
    (h : ∀ a ∈ l, (f a).Perm (g a)) : (l.flatMap f).Perm (l.flatMap g) := by
  induction l with
  | nil => exact List.Perm.refl _
  | cons a r ih =>
    simp only [List.flatMap_cons]
    exact (h a (by simp)).append (ih (fun x hx => h x (by simp [hx])))

/-- post-order lists the same trails as pre-order -/
theorem trailsPost_perm (n : Node) : (trailsPost P n).Perm (trails P n) := by
  induction n using node_induction with
  | step n ih =>
    rw [trailsPost_eq, trails_eq]
    apply flatMap_perm_congr
    intro it hit
    refine List.perm_append_comm.trans ?_
    simp only [List.singleton_append]
    refine List.Perm.cons _ ?_
    by_cases hP : P it
    · simp [hP]
    · simp only [hP, Bool.false_eq_true, if_false]
      exact (ih it hit).map _

theorem trailsPost_ne_nil (n : Node) (t : List Item) (h : t ∈ trailsPost P n) : t ≠ [] :=
  trails_ne_nil P n t ((trailsPost_perm P n).mem_iff.mp h)

theorem post_rec (n : Node) : post P (fun _ => true) n =
    n.items.flatMap fun it => (if P it then [] else post P (fun _ => true) it.node) ++ [it] := by
  rw [post_eq_postItems]
  unfold postItems
  apply Framing.flatMap_congr'
  intro it _
  rw [postN_unfold, post_eq_postItems]
  simp [postItems]

/-- the ends of the post-order trails, in order, are the post-order stream -/
theorem trailsPost_end (n : Node) : (trailsPost P n).map trailEnd = post P (fun _ => true) n := by
  induction n using node_induction with
  | step n ih =>
    rw [trailsPost_eq, post_rec, List.map_flatMap]
    apply Framing.flatMap_congr'
    intro it hit
    simp only [List.map_append, List.map_cons, List.map_nil, trailEnd_single]
    congr 1
    by_cases hP : P it
    · simp [hP]
    · simp only [hP, Bool.false_eq_true, if_false, List.map_map]
      rw [← ih it hit]
      apply List.map_congr_left
      intro t ht
      exact trailEnd_cons it t (trailsPost_ne_nil P it.node t ht)

/-- `dfs(prune, filter, bottom_up=True)` = the ends of the post-order trails, filtered -/
theorem dfs_bottom_up_eq_trails (F : Item → Bool) (n : Node) :
    dfsImpl P F true n = ((trailsPost P n).map trailEnd).filter F := by
  rw [dfsImpl_filter, dfs_bottom_up, trailsPost_end]

/-- the members of `trailsPost P n`: as for `trails` -/
theorem mem_trailsPost_iff (n : Node) (t : List Item) :
    t ∈ trailsPost P n ↔ t ≠ [] ∧ IsTrail n t ∧ ∀ y ∈ t.dropLast, P y = false := by
  rw [(trailsPost_perm P n).mem_iff]; exact mem_trails_iff P n t

/-- **post-order of paths**: a path comes after its extensions, siblings in declaration order -/
theorem postPaths_sorted (n : Node) :
    ((trailsPost (fun _ => false) n).map pathOf).Pairwise (PathLtPost n) := by
  induction n using node_induction with
  | step n ih =>
    rw [trailsPost_eq]
    refine blocks_sorted PathLtPost.fork n _ (fun it _ t ht => ?_) (fun it hit => ?_)
    · rcases List.mem_append.mp ht with ht | ht
      · obtain ⟨t', _, rfl⟩ := List.mem_map.mp ht
        exact ⟨t', rfl⟩
      · exact ⟨[], List.mem_singleton.mp ht⟩
    · rw [List.map_append, List.pairwise_append]
      refine ⟨sorted_down PathLtPost.down n it hit _ (ih it hit), List.pairwise_singleton _ _,
        fun p hp q hq => ?_⟩
      obtain ⟨t, ht, rfl⟩ := List.mem_map.mp hp
      obtain ⟨t', ht', rfl⟩ := List.mem_map.mp ht
      obtain ⟨a, r, rfl⟩ := List.exists_cons_of_ne_nil (trailsPost_ne_nil _ _ t' ht')
      rw [List.mem_singleton.mp hq]
      exact PathLtPost.down n it.node it.edge _ [] ((mem_items_iff n it).mp hit).2 (PathLtPost.ext _ _ _)

theorem pathLtPost_irrefl (n : Node) (hW : WellKeyed n) (p q : List Edge) (h : PathLtPost n p q) :
    p ≠ q := by
  induction h with
  | ext n e p => exact List.cons_ne_nil _ _
  | fork n e1 e2 p q hs => exact fork_ne n hW hs
  | down n c e p q hmem _ ih =>
    exact fun heq => ih (wellKeyed_edge n c e hW hmem) (List.cons.inj heq).2

/-- **exactly once, bottom-up, with sharing**: the unpruned, unfiltered `dfs(bottom_up=True)`
stream is, position by position, the list of ends of trails whose paths are pairwise distinct,
in the post-order of paths, and are all the non-empty valid paths below the start node -/
theorem dfs_bottom_up_enumerates_paths (n : Node) (hW : WellKeyed n) :
    ∃ ts : List (List Item),
      ts.map trailEnd = dfsImpl (fun _ => false) (fun _ => true) true n ∧
      (∀ t ∈ ts, t ≠ [] ∧ IsTrail n t) ∧
      (ts.map pathOf).Nodup ∧
      (ts.map pathOf).Pairwise (PathLtPost n) ∧
      (∀ p, p ∈ ts.map pathOf ↔ p ≠ [] ∧ ValidPath n p) ∧
      (ts.map pathOf).length + 1 = n.size := by
  have hperm := trailsPost_perm (fun _ => false) n
  refine ⟨trailsPost (fun _ => false) n, ?_, ?_, ?_, postPaths_sorted n, ?_, ?_⟩
  · rw [dfs_bottom_up, trailsPost_end]
  · intro t ht; exact (mem_trails_noprune n t).mp (hperm.mem_iff.mp ht)
  · exact (postPaths_sorted n).imp (fun h => pathLtPost_irrefl n hW _ _ h)
  · intro p; rw [(hperm.map pathOf).mem_iff]; exact mem_paths_iff n p
  · rw [(hperm.map pathOf).length_eq]; exact paths_length n

private def hd (u : Nat) (c : Str) : Head :=
  { uid := u, cls := c, mro := [c], org := ⟨0, []⟩, props := [], truthy := true }
private def leaf (u : Nat) : Node := .mk (hd u ['L']) []
private def mid : Node := .mk (hd 2 ['M']) [.mk ['x'] false [leaf 3], .mk ['y'] true [leaf 5, leaf 6]]
private def shared : Node := .mk (hd 0 ['R']) [.mk ['a'] true [mid, mid], .mk ['b'] false [leaf 4]]

example : WellKeyed shared := by unfold WellKeyed EdgesNodup; decide +kernel
example : (trailsPost (fun _ => false) shared).map pathOf =
    [[⟨['a'], some 0⟩, ⟨['x'], none⟩], [⟨['a'], some 0⟩, ⟨['y'], some 0⟩],
     [⟨['a'], some 0⟩, ⟨['y'], some 1⟩], [⟨['a'], some 0⟩],
     [⟨['a'], some 1⟩, ⟨['x'], none⟩], [⟨['a'], some 1⟩, ⟨['y'], some 0⟩],
     [⟨['a'], some 1⟩, ⟨['y'], some 1⟩], [⟨['a'], some 1⟩], [⟨['b'], none⟩]] := by decide +kernel
example : (dfsImpl (fun _ => false) (fun _ => true) true shared).map (·.node.uid) =
    [3, 5, 6, 2, 3, 5, 6, 2, 4] := by decide

#print axioms trailsPost_perm
#print axioms trailsPost_end
#print axioms dfs_bottom_up_eq_trails
#print axioms mem_trailsPost_iff
#print axioms postPaths_sorted
#print axioms pathLtPost_irrefl
#print axioms dfs_bottom_up_enumerates_paths

end C05P
end PyOak
