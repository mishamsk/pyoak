/-
Bridge for the matcher graph of C08: the hand-written model of `matcher.match(value, ctx)` (`PM.Matcher.run`, i.e.
`PM.wrap` around `PM.Matcher.core` with its two loops `Matchers.runZip` / `Content.run`, Model/Pattern.lean) is the
definition GENERATED from the source text of `BaseMatcher.match` and the six `_match` methods of
src/pyoak/match/pattern.py (Gen/KernelsMatch.lean, regenerated by harness/py2lean_k.py `generate_match` on every run
of `./check C08`):

  run_eq_gen        m.run S v ctx  = GenK.PMatch.matcher_match S m v (some ctx)       every matcher, value, context
  matchNode_eq_gen  matchNode S m n = GenK.PMatch.matcher_match S m (.node n) none    (`matcher.match(node)`)
  gen_eq_spec / gen_match_iff        the C08 statements `run_eq_spec` / `match_iff` restated about the generated function:
                    they hold of the source as it is NOW.

The proofs only unfold definitions, split on the data and close the branches with `simp` / `grind`, so that a rewrite of
the source that leaves the meaning alone (inverted guards, renamed locals, split conditions) re-proves unchanged.
-/
import PyOak.Gen.KernelsMatch
import PyOak.Props.C08
namespace PyOak.GenBridge
open PyOak PyOak.PM
open PyOak.GenK.PMatch

/-- what the statements after a loop make of its outcome when they end in `return (True, ret_vars)` -/
def loopDone (r : GenK.PMatch.Loop (Ctx × Ctx)) : Res :=
  match r with
  | .error e => .error e
  | .ok (.inl p) => .ok p
  | .ok (.inr (_, ret)) => .ok (true, ret)

/-- the outcome of the model's `runZip` in the vocabulary of a generated loop -/
def zipLoop (r : Except Unit (Option (Ctx × Ctx))) : GenK.PMatch.Loop (Ctx × Ctx) :=
  match r with
  | .error e => .error e
  | .ok none => .ok (.inl (false, []))
  | .ok (some s) => .ok (.inr s)

/-- `BaseMatcher.match` of the source = `wrap` of the model -/
theorem wrap_eq_gen (name : Option Str) (f : MVal → Ctx → Res) (v : MVal) (ctx : Ctx) :
    wrap name v (f v ctx) = BaseMatcher_match name f v (some ctx) := by
  simp only [wrap, BaseMatcher_match]
  generalize f v ctx = r
  rcases r with e | ⟨ok, vars⟩
  · rfl
  · cases ok <;> cases name <;> simp

theorem wrap_eq_gen_none (name : Option Str) (f : MVal → Ctx → Res) (v : MVal) :
    wrap name v (f v []) = BaseMatcher_match name f v none :=
  wrap_eq_gen name f v []

/-- the tail `AnyMatcher` of a sequence only contributes its capture -/
theorem tail_eq_gen (S : Sem) (t : Option Str) (rest : List MVal) (l : Ctx) :
    BaseMatcher_match t (fun value ctx => AnyMatcher__match S value ctx) (.tup rest) (some l)
      = .ok (true, tailVars t rest) := by
  cases t <;> simp [BaseMatcher_match, AnyMatcher__match, tailVars, Ctx.update]

theorem pyEq_none (S : Sem) (v : MVal) : pyEq S v .none = v.isNone := by
  cases v <;> simp [pyEq, MVal.isNone]

theorem pyEq_emptyTup (S : Sem) (v : MVal) : pyEq S v (.tup []) = v.isEmptyTup := by
  cases v with
  | tup xs => cases xs <;> simp [pyEq, pyEqList, MVal.isEmptyTup]
  | _ => simp [pyEq, MVal.isEmptyTup]

/-- the four matchers without sub-matchers -/
theorem core_leaf_eq_gen (S : Sem) (v : MVal) (ctx : Ctx) :
    (∀ nm, Matcher.core S (.any nm) v ctx = AnyMatcher__match S v ctx) ∧
    (∀ nm, Matcher.core S (.valNone nm) v ctx = ValueMatcher__match S .none v ctx) ∧
    (∀ nm, Matcher.core S (.valEmpty nm) v ctx = ValueMatcher__match S (.tup []) v ctx) ∧
    (∀ nm re, Matcher.core S (.regex nm re) v ctx = RegexMatcher__match S re v ctx) ∧
    (∀ nm x, Matcher.core S (.var nm x) v ctx = VarMatcher__match S x v ctx) := by
  refine ⟨fun _ => ?_, fun _ => ?_, fun _ => ?_, fun _ re => ?_, fun _ x => ?_⟩
  · simp [Matcher.core, AnyMatcher__match]
  · simp only [Matcher.core, ValueMatcher__match, pyEq_none]
    cases v.isNone <;> simp
  · simp only [Matcher.core, ValueMatcher__match, pyEq_emptyTup]
    cases v.isEmptyTup <;> simp
  · simp only [Matcher.core, RegexMatcher__match]
    cases S.rx re v.strText <;> simp
  · simp only [Matcher.core, VarMatcher__match]
    cases ctx.lookup x with
    | none => rfl
    | some c => cases c <;> cases v <;> simp [varEq, nodeIsEqual]

/-- `SequenceMatcher._match` around any loop that agrees with `runZip` -/
theorem core_seq_eq_gen (S : Sem) (nm : Option Str) (ms : Matchers) (tail : Option (Option Str)) (v : MVal) (ctx : Ctx)
    (loop : List MVal → Ctx → Ctx → GenK.PMatch.Loop (Ctx × Ctx))
    (hloop : ∀ xs l r, loop xs l r = zipLoop (ms.runZip S xs l r)) :
    Matcher.core S (.seq nm ms tail) v ctx = SequenceMatcher__match S loop ms tail v ctx := by
  cases v with
  | tup xs =>
    simp only [Matcher.core, SequenceMatcher__match, hloop, tail_eq_gen]
    cases tail with
    | none =>
      by_cases hlen : xs.length = ms.length
      · simp only [hlen, zipLoop]
        cases ms.runZip S xs ctx [] with
        | error e => simp
        | ok o => cases o <;> simp
      · simp [hlen]
    | some t =>
      by_cases hlen : xs.length < ms.length
      · simp [hlen]
      · simp only [hlen, zipLoop]
        cases ms.runZip S xs ctx [] with
        | error e => simp
        | ok o => cases o <;> simp
  | node n => simp [Matcher.core, SequenceMatcher__match]
  | atom t a => simp [Matcher.core, SequenceMatcher__match]
  | none => simp [Matcher.core, SequenceMatcher__match]

/-- `NodeMatcher._match` around any loop that agrees with `Content.run` -/
theorem core_node_eq_gen (S : Sem) (nm : Option Str) (types : List Str) (c : Content) (v : MVal) (ctx : Ctx)
    (loop : Node → Ctx → Ctx → GenK.PMatch.Loop (Ctx × Ctx))
    (hloop : ∀ n l r, loopDone (loop n l r) = c.run S n l r) :
    Matcher.core S (.node nm types c) v ctx = NodeMatcher__match S loop types c v ctx := by
  cases v with
  | node n =>
    simp only [Matcher.core, NodeMatcher__match, ← hloop, loopDone]
    cases types.any (instOf n) with
    | false => simp
    | true =>
      simp only [if_true]
      cases loop n ctx [] with
      | error e => rfl
      | ok o => cases o <;> rfl
  | tup xs => simp [Matcher.core, NodeMatcher__match]
  | atom t a => simp [Matcher.core, NodeMatcher__match]
  | none => simp [Matcher.core, NodeMatcher__match]

theorem run_of_core {S : Sem} {m : Matcher} {v : MVal} {ctx : Ctx} {f : MVal → Ctx → Res}
    (h : m.core S v ctx = f v ctx) : m.run S v ctx = BaseMatcher_match m.name f v (some ctx) := by
  rw [Matcher.run, h]
  exact wrap_eq_gen m.name f v ctx

mutual
/-- **model = source**, with a context -/
theorem run_eq_gen (S : Sem) : ∀ (m : Matcher) (v : MVal) (ctx : Ctx),
    m.run S v ctx = matcher_match S m v (some ctx)
  | .any nm, v, ctx => run_of_core ((core_leaf_eq_gen S v ctx).1 nm)
  | .valNone nm, v, ctx => run_of_core ((core_leaf_eq_gen S v ctx).2.1 nm)
  | .valEmpty nm, v, ctx => run_of_core ((core_leaf_eq_gen S v ctx).2.2.1 nm)
  | .regex nm re, v, ctx => run_of_core ((core_leaf_eq_gen S v ctx).2.2.2.1 nm re)
  | .var nm x, v, ctx => run_of_core ((core_leaf_eq_gen S v ctx).2.2.2.2 nm x)
  | .seq nm ms tail, v, ctx =>
    run_of_core (core_seq_eq_gen S nm ms tail v ctx _ (fun xs l r => runZip_eq_gen S ms xs l r))
  | .node nm types c, v, ctx =>
    run_of_core (core_node_eq_gen S nm types c v ctx _ (fun n l r => content_eq_gen S c n l r))
/-- the `for matcher, val in zip(self.matchers, value, strict=False)` loop -/
theorem runZip_eq_gen (S : Sem) : ∀ (ms : Matchers) (xs : List MVal) (l r : Ctx),
    SequenceMatcher__match_loop_1 S ms xs l r = zipLoop (ms.runZip S xs l r)
  | .nil, xs, l, r => by simp [SequenceMatcher__match_loop_1, Matchers.runZip, zipLoop]
  | .cons m rest, [], l, r => by simp [SequenceMatcher__match_loop_1, Matchers.runZip, zipLoop]
  | .cons m rest, x :: xs, l, r => by
    have ih := run_eq_gen S m x l
    have ihr := fun l' r' => runZip_eq_gen S rest xs l' r'
    simp only [Matcher.run] at ih
    simp only [SequenceMatcher__match_loop_1, Matchers.runZip, ih, ihr]
    cases matcher_match S m x (some l) with
    | error e => simp [zipLoop]
    | ok p =>
      obtain ⟨ok, vars⟩ := p
      cases ok <;> simp [zipLoop]
/-- the `for fname, submatcher in self.content` loop followed by `return (True, ret_vars)` -/
theorem content_eq_gen (S : Sem) : ∀ (c : Content) (n : Node) (l r : Ctx),
    loopDone (NodeMatcher__match_loop_1 S c n l r) = c.run S n l r
  | .nil, n, l, r => by simp [NodeMatcher__match_loop_1, Content.run, loopDone]
  | .cons f m rest, n, l, r => by
    have ihr := fun l' r' => content_eq_gen S rest n l' r'
    simp only [NodeMatcher__match_loop_1, Content.run]
    cases getField n f with
    | none => simp [loopDone]
    | some fv =>
      have ih := run_eq_gen S m fv l
      simp only [Matcher.run] at ih
      simp only [ih]
      cases matcher_match S m fv (some l) with
      | error e => simp [loopDone]
      | ok p =>
        obtain ⟨ok, vars⟩ := p
        cases ok
        · simp [loopDone]
        · simpa using ihr _ _
end

/-- **model = source**, `matcher.match(node)` (no context given) -/
theorem matchNode_eq_gen (S : Sem) (m : Matcher) (n : Node) :
    matchNode S m n = matcher_match S m (.node n) none := by
  rw [matchNode, run_eq_gen]
  cases m <;> rfl

/-- `C08.run_eq_spec` about the source as it is now: for every accepted pattern, the function generated from
pattern.py returns what the documented semantics prescribes, on every value and every context -/
theorem gen_eq_spec (K : CEnv) (S : Sem) (p : Pat) (m : Matcher) (h : compile K p = .ok m) (v : MVal) (ctx : Ctx) :
    matcher_match S m v (some ctx) = (specPat S p v ctx).map specRes := by
  rw [← run_eq_gen]; exact C08.run_eq_spec K S p m h v ctx

/-- `C08.match_iff` about the source as it is now -/
theorem gen_match_iff (K : CEnv) (S : Sem) (p : Pat) (m : Matcher) (h : compile K p = .ok m) (n : Node) (caps : Ctx) :
    matcher_match S m (.node n) none = .ok (true, caps) ↔ specMatch S p n = .ok (some caps) := by
  rw [← matchNode_eq_gen]; exact C08.match_iff K S p m h n caps

/-- non-vacuity (the hypothesis `compile K p = .ok m` of the two statements above): accepted patterns on which the
generated function answers `True` with the expected captures, resp. `(False, {})` -/
example : ∃ m, compile C08.exK C08.exP9 = .ok m
    ∧ C08.capKeys (matcher_match C08.exS m (.node (C08.exTup [C08.exLeaf 1, C08.exLeaf 2, C08.exLeaf 3])) none) = [['r'], ['a']]
    ∧ C08.okTrue (matcher_match C08.exS m (.node (C08.exTup [C08.exLeaf 1, C08.exLeaf 2, C08.exLeaf 3])) none) = true
    ∧ C08.okFalse (matcher_match C08.exS m (.node (C08.exTup [C08.exLeaf 1])) none) = true :=
  ⟨_, rfl, by decide, by decide, by decide⟩

end PyOak.GenBridge
