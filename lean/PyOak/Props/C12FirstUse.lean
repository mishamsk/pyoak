/-
C12 — first-use independence END TO END.

`C12.call_runs_own_function` is about the slot machine `World`: one accessor, and a class INDEX as the
conclusion.  `Prog` (Model/AccessorsWorld.lean) is the same machine with the class table, the four slot
tables holding generated CODE, and the memo of `get_cls_child_fields` / `get_cls_props`; the invariant
(`GoodP`) and the induction over histories have the shape of `World.Good` / `good_of_reach`.
Cf. AUDIT.md C12 §4 (i), (iii).

  dispatch_own_code      after ANY history of class definitions, accessor calls (any of the four,
                         on instances of any class, sub- or superclass first) and static
                         `get_child_fields` / `get_property_fields` calls, the code that runs when
                         accessor `a` is called on an instance of class `k` is the code generated
                         from `process_node_fields(fields(k))` — the class's OWN definition
  get_child_nodes_e2e … to_properties_dict_e2e
                         hence every public accessor returns the SPECIFICATION value of Spec/Accessors.lean
                         for class `k` (`spec…  (decl k)`), for every instance, flag vector, sort flag
  first_use_independent  two arbitrary histories, same class definition ⇒ same results: "the result
                         does not depend on which class of a hierarchy was instantiated or queried first"
  without_repointing_e2e_fails   without the re-pointing of `__init_subclass__` a subclass defined
                         after the first use of its base returns the BASE's children
-/
import PyOak.Model.AccessorsWorld
import PyOak.Props.C12
namespace PyOak
namespace Acc
namespace C12

/-- the histories a program can produce: class definitions (any definition, any MRO) and, in any
order and on any class, calls of the four generated accessors and of the static field getters -/
inductive ReachP : Prog → Prop
  | init : ReachP Prog.init
  | define (p : Prog) (d : ClassDecl) (mro : List Nat) : ReachP p → ReachP (p.defineClass d mro)
  | call (p : Prog) (a : AccId) (k : Nat) : ReachP p → k < p.decls.length → ReachP (p.dispatch a k).2
  | fields (p : Prog) (k : Nat) : ReachP p → k < p.decls.length → ReachP (p.clsFields k).2

/-- every class has its own entry for every accessor — the stub or the code generated from ITS
fields — and its memo entry is absent or what `process_node_fields` yields for it -/
structure GoodP (p : Prog) : Prop where
  lenM : p.mros.length = p.decls.length
  lenS : ∀ a, (p.slots a).length = p.decls.length
  lenMemo : p.memo.length = p.decls.length
  slot : ∀ a, OwnEntries (some .stub) (fun k => some (.gen (genCode a (p.fieldsOf k)))) (p.slots a)
  memo : OwnEntries none (fun k => some (p.fieldsOf k)) p.memo

theorem fieldsOf_defineClass_lt (p : Prog) (d : ClassDecl) (mro : List Nat) (k : Nat)
    (hk : k < p.decls.length) : (p.defineClass d mro).fieldsOf k = p.fieldsOf k := by
  simp [Prog.fieldsOf, Prog.decl, Prog.defineClass, List.getElem?_append_left hk]

theorem goodP_init : GoodP Prog.init := ⟨rfl, fun _ => rfl, rfl, fun _ => .nil, .nil⟩

theorem goodP_define {p : Prog} (h : GoodP p) (d : ClassDecl) (mro : List Nat) :
    GoodP (p.defineClass d mro) :=
  ⟨by simp [Prog.defineClass, h.lenM], fun a => by simp [Prog.defineClass, h.lenS a],
    by simp [Prog.defineClass, h.lenMemo],
    fun a => (h.slot a).snoc fun k hk => by rw [fieldsOf_defineClass_lt p d mro k (h.lenS a ▸ hk)],
    h.memo.snoc fun k hk => by rw [fieldsOf_defineClass_lt p d mro k (h.lenMemo ▸ hk)]⟩

/-- the memo: `get_cls_*` returns what `process_node_fields` yields for the class, whether the
entry was there or not -/
theorem clsFields_fst {p : Prog} (h : GoodP p) {k : Nat} (hk : k < p.decls.length) :
    (p.clsFields k).1 = p.fieldsOf k := by
  unfold Prog.clsFields
  rcases h.memo k (h.lenMemo ▸ hk) with e | e <;> simp [e, Prog.fieldsOf]

theorem clsFields_snd (p : Prog) (k : Nat) :
    (p.clsFields k).2 = p ∨ (p.clsFields k).2 = { p with memo := p.memo.set k (some (p.fieldsOf k)) } := by
  unfold Prog.clsFields
  cases (p.memo[k]?).join <;> simp [Prog.fieldsOf]

theorem goodP_clsFields {p : Prog} (h : GoodP p) (k : Nat) : GoodP (p.clsFields k).2 := by
  rcases clsFields_snd p k with e | e <;> rw [e]
  · exact h
  · exact ⟨h.lenM, h.lenS, by simp [h.lenMemo], h.slot, h.memo.set k⟩

theorem clsFields_decls (p : Prog) (k : Nat) : (p.clsFields k).2.decls = p.decls := by
  rcases clsFields_snd p k with e | e <;> rw [e]

theorem Prog.lookup_own {p : Prog} {a : AccId} {k : Nat} {s : SlotC} (h : (p.slots a)[k]? = some (some s)) :
    p.lookup a k = s := by
  simp [Prog.lookup, h]

theorem lookup_goodP {p : Prog} (h : GoodP p) (a : AccId) {k : Nat} (hk : k < p.decls.length) :
    p.lookup a k = .stub ∨ p.lookup a k = .gen (genCode a (p.fieldsOf k)) :=
  (h.slot a k (h.lenS a ▸ hk)).imp Prog.lookup_own Prog.lookup_own

theorem goodP_install {p : Prog} (h : GoodP p) (a : AccId) {k : Nat} :
    GoodP (p.install a k (genCode a (p.fieldsOf k))) := by
  refine ⟨h.lenM, fun b => ?_, h.lenMemo, fun b => ?_, h.memo⟩
  · show (if b = a then (p.slots a).set k _ else p.slots b).length = p.decls.length
    split
    · simp [h.lenS a]
    · exact h.lenS b
  · show OwnEntries _ _ (if b = a then (p.slots a).set k _ else p.slots b)
    split
    · next e => subst e; exact (h.slot b).set k
    · exact h.slot b

theorem lookup_install {p : Prog} (h : GoodP p) (a : AccId) {k : Nat} (hk : k < p.decls.length) (code : Code) :
    (p.install a k code).lookup a k = .gen code :=
  Prog.lookup_own (by simp [Prog.install, h.lenS a, hk])

theorem dispatch_goodP {p : Prog} (h : GoodP p) (a : AccId) {k : Nat} (hk : k < p.decls.length) :
    (p.dispatch a k).1 = genCode a (p.fieldsOf k) ∧ GoodP (p.dispatch a k).2 ∧
      (p.dispatch a k).2.decls = p.decls := by
  unfold Prog.dispatch
  rcases lookup_goodP h a hk with e | e
  · -- the stub: memo read or filled, code generated from it, installed on `k`, found there again
    rw [e]
    have h1 := goodP_clsFields h k
    have hd := clsFields_decls p k
    have hfo : (p.clsFields k).2.fieldsOf k = p.fieldsOf k := by simp [Prog.fieldsOf, Prog.decl, hd]
    simp only []
    rw [clsFields_fst h hk, lookup_install h1 a (hd ▸ hk)]
    exact ⟨rfl, hfo ▸ goodP_install h1 a, hd⟩
  · rw [e]; exact ⟨rfl, h, rfl⟩

theorem goodP_of_reach {p : Prog} (h : ReachP p) : GoodP p := by
  induction h with
  | init => exact goodP_init
  | define p d mro _ ih => exact goodP_define ih d mro
  | call p a k _ hk ih => exact (dispatch_goodP ih a hk).2.1
  | fields p k _ _ ih => exact goodP_clsFields ih k

/-- **the code that runs is the class's own**: after any history, calling accessor `a` on an
instance of class `k` executes the function generated from `process_node_fields(fields(k))` -/
theorem dispatch_own_code {p : Prog} (h : ReachP p) (a : AccId) {k : Nat} (hk : k < p.decls.length) :
    (p.dispatch a k).1 = genCode a (processNodeFields (p.decl k).fields) :=
  (dispatch_goodP (goodP_of_reach h) a hk).1

/-! ### end to end: every accessor returns the specification value of the class -/

theorem runNodes_genCode (c : ClassDecl) (i : Inst) (s : Bool) :
    (genCode .childNodes (processNodeFields c.fields)).runNodes i s = getChildNodes c i s := rfl
theorem runNodesWF_genCode (c : ClassDecl) (i : Inst) (s : Bool) :
    (genCode .childNodesWF (processNodeFields c.fields)).runNodesWF i s = getChildNodesWithField c i s := rfl
theorem runIterCF_genCode (c : ClassDecl) (i : Inst) (s : Bool) :
    (genCode .iterChildFields (processNodeFields c.fields)).runIterCF i s = iterChildFields c i s := rfl
theorem runProps_genCode (c : ClassDecl) (i : Inst) (fl : Flags) (s : Bool) :
    (genCode .properties (processNodeFields c.fields)).runProps i fl s = getProperties c i fl s := rfl

section E2E
variable {p : Prog} (h : ReachP p) {k : Nat} (hk : k < p.decls.length)
include h hk

theorem get_child_nodes_e2e (i : Inst) (s : Bool) :
    (p.getChildNodes k i s).1 = specChildNodes (p.decl k) i s := by
  rw [← get_child_nodes_eq_spec, ← runNodes_genCode, ← dispatch_own_code h .childNodes hk]
  rfl

theorem get_child_nodes_with_field_e2e (i : Inst) (s : Bool) :
    (p.getChildNodesWithField k i s).1 = specChildNodesWithField (p.decl k) i s := by
  rw [← get_child_nodes_with_field_eq_spec, ← runNodesWF_genCode, ← dispatch_own_code h .childNodesWF hk]
  rfl

theorem iter_child_fields_e2e (i : Inst) (s : Bool) :
    (p.iterChildFields k i s).1 = specIterChildFields (p.decl k) i s := by
  rw [← iter_child_fields_eq_spec, ← runIterCF_genCode, ← dispatch_own_code h .iterChildFields hk]
  rfl

theorem get_properties_e2e (i : Inst) (fl : Flags) (s : Bool) :
    (p.getProperties k i fl s).1 = specProperties (p.decl k) i fl s := by
  rw [← get_properties_eq_spec, ← runProps_genCode, ← dispatch_own_code h .properties hk]
  rfl

theorem children_e2e (i : Inst) : (p.children k i).1 = specChildNodes (p.decl k) i false :=
  get_child_nodes_e2e h hk i false

theorem get_child_fields_e2e : (p.getChildFields k).1 = specChildFields (p.decl k) := by
  rw [← get_child_fields_eq_spec]
  simp only [Prog.getChildFields, clsFields_fst (goodP_of_reach h) hk]
  rfl

theorem get_property_fields_e2e (fl : Flags) :
    (p.getPropertyFields k fl).1 = specPropertyFields (p.decl k) fl false := by
  rw [← get_property_fields_eq_spec]
  simp only [Prog.getPropertyFields, clsFields_fst (goodP_of_reach h) hk]
  rfl

theorem to_properties_dict_e2e (i : Inst) :
    (p.toPropertiesDict k i).1 = specPropertiesDict (p.decl k) i := by
  rw [← to_properties_dict_eq_spec]
  simp only [Prog.toPropertiesDict, Prog.getProperties, dispatch_own_code h .properties hk]
  rfl

end E2E

/-- **first-use independence, end to end**: two arbitrary histories (other classes defined, other
classes of the hierarchy instantiated / queried first, other accessors used first) and two class
indices that carry the same class definition: every accessor returns the same result -/
theorem first_use_independent {p₁ p₂ : Prog} (h₁ : ReachP p₁) (h₂ : ReachP p₂) {k₁ k₂ : Nat}
    (hk₁ : k₁ < p₁.decls.length) (hk₂ : k₂ < p₂.decls.length) (hd : p₁.decl k₁ = p₂.decl k₂)
    (i : Inst) (fl : Flags) (s : Bool) :
    (p₁.getChildNodes k₁ i s).1 = (p₂.getChildNodes k₂ i s).1 ∧
    (p₁.getChildNodesWithField k₁ i s).1 = (p₂.getChildNodesWithField k₂ i s).1 ∧
    (p₁.iterChildFields k₁ i s).1 = (p₂.iterChildFields k₂ i s).1 ∧
    (p₁.getProperties k₁ i fl s).1 = (p₂.getProperties k₂ i fl s).1 ∧
    (p₁.getChildFields k₁).1 = (p₂.getChildFields k₂).1 ∧
    (p₁.getPropertyFields k₁ fl).1 = (p₂.getPropertyFields k₂ fl).1 ∧
    (p₁.toPropertiesDict k₁ i).1 = (p₂.toPropertiesDict k₂ i).1 := by
  rw [get_child_nodes_e2e h₁ hk₁, get_child_nodes_e2e h₂ hk₂,
    get_child_nodes_with_field_e2e h₁ hk₁, get_child_nodes_with_field_e2e h₂ hk₂,
    iter_child_fields_e2e h₁ hk₁, iter_child_fields_e2e h₂ hk₂,
    get_properties_e2e h₁ hk₁, get_properties_e2e h₂ hk₂,
    get_child_fields_e2e h₁ hk₁, get_child_fields_e2e h₂ hk₂,
    get_property_fields_e2e h₁ hk₁, get_property_fields_e2e h₂ hk₂,
    to_properties_dict_e2e h₁ hk₁, to_properties_dict_e2e h₂ hk₂, hd]
  exact ⟨rfl, rfl, rfl, rfl, rfl, rfl, rfl⟩

/-- in particular: a call does not change what any later call returns (the state a call leaves
behind is again reachable, and the class table is untouched) -/
theorem call_then_call {p : Prog} (h : ReachP p) (a : AccId) {j k : Nat} (hj : j < p.decls.length)
    (hk : k < p.decls.length) (i : Inst) (fl : Flags) (s : Bool) :
    ((p.dispatch a j).2.getProperties k i fl s).1 = (p.getProperties k i fl s).1 ∧
    ((p.dispatch a j).2.getChildNodesWithField k i s).1 = (p.getChildNodesWithField k i s).1 := by
  have hd := (dispatch_goodP (goodP_of_reach h) a hj).2.2
  have fu := first_use_independent (.call p a j h hj) h (k₁ := k) (k₂ := k) (hd ▸ hk) hk
    (by simp [Prog.decl, hd]) i fl s
  exact ⟨fu.2.2.2.1, fu.2.1⟩

/-! ### non-vacuity: a two-class hierarchy, the subclass queried first -/

section Demo

private def fA : List FDecl := [⟨['x'], .childOne, true, true, false⟩, ⟨['v'], .prop, true, true, false⟩]
private def fB : List FDecl := [⟨['y', 's'], .childTuple, true, true, false⟩, ⟨['w'], .prop, false, true, false⟩]
/-- class A(ASTNode): x: Kid; v: int        class B(A): ys: tuple[Kid, ...]; w = field(compare=False) -/
private def dA : ClassDecl := ⟨[fA]⟩
private def dB : ClassDecl := ⟨[fA, fB]⟩

private def iB : Inst :=
  [ (nmId, .prop 100), (nmContentId, .prop 101), (nmOrigin, .prop 102),
    (['x'], .node ⟨1, false⟩), (['v'], .prop 5), (['y', 's'], .tuple [⟨2, true⟩, ⟨3, false⟩]), (['w'], .prop 6) ]

private def p0 : Prog := (Prog.init.defineClass dA []).defineClass dB [0]
/-- history 1: the SUBCLASS is queried first (properties, then children), then the base -/
private def h1 : Prog := ((((p0.dispatch .properties 1).2).dispatch .childNodesWF 1).2.dispatch .properties 0).2
/-- history 2: the BASE is used first with every accessor, then a third class is defined -/
private def h2 : Prog :=
  (((((p0.dispatch .properties 0).2).dispatch .childNodesWF 0).2.dispatch .childNodes 0).2.clsFields 1).2.defineClass dB [1, 0]

private theorem reach_p0 : ReachP p0 := .define _ _ _ (.define _ _ _ .init)
private theorem reach_h1 : ReachP h1 :=
  .call _ _ 0 (.call _ _ 1 (.call _ _ 1 reach_p0 (by decide)) (by decide)) (by decide)
private theorem reach_h2 : ReachP h2 :=
  .define _ _ _ (.fields _ 1 (.call _ _ 0 (.call _ _ 0 (.call _ _ 0 reach_p0 (by decide)) (by decide)) (by decide))
    (by decide))

example : ((h1.getChildNodesWithField 1 iB false).1.map fun x => (x.1.uid, String.ofList x.2.1.name, x.2.2))
    = [(1, "x", none), (2, "ys", some 0), (3, "ys", some 1)] := by decide +kernel
example : ((h2.getChildNodesWithField 1 iB false).1.map fun x => (x.1.uid, String.ofList x.2.1.name, x.2.2))
    = [(1, "x", none), (2, "ys", some 0), (3, "ys", some 1)] := by decide +kernel
-- the freshly defined third class (index 2, same definition as B) through the theorem
example : (h1.getChildNodesWithField 1 iB true).1 = (h2.getChildNodesWithField 2 iB true).1 :=
  (first_use_independent reach_h1 reach_h2 (k₁ := 1) (k₂ := 2) (by decide) (by decide) rfl iB Flags.default true).2.1
example : ((h1.getProperties 1 iB ⟨true, true, true, true, false⟩ true).1.map fun x => String.ofList x.2.name)
    = ["v"] := by decide +kernel
-- the base class is not disturbed by its subclass having been used first
example : ((h1.getChildNodesWithField 0 iB false).1.map fun x => (x.1.uid, String.ofList x.2.1.name))
    = [(1, "x")] := by decide +kernel

/-- why `__init_subclass__` must re-point the accessors, END TO END: `A` used, then `B(A)` defined
without the re-pointing → an instance of `B` gets `A`'s children only (`ys` is lost) -/
theorem without_repointing_e2e_fails :
    let p := ((Prog.init.defineClass dA []).dispatch .childNodesWF 0).2.defineClassNoRepoint dB [0]
    ((p.getChildNodesWithField 1 iB false).1.map fun x => x.1.uid) = [1] ∧
    ((specChildNodesWithField dB iB false).map fun x => x.1.uid) = [1, 2, 3] := by decide +kernel

end Demo

end C12
end Acc
end PyOak
