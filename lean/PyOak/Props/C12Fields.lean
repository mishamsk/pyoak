/- C12: `dataclasses.fields(cls)` of a chain (`resolve`) is the declaration order of the hierarchy with every
   override in the slot of the field it overrides; `process_node_fields` is an order-preserving partition by kind (`childFields_eq`, `props_eq`,
   `partition`). -/
import PyOak.Props.C12Order
namespace PyOak
namespace Acc
namespace C12

/-! ## `dataclasses.fields()` of a chain = declaration order with overrides in their slot -/

theorem dictSet_names (l : List FDecl) (f : FDecl) :
    (dictSet l f).map FDecl.name =
      if f.name ∈ l.map FDecl.name then l.map FDecl.name else l.map FDecl.name ++ [f.name] := by
  induction l with
  | nil => simp [dictSet]
  | cons g r ih =>
    simp only [dictSet]
    by_cases h : g.name = f.name
    · simp [h]
    · have h' : ¬ f.name = g.name := fun e => h e.symm
      simp only [h, if_false, List.map_cons, ih, List.mem_cons, h', false_or]
      split <;> simp

theorem mem_dictSet {l : List FDecl} {f d : FDecl} (hn : (l.map FDecl.name).Nodup) (h : d ∈ dictSet l f) :
    d = f ∨ (d ∈ l ∧ d.name ≠ f.name) := by
  induction l with
  | nil => simp [dictSet] at h; exact Or.inl h
  | cons g r ih =>
    simp only [List.map_cons, List.nodup_cons, List.mem_map, not_exists, not_and] at hn
    simp only [dictSet] at h
    by_cases hg : g.name = f.name
    · simp only [hg, if_true, List.mem_cons] at h
      rcases h with h | h
      · exact Or.inl h
      · refine Or.inr ⟨by simp [h], fun e => hn.1 d h (e.trans hg.symm)⟩
    · simp only [hg, if_false, List.mem_cons] at h
      rcases h with h | h
      · subst h; exact Or.inr ⟨by simp, hg⟩
      · rcases ih hn.2 h with h | h
        · exact Or.inl h
        · exact Or.inr ⟨by simp [h.1], h.2⟩

theorem mem_firstNames (n : Str) (xs : List Str) : n ∈ firstNames xs ↔ n ∈ xs := by
  induction xs with
  | nil => simp [firstNames]
  | cons x r ih =>
    simp only [firstNames, List.mem_cons, List.mem_filter, ih]
    by_cases h : n = x <;> simp [h]

theorem firstNames_nodup (xs : List Str) : (firstNames xs).Nodup := by
  induction xs with
  | nil => simp [firstNames]
  | cons x r ih =>
    simp only [firstNames, List.nodup_cons, List.mem_filter]
    exact ⟨by simp, List.Pairwise.sublist List.filter_sublist ih⟩

theorem firstNames_snoc (xs : List Str) (n : Str) :
    firstNames (xs ++ [n]) = if n ∈ xs then firstNames xs else firstNames xs ++ [n] := by
  induction xs with
  | nil => simp [firstNames]
  | cons x r ih =>
    simp only [List.cons_append, firstNames, ih, List.mem_cons]
    by_cases hr : n ∈ r
    · simp [hr]
    · by_cases hx : n = x
      · subst hx; simp [hr, List.filter_append]
      · simp [hr, hx, List.filter_append]

theorem lastDecl_snoc (n : Str) (ds : List FDecl) (f : FDecl) :
    lastDecl n (ds ++ [f]) = if f.name = n then some f else lastDecl n ds := by
  induction ds with
  | nil => simp [lastDecl]
  | cons d r ih =>
    simp only [List.cons_append, lastDecl, ih]
    by_cases h : f.name = n
    · simp [h]
    · simp [h]

/-- what one `fields[f.name] = f` preserves -/
structure ResInv (acc seen : List FDecl) : Prop where
  names : acc.map FDecl.name = firstNames (seen.map FDecl.name)
  last : ∀ d ∈ acc, lastDecl d.name seen = some d

theorem ResInv.nodup {acc seen : List FDecl} (h : ResInv acc seen) : (acc.map FDecl.name).Nodup := by
  rw [h.names]; exact firstNames_nodup _

theorem ResInv.step {acc seen : List FDecl} (h : ResInv acc seen) (f : FDecl) :
    ResInv (dictSet acc f) (seen ++ [f]) := by
  constructor
  · rw [dictSet_names, List.map_append, List.map_cons, List.map_nil, firstNames_snoc, h.names]
    simp only [mem_firstNames]
  · intro d hd
    rw [lastDecl_snoc]
    rcases mem_dictSet h.nodup hd with hd | hd
    · simp [hd]
    · have : ¬ f.name = d.name := fun e => hd.2 e.symm
      simp only [this, if_false]
      exact h.last d hd.1

theorem ResInv.foldl {acc seen : List FDecl} (h : ResInv acc seen) (ds : List FDecl) :
    ResInv (ds.foldl dictSet acc) (seen ++ ds) := by
  induction ds generalizing acc seen with
  | nil => simpa using h
  | cons f r ih =>
    have := ih (h.step f)
    simpa [List.append_assoc] using this

theorem resolve_eq_foldl (ls : List (List FDecl)) : resolve ls = ls.flatten.foldl dictSet [] := by
  simp [resolve, List.foldl_flatten]

theorem fields_inv (c : ClassDecl) : ResInv c.fields c.allDecls := by
  have h0 : ResInv [] [] := ⟨rfl, by simp⟩
  have := h0.foldl c.allDecls
  simpa [ClassDecl.fields, resolve_eq_foldl, ClassDecl.allDecls] using this

theorem fields_names_nodup (c : ClassDecl) : (c.fields.map FDecl.name).Nodup := (fields_inv c).nodup

/-- the slots: names in order of first declaration along the chain -/
theorem fields_names (c : ClassDecl) :
    c.fields.map FDecl.name = firstNames (c.allDecls.map FDecl.name) := (fields_inv c).names

/-- every slot holds the most derived declaration of its name -/
theorem fields_most_derived (c : ClassDecl) (d : FDecl) (h : d ∈ c.fields) :
    lastDecl d.name c.allDecls = some d := (fields_inv c).last d h

theorem eq_filterMap_of_last (l decls : List FDecl) (h : ∀ d ∈ l, lastDecl d.name decls = some d) :
    l = (l.map FDecl.name).filterMap fun n => lastDecl n decls := by
  induction l with
  | nil => rfl
  | cons d r ih =>
    simp only [List.map_cons, List.filterMap_cons, h d (by simp)]
    rw [← ih (fun x hx => h x (by simp [hx]))]

/-- **`dataclasses.fields(cls)` is the declaration order of the hierarchy** -/
theorem fields_eq_declOrder (c : ClassDecl) : c.fields = declOrder c.allDecls := by
  have := eq_filterMap_of_last c.fields c.allDecls (fields_most_derived c)
  rw [fields_names] at this
  exact this

/-! ## `process_node_fields` is a partition by kind that keeps the order -/

theorem processNodeFields_aux (fs a b : List FDecl) :
    fs.foldl (fun (acc : List FDecl × List FDecl) f =>
      if f.kind = .prop then (acc.1, acc.2 ++ [f]) else (acc.1 ++ [f], acc.2)) (a, b)
    = (a ++ fs.filter FDecl.isChild, b ++ fs.filter FDecl.isProp) := by
  induction fs generalizing a b with
  | nil => simp
  | cons f r ih =>
    simp only [List.foldl_cons]
    by_cases h : f.kind = .prop
    · simp [h, ih, FDecl.isChild, FDecl.isProp]
    · simp [h, ih, FDecl.isChild, FDecl.isProp]

theorem childFields_eq (c : ClassDecl) : c.childFields = c.fields.filter FDecl.isChild := by
  simp [ClassDecl.childFields, processNodeFields, processNodeFields_aux]

theorem props_eq (c : ClassDecl) : c.props = c.fields.filter FDecl.isProp := by
  simp [ClassDecl.props, processNodeFields, processNodeFields_aux]

/-- `process_node_fields` partitions `fields(cls)`: child fields and properties together are a
permutation of all fields, and no field is in both -/
theorem partition (c : ClassDecl) :
    (c.childFields ++ c.props).Perm c.fields ∧ ∀ d, d ∈ c.childFields → d ∉ c.props := by
  rw [childFields_eq, props_eq]
  constructor
  · have : (fun d : FDecl => d.isProp) = (fun d => !d.isChild) := by
      funext d; simp [FDecl.isProp, FDecl.isChild]
    have h := List.filter_append_perm FDecl.isChild c.fields
    simpa [this] using h
  · intro d hd hp
    simp only [List.mem_filter, FDecl.isChild, FDecl.isProp] at hd hp
    simp_all

end C12
end Acc
end PyOak
