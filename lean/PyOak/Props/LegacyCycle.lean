/-
`detach` on a heap with a cycle does not return.

`replace_with` on a receiver that has a parent clears the receiver's parent link and detaches the
receiver's subtree.  If the parent were a descendant of the receiver (a cycle through the receiver --
the invariant of C18 does not exclude cycles of length ≥ 2), the walk would come back to the receiver
while the receiver is still registered and start over: it never ends.  In the model: every fuel is
exhausted (`none`), the step answers `hang`.

A finished run of `detach` never unregisters a node of a set of attached nodes each of which has a child in
the set: a node is unregistered only after all its children are, so the first node of the set to go would still
have an attached child (`detachGo_keeps`).  Hence, if the `detach` of the receiver returned, the parent is not a
descendant (`detach_no_cycle`).  `rwith_open` is the common first half of `replace_with` on a receiver with a
parent: the invariant holds with one hole at the parent, the parent is still attached, the receiver is not.
-/
import PyOak.Props.LegacyReplace
namespace PyOak.Legacy
open LState

/-- a set of attached nodes each of which has a child in the set -/
def Supp (S : Nat → Prop) (s : LState) : Prop := ∀ x, S x → Att s x ∧ ∃ c ∈ (s.obj x).kidList, S c

theorem Supp.shrinks {S : Nat → Prop} {s s' : LState} (h : Supp S s) (hS : Shrinks s s')
    (ha : ∀ x, S x → Att s' x) : Supp S s' := by
  intro x hx
  obtain ⟨c, hc, hsc⟩ := (h x hx).2
  exact ⟨ha x hx, c, by rw [hS.kidList_eq]; exact hc, hsc⟩

theorem detachKids_keeps (S : Nat → Prop) (rec : LState → Nat → LState × Option Bool)
    (hrec : ∀ s c s' b, rec s c = (s', some b) → Supp S s →
      Shrinks s s' ∧ (∀ x, S x → Att s' x) ∧ ((s.obj c).pid = none → ¬ Att s' c)) :
    ∀ (ks : List Nat) (s s1 : LState), detachKids rec false s ks = (s1, true) → Supp S s →
      Shrinks s s1 ∧ (∀ x, S x → Att s1 x) ∧ ∀ c ∈ ks, ¬ Att s1 c := by
  intro ks
  induction ks with
  | nil =>
    intro s s1 h hS
    simp only [detachKids, Prod.mk.injEq, and_true] at h
    subst h
    exact ⟨Shrinks.refl _, fun x hx => (hS x hx).1, fun c hc => by cases hc⟩
  | cons c cs ih =>
    intro s s1 h hS
    simp only [detachKids, Bool.false_eq_true, if_false] at h
    cases hr : rec (s.clearParent c) c with
    | mk s2 r =>
      rw [hr] at h
      cases r with
      | none => simp at h
      | some b =>
        simp only at h
        have hS1 : Supp S (s.clearParent c) :=
          hS.shrinks (shrinks_clearParent s c) (fun x hx => (att_clearParent_iff s c x).mpr (hS x hx).1)
        obtain ⟨hsh2, hk2, hc2⟩ := hrec (s.clearParent c) c s2 b hr hS1
        have hS2 : Supp S s2 := hS1.shrinks hsh2 hk2
        obtain ⟨hsh3, hk3, hc3⟩ := ih s2 s1 h hS2
        refine ⟨((shrinks_clearParent s c).trans hsh2).trans hsh3, hk3, ?_⟩
        intro x hx
        rcases List.mem_cons.mp hx with rfl | hx
        · intro ha
          exact hc2 (by rw [clearParent_obj']; simp [clearP]) (hsh3.att ha)
        · exact hc3 x hx

/-- **a finished `detach()` never unregisters a node of a self-supporting set of attached nodes**,
and it leaves a start node without parent link unregistered -/
theorem detachGo_keeps (S : Nat → Prop) : ∀ (fuel : Nat) (s : LState) (u : Nat) (s' : LState) (b : Bool),
    detachGo fuel false s u = (s', some b) → Supp S s →
      (∀ x, S x → Att s' x) ∧ ((s.obj u).pid = none → ¬ Att s' u) := by
  intro fuel
  induction fuel with
  | zero => intro s u s' b h; simp [detachGo] at h
  | succ fuel ih =>
    intro s u s' b h hS
    unfold detachGo at h
    by_cases hd : s.detached u = true
    · simp only [hd, if_true, Prod.mk.injEq] at h
      obtain ⟨rfl, _⟩ := h
      exact ⟨fun x hx => (hS x hx).1, fun _ => (detached_eq_true_iff _ _).mp hd⟩
    · simp only [hd, Bool.false_eq_true, if_false] at h
      have hatt : Att s u := att_of_not_detached hd
      by_cases hr : (!s.isAttachedRoot u) = true
      · simp only [hr, if_true, Prod.mk.injEq] at h
        obtain ⟨rfl, _⟩ := h
        refine ⟨fun x hx => (hS x hx).1, fun hpid => ?_⟩
        exfalso
        rw [(isAttachedRoot_iff s u).mpr ⟨hatt, parent_of_pid_none hpid⟩] at hr
        exact absurd hr (by decide)
      · simp only [hr, Bool.false_eq_true, if_false] at h
        cases hl : detachKids (detachGo fuel false) false s (s.obj u).kidList with
        | mk s1 fl =>
          rw [hl] at h
          cases fl with
          | false => simp at h
          | true =>
            simp only [Prod.mk.injEq] at h
            obtain ⟨rfl, _⟩ := h
            obtain ⟨hsh, hk, hc⟩ := detachKids_keeps S (detachGo fuel false)
              (fun t c t' b' ht hSt => by
                have hF := detachGo_facts fuel false t c b' (by rw [ht])
                rw [ht] at hF
                obtain ⟨a1, a2⟩ := ih t c t' b' ht hSt
                exact ⟨hF.shr, a1, a2⟩)
              (s.obj u).kidList s s1 hl hS
            have hnS : ¬ S u := by
              intro hu
              obtain ⟨c, hcm, hcS⟩ := (hS u hu).2
              exact hc c hcm (hk c hcS)
            refine ⟨?_, fun _ => by unfold Att; rw [unregister_idOf, unregister_lookup]; simp⟩
            intro x hx
            have hx1 := hk x hx
            have hxu : x ≠ u := fun e => hnS (e ▸ hx)
            unfold Att
            rw [unregister_idOf, unregister_lookup]
            by_cases e : s1.idOf u = s1.idOf x
            · exfalso
              have h1 : s1.lookup (s.idOf u) = some x := by
                rw [← hsh.id_eq u, e]; exact hx1
              rcases hsh.reg (s.idOf u) with h2 | h2
              · rw [h2] at h1
                unfold Att at hatt
                rw [hatt] at h1
                exact hxu (Option.some.inj h1).symm
              · rw [h2] at h1; cases h1
            · simp only [e, if_false]; exact hx1

/-- the first step of a path -/
theorem Desc.head {s : LState} {x q : Nat} (hd : Desc s x q) :
    x = q ∨ ∃ c ∈ (s.obj x).kidList, Desc s c q := by
  induction hd with
  | refl => exact .inl rfl
  | @step q' q _ hk ih =>
    rcases ih with rfl | ⟨c, hc, hcd⟩
    · exact .inr ⟨q, hk, .refl⟩
    · exact .inr ⟨c, hc, .step hcd hk⟩

/-- a proper descendant of an attached node stores a parent link -/
theorem desc_pid {Hc : Str → Str} {s : LState} (hI : Inv Hc s) {u q : Nat} (hu : Att s u) (hd : Desc s u q) :
    q = u ∨ ∃ k, (s.obj q).pid = some k := by
  cases hd with
  | refl => exact .inl rfl
  | @step q' _ hd' hk =>
    right
    obtain ⟨hq', _⟩ := upFree_of_desc hI hu hd' (fun _ _ hx => hx.elim)
    obtain ⟨e, he, he1⟩ := (mem_kidList_iff _ _).mp hk
    obtain ⟨_, b, _, _⟩ := hI.down' q' hq' e he
    rw [he1] at b
    exact ⟨_, b⟩

section
variable (Hc : Str → Str)

/-- **no cycle through the receiver**: if the `detach()` of the receiver (parent link cleared) returns,
the parent is not a descendant of the receiver -/
theorem detach_no_cycle {s s2 : LState} {u p fuel : Nat} {b : Bool} (hI : Inv Hc s) (hua : Att s u)
    (hpar : s.parent u = some p) (hds : detachGo fuel false (s.clearParent u) u = (s2, some b)) :
    ¬ Desc s u p := by
  intro hd
  obtain ⟨f, _, hmem⟩ := hI.up u hua p hpar
  have hukid : u ∈ (s.obj p).kidList := (mem_kidList_iff _ _).mpr ⟨_, hmem, rfl⟩
  have hkl : ∀ v, ((s.clearParent u).obj v).kidList = (s.obj v).kidList := (shrinks_clearParent s u).kidList_eq
  have hS : Supp (fun x => Desc s u x ∧ Desc s x p) (s.clearParent u) := by
    intro x ⟨hux, hxp⟩
    refine ⟨(att_clearParent_iff s u x).mpr (upFree_of_desc hI hua hux (fun _ _ hx => hx.elim)).1, ?_⟩
    rcases hxp.head with rfl | ⟨c, hc, hcp⟩
    · exact ⟨u, by rw [hkl]; exact hukid, .refl, hd⟩
    · exact ⟨c, by rw [hkl]; exact hc, .step hux hc, hcp⟩
  obtain ⟨hk, hn⟩ := detachGo_keeps _ fuel (s.clearParent u) u s2 b hds hS
  exact hn (by rw [clearParent_obj']; simp [clearP]) (hk u ⟨.refl, hd⟩)

/-- the state of `replace_with` on a receiver with a parent after `_clear_parent()` and `detach()` -/
structure Opened (s s2 : LState) (u p : Nat) (f : Str) : Prop where
  hf : (s.obj u).pfield = some f
  ua : Att s u
  pa : Att s p
  pu : p ≠ u
  mem : (u, f, (s.obj u).pindex) ∈ (s.obj p).kidsPos
  shr : Shrinks (s.clearParent u) s2
  inv2 : InvX Hc (Hole p (u, f, (s.obj u).pindex)) NoY s2
  pa2 : Att s2 p
  nu2 : ¬ Att s2 u
  /-- whatever else was unregistered is a proper descendant of the receiver -/
  gone : ∀ x, Att s x → ¬ Att s2 x → x = u ∨ ∃ k, (s.obj x).pid = some k

theorem Opened.id2 {s s2 : LState} {u p : Nat} {f : Str} (h : Opened Hc s s2 u p f) (x : Nat) :
    s2.idOf x = s.idOf x := by rw [h.shr.id_eq, clearParent_idOf]

theorem Opened.fl2 {s s2 : LState} {u p : Nat} {f : Str} (h : Opened Hc s s2 u p f) (x : Nat) :
    (s2.obj x).fields = (s.obj x).fields := by
  rw [h.shr.fields_eq, clearParent_obj']; split
  · next hx => subst hx; rfl
  · rfl

theorem Opened.sz2 {s s2 : LState} {u p : Nat} {f : Str} (h : Opened Hc s s2 u p f) : s2.size = s.size := by
  rw [h.shr.size]; rfl

theorem Opened.mem2 {s s2 : LState} {u p : Nat} {f : Str} (h : Opened Hc s s2 u p f) :
    (u, f, (s.obj u).pindex) ∈ (s2.obj p).kidsPos := by
  unfold LObj.kidsPos; rw [h.fl2]; exact h.mem

/-- an attached root other than the receiver survives the `detach()` of the receiver -/
theorem Opened.root2 {s s2 : LState} {u p : Nat} {f : Str} (h : Opened Hc s s2 u p f) {n : Nat} (hn : Att s n)
    (hroot : s.parent n = none) (hnu : n ≠ u) (hI : Inv Hc s) : Att s2 n ∧ s2.parent n = none := by
  have hpid : (s.obj n).pid = none := hI.pid_none_of_root hroot
  constructor
  · apply Classical.byContradiction; intro hn2
    rcases h.gone n hn hn2 with e | ⟨k, hk⟩
    · exact hnu e
    · rw [hpid] at hk; cases hk
  · refine parent_of_pid_none ?_
    rcases h.shr.obj n with e | e
    · rw [e, clearParent_obj', if_neg hnu]; exact hpid
    · rw [e]; rfl

/-- a node whose parent resolves is attached -/
theorem att_of_parent {s : LState} {u p : Nat} (hI : Inv Hc s) (hpar : s.parent u = some p) : Att s u :=
  (hI.of_parent hpar).1

theorem rwith_open {s s2 : LState} {u p fuel : Nat} {b : Bool} (hI : Inv Hc s) (hpar : s.parent u = some p)
    (hds : detachGo fuel false (s.clearParent u) u = (s2, some b)) :
    ∃ f, Opened Hc s s2 u p f := by
  obtain ⟨hua, hpa, _⟩ := hI.of_parent hpar
  obtain ⟨f, hf, hmem⟩ := hI.up u hua p hpar
  have hpu : p ≠ u := fun h => hI.noSelf u (h ▸ hpar)
  have hI1 := clearParent_invX Hc hI hpar hf
  have ha1 : Att (s.clearParent u) u := (att_clearParent_iff s u u).mpr hua
  have hr1 := clearParent_parent_self s u
  have hF := detachGo_facts fuel false (s.clearParent u) u b (by rw [hds])
  rw [hds] at hF
  have hDesc := detachGo_desc fuel false (s.clearParent u) u b (by rw [hds])
  rw [hds] at hDesc
  have hkl1 : ∀ v, ((s.clearParent u).obj v).kidList = (s.obj v).kidList :=
    (shrinks_clearParent s u).kidList_eq
  have hacyc := detach_no_cycle Hc hI hua hpar hds
  have hpa2 : Att s2 p := by
    apply Classical.byContradiction; intro hnp2
    have := hDesc p ⟨(att_clearParent_iff s u p).mpr hpa, hnp2⟩
    exact hacyc (this.congr (fun v => (hkl1 v).symm))
  have hI2 : InvX Hc (Hole p (u, f, (s.obj u).pindex)) NoY s2 :=
    detachGo_invX Hc hI1 hds (fun q e hx hun => by rw [hx.1] at hun; exact hun.2 hpa2)
  refine ⟨f, ⟨hf, hua, hpa, hpu, hmem, hF.shr, hI2, hpa2, detachGo_root_detaches ha1 hr1 hds, ?_⟩⟩
  intro x hx hx2
  have := hDesc x ⟨(att_clearParent_iff s u x).mpr hx, hx2⟩
  exact desc_pid hI hua (this.congr (fun v => (hkl1 v).symm))

end

/-! ### non-vacuity -/
section examples
open PyOak.Legacy.Ex

/-- a heap with a cycle of length 2: node 0 is the (optional) child of node 1 and node 1 the child of node 0,
both registered -/
def cycObj (id pid : String) (kid : Nat) : LObj :=
  { cls := "U".toList, mro := ["U".toList], fqn := [], props := [], id := id.toList, origId := none, collWith := none,
    cid := [], fields := [⟨"arg".toList, .opt, ["U".toList], [kid]⟩], pid := some pid.toList,
    pfield := some "arg".toList, pindex := none }
def cyc : LState :=
  { heap := fun v => if v = 0 then cycObj "a" "b" 1 else if v = 1 then cycObj "b" "a" 0 else default,
    size := 2, reg := [("a".toList, 0), ("b".toList, 1)] }

example : cyc.parent 0 = some 1 ∧ cyc.parent 1 = some 0 ∧ Att cyc 0 ∧ Att cyc 1 := by decide
/-- `replace_with` on a node of the cycle: the `detach()` of the receiver does not end -/
example : (step id id cyc (.rwith 0 none)).2 = .raised .hang := by decide
example : (step id id cyc (.rwith 0 (some 0))).2 = .raised .replaceWithError := by decide
/-- `detachGo_keeps` on the cycle: with whatever fuel, the run does not return -/
example (fuel : Nat) (s' : LState) (b : Bool) (h : detachGo fuel false (cyc.clearParent 0) 0 = (s', some b)) :
    False := by
  have hS : Supp (fun x => x = 0 ∨ x = 1) (cyc.clearParent 0) := by
    rintro x (rfl | rfl)
    · exact ⟨by decide, 1, by decide, .inr rfl⟩
    · exact ⟨by decide, 0, by decide, .inl rfl⟩
  obtain ⟨hk, hn⟩ := detachGo_keeps _ fuel _ 0 s' b h hS
  exact hn (by decide) (hk 0 (.inl rfl))

end examples

end PyOak.Legacy
