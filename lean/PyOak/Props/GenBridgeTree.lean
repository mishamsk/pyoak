/-
Bridge for `pyoak.tree.Tree` (C06): the hand-written model `TreeT` (Model/Tree.lean) is the set of definitions GENERATED from
`class Tree` (src/pyoak/tree.py) by harness/py2lean_t.py (Gen/KernelsTree.lean), instantiated with

  py.id := Node.uid     py.isinstance := Node.isInst     py.type_of = py.class_name := Node.cls
  py.dfs := the model's pre-order stream `dfsImpl`       self := `toS t` (the two tables of `t`, same keys, same order)

ON EVERY TABLE `t` (no hypothesis):
  isRoot_eq_gen, isInTree_eq_gen, getXpath_eq_gen, getParentInfo_eq_gen, getParent_eq_gen   (model = generated)
  initStep_eq_gen   one iteration of the `__init__` loop, when the parent's xpath is in the table (else the code raises
                    KeyError where the model substitutes the empty text; never the case in `Tree(root)`: init_eq_gen)

ON EVERY TABLE, FOR EVERY NODE WHOSE UPWARD WALK HAS SLACK (`Slack t f n`: the fuel f is positive and either the first lookup
raises or the model's walk ends after fewer than f ancestors; the generated functions carry the fuel the `while` loop /
the recursion of the source does not have, and answer `OutOfFuel` when it runs out):
  getAncestors_eq_gen, isAncestor_eq_gen, firstAncestorOfType_eq_gen, getDepth_eq_gen       (model = generated, fuel
                    `t.root.size` on both sides; in particular the generated functions do not run out of fuel)

ON THE TABLES OF `Tree(root)` (`TreeT.build root`, `NoRepeat root`) every node has slack (`slack_build`), hence
  getAncestors_build_eq_gen, isAncestor_build_eq_gen, firstAncestorOfType_build_eq_gen, getDepth_build_eq_gen
and `init_eq_gen`: the generated `__init__` returns exactly the tables of `TreeT.build root` (no hypothesis on `root`).
-/
import PyOak.Gen.KernelsTree
import PyOak.Props.C06Total
namespace PyOak.GenBridgeTree
open PyOak

/-! ### the instantiation -/

def toErr : TErr → GenT.Err
  | .keyError => .KeyError
  | .valueError => .ValueError

/-- a result of the model as a result of the generated code -/
def embed {α β : Type} (f : α → β) : Except TErr α → Except GenT.Err β
  | .ok a => .ok (f a)
  | .error e => .error (toErr e)

/-- `list(generator)` of the model as the trace of the generated generator -/
def genOf {α : Type} : Except TErr (List α) → GenT.Gen α
  | .ok l => (l, none)
  | .error e => ([], some (toErr e))

def toPI (p : PInfo) : GenT.ParentInfo Node :=
  { parent := p.parent, field := ⟨p.edge.field⟩, findex := p.edge.idx.map Int.ofNat }

def toItem (it : Item) : GenT.NodeTraversalInfo Node :=
  { node := it.node, parent := it.parent, field := ⟨it.edge.field⟩, findex := it.edge.idx.map Int.ofNat }

/-- `get_parent_info` returns a 3-tuple -/
def piTuple : Option PInfo → Option Node × Option GenT.FieldR × Option Int
  | none => (none, none, none)
  | some p => (some p.parent, some ⟨p.edge.field⟩, p.edge.idx.map Int.ofNat)

def pyNode : GenT.Py Node Str :=
  { id := Node.uid, isinstance := Node.isInst, type_of := Node.cls, class_name := Node.cls,
    dfs := fun n => (dfsImpl (fun _ => false) (fun _ => true) false n).map toItem }

def toS (t : TreeT) : GenT.TreeS Node :=
  { root := t.root, node_to_parent_info := t.pinfo.map (fun kv => (kv.1, toPI kv.2)), node_to_xpath := t.xpath }

/-- `ancestor_class`: a tuple of classes -/
def classArg (classes : List Str) : Str ⊕ List Str := .inr classes

theorem getitem_map {β γ : Type} (f : β → γ) (d : List (Nat × β)) (k : Nat) :
    GenT.Dict.getitem (d.map (fun kv => (kv.1, f kv.2))) k =
      match dictGet? d k with
      | some v => .ok (f v)
      | none => .error .KeyError := by
  unfold GenT.Dict.getitem dictGet?
  induction d with
  | nil => rfl
  | cons kv r ih =>
    cases h : (kv.1 == k)
    · simp only [List.map_cons, List.find?_cons, h]
      exact ih
    · simp only [List.map_cons, List.find?_cons, h, Option.map_some]

theorem getitem_eq {β : Type} (d : List (Nat × β)) (k : Nat) :
    GenT.Dict.getitem d k = match dictGet? d k with
      | some v => .ok v
      | none => .error .KeyError := by
  have := getitem_map (fun x : β => x) d k
  simpa using this

theorem setitem_map {β γ : Type} (f : β → γ) (d : List (Nat × β)) (k : Nat) (v : β) :
    GenT.Dict.setitem (d.map (fun kv => (kv.1, f kv.2))) k (f v) = (dictSet d k v).map (fun kv => (kv.1, f kv.2)) := by
  unfold GenT.Dict.setitem dictSet
  simp only [List.any_map, Function.comp_def]
  split
  · simp only [List.map_map, Function.comp_def]
    apply List.map_congr_left
    intro kv _
    split <;> rfl
  · simp

theorem setitem_eq {β : Type} (d : List (Nat × β)) (k : Nat) (v : β) : GenT.Dict.setitem d k v = dictSet d k v := rfl

/-! ### queries without a loop: on every table -/

/-- `a is b` is symmetric (the source may write the root test either way round) -/
theorem uid_beq_comm (a b : Nat) : (a == b) = (b == a) := by
  rw [Bool.eq_iff_iff]
  simp only [beq_iff_eq]
  exact eq_comm

theorem isRoot_eq_gen (t : TreeT) (n : Node) : t.isRoot n = GenT.is_root pyNode (toS t) n := by
  unfold TreeT.isRoot GenT.is_root
  first
    | rfl
    | exact uid_beq_comm _ _

theorem isInTree_eq_gen (t : TreeT) (n : Node) : t.isInTree n = GenT.is_in_tree pyNode (toS t) n := by
  unfold TreeT.isInTree GenT.is_in_tree
  simp [GenT.Dict.contains, pyNode, toS]

theorem getXpath_eq_gen (t : TreeT) (n : Node) :
    embed id (t.getXpath n) = GenT.get_xpath pyNode (toS t) n := by
  unfold TreeT.getXpath GenT.get_xpath
  simp only [pyNode, toS, getitem_eq]
  cases dictGet? t.xpath n.uid <;> simp [embed, toErr]

theorem getParentInfo_eq_gen (t : TreeT) (n : Node) :
    embed piTuple (t.getParentInfo n) = GenT.get_parent_info pyNode (toS t) n := by
  unfold TreeT.getParentInfo TreeT.isRoot GenT.get_parent_info
  simp only [pyNode, toS, getitem_map]
  by_cases h : t.root.uid = n.uid
  · simp [h, embed, piTuple]
  · have h' : ¬ n.uid = t.root.uid := fun e => h e.symm
    cases hd : dictGet? t.pinfo n.uid <;> simp [h, h', embed, piTuple, toPI, toErr]

theorem getParent_eq_gen (t : TreeT) (n : Node) :
    embed id (t.getParent n) = GenT.get_parent pyNode (toS t) n := by
  unfold TreeT.getParent TreeT.getParentInfo TreeT.isRoot GenT.get_parent
  simp only [pyNode, toS, getitem_map]
  by_cases h : t.root.uid = n.uid
  · simp [h, embed, Except.map]
  · have h' : ¬ n.uid = t.root.uid := fun e => h e.symm
    cases hd : dictGet? t.pinfo n.uid <;> simp [h, h', embed, Except.map, toPI, toErr]

/-! ### the upward walk (`get_ancestors`: a `while` loop in a generator) -/

/-- the walk from `n` ends within the fuel `f`: the first lookup raises, or the model's walk returns fewer than `f` ancestors -/
def Slack (t : TreeT) (f : Nat) (n : Node) : Prop :=
  0 < f ∧ ((∃ e, t.getParent n = .error e) ∨ ∃ l, t.ancestorsAux f n = .ok l ∧ l.length < f)

theorem loop_some (s : GenT.TreeS Node) (f : Nat) (p : Node) :
    GenT.get_ancestors_loop pyNode s (f + 1) (some p) = GenT.Gen.yield_ p (GenT.get_ancestors pyNode s f p) := by
  rw [GenT.get_ancestors_loop]
  unfold GenT.get_ancestors
  rfl

theorem get_ancestors_error (t : TreeT) (f : Nat) (n : Node) (e : TErr) (h : t.getParent n = .error e) :
    GenT.get_ancestors pyNode (toS t) f n = ([], some (toErr e)) := by
  unfold GenT.get_ancestors
  rw [← getParent_eq_gen t n, h]
  rfl

theorem get_ancestors_walk {t : TreeT} {n : Node} {l : List Node} (w : C06.Walk t n l) :
    ∀ f, l.length < f → GenT.get_ancestors pyNode (toS t) f n = (l, none) := by
  induction w with
  | @top n h =>
    intro f hf
    obtain ⟨f, rfl⟩ := Nat.exists_eq_add_one_of_ne_zero (Nat.ne_of_gt hf)
    unfold GenT.get_ancestors
    rw [← getParent_eq_gen t n, h]
    simp only [embed, id]
    rw [GenT.get_ancestors_loop]
    rfl
  | @up n p r h _ ih =>
    intro f hf
    obtain ⟨f, rfl⟩ := Nat.exists_eq_add_one_of_ne_zero (Nat.ne_of_gt (Nat.zero_lt_of_lt hf))
    unfold GenT.get_ancestors
    rw [← getParent_eq_gen t n, h]
    simp only [embed, id]
    rw [loop_some, ih f (Nat.lt_of_succ_lt_succ hf)]
    rfl

theorem ancestorsAux_eq_gen (t : TreeT) (f : Nat) (n : Node) (h : Slack t f n) :
    genOf (t.ancestorsAux f n) = GenT.get_ancestors pyNode (toS t) f n := by
  obtain ⟨hf, ⟨e, he⟩ | ⟨l, hl, hlen⟩⟩ := h
  · rw [C06.ancestorsAux_error he hf, get_ancestors_error t f n e he]
    rfl
  · rw [hl, get_ancestors_walk (C06.walk_of_ancestorsAux t f n l hl hlen) f hlen]
    rfl

theorem getAncestors_eq_gen (t : TreeT) (n : Node) (h : Slack t t.root.size n) :
    genOf (t.getAncestors n) = GenT.get_ancestors pyNode (toS t) t.root.size n :=
  ancestorsAux_eq_gen t t.root.size n h

/-! ### consumers of the generator -/

theorem findSome_guard {α β : Type} (p : α → Bool) (g : α → β) (l : List α) :
    l.findSome? (fun a => if p a then some (g a) else none) = (l.find? p).map g := by
  induction l with
  | nil => rfl
  | cons x r ih =>
    simp only [List.findSome?_cons, List.find?_cons]
    cases p x <;> simp [ih]

/-- a loop `for a in <generator>: if p(a): return g(a)` followed by `return d`, whatever the syntactic shape of its
body: the first hit decides (the generator is lazy), and only without a hit does its exception surface -/
theorem forReturn_guard {α β : Type} (r : Except TErr (List α)) (p : α → Bool) (g : α → β) (d : β)
    (body : α → Option β) (hb : ∀ x, body x = if p x then some (g x) else none) :
    GenT.Gen.forReturn (genOf r) body (.ok d) = embed (fun l => ((l.find? p).map g).getD d) r := by
  rw [funext hb]
  cases r with
  | error e => rfl
  | ok l =>
    simp only [genOf, GenT.Gen.forReturn, findSome_guard, embed]
    cases l.find? p <;> rfl

theorem forReturn_any {α : Type} (r : Except TErr (List α)) (p : α → Bool) (body : α → Option Bool)
    (hb : ∀ x, body x = if p x then some true else none) :
    GenT.Gen.forReturn (genOf r) body (.ok false) = embed id (r.map (·.any p)) := by
  rw [forReturn_guard r p (fun _ => true) false body hb]
  cases r with
  | error e => rfl
  | ok l =>
    simp only [embed, Except.map, id, Except.ok.injEq]
    induction l with
    | nil => rfl
    | cons x r ih => cases hx : p x <;> simp [List.find?_cons, hx, ih]

theorem forReturn_find {α : Type} (r : Except TErr (List α)) (p : α → Bool) (body : α → Option (Option α))
    (hb : ∀ x, body x = if p x then some (some x) else none) :
    GenT.Gen.forReturn (genOf r) body (.ok none) = embed id (r.map (·.find? p)) := by
  rw [forReturn_guard r p some none body hb]
  cases r with
  | error e => rfl
  | ok l =>
    simp only [embed, Except.map, id]
    cases l.find? p <;> rfl

theorem isAncestor_eq_gen (t : TreeT) (n a : Node) (h : Slack t t.root.size n) :
    embed id (t.isAncestor n a) = GenT.is_ancestor pyNode (toS t) t.root.size n a := by
  unfold GenT.is_ancestor TreeT.isAncestor
  rw [← getAncestors_eq_gen t n h]
  refine (forReturn_any _ (fun y : Node => y.uid == a.uid) _ ?_).symm
  intro x
  first
    | rfl
    | (simp only [pyNode]; rw [uid_beq_comm])

/-- what the harness passes for `ancestor_class` (one class / a tuple of classes) and the class list of the model -/
def classesOf : Str ⊕ List Str → List Str
  | .inl c => [c]
  | .inr cs => cs

theorem firstAncestorOfType_eq_gen (t : TreeT) (n : Node) (ca : Str ⊕ List Str) (exact : Bool)
    (h : Slack t t.root.size n) :
    embed id (t.firstAncestorOfType n (classesOf ca) exact)
      = GenT.get_first_ancestor_of_type pyNode (toS t) t.root.size n ca exact := by
  unfold GenT.get_first_ancestor_of_type TreeT.firstAncestorOfType
  rw [← getAncestors_eq_gen t n h]
  -- both shapes of `ancestor_class` run the same loop over `classesOf ca`
  cases ca <;>
    (refine (forReturn_find _ _ _ ?_).symm
     intro x
     cases exact <;> simp [pyNode, classesOf])

/-! ### `get_depth` (recursive, with the `check_ancestor` flag) -/

theorem get_depth_check (s : GenT.TreeS Node) (f : Nat) (n r : Node) :
    GenT.get_depth pyNode s (f + 1) n (some r) true =
      match GenT.is_ancestor pyNode s (f + 1) n r with
      | .error e => .error e
      | .ok false => .error .ValueError
      | .ok true => GenT.get_depth pyNode s (f + 1) n (some r) false := by
  simp only [GenT.get_depth]
  cases GenT.is_ancestor pyNode s (f + 1) n r with
  | error e => rfl
  | ok b => cases b <;> rfl

theorem get_depth_nocheck (s : GenT.TreeS Node) (f : Nat) (n : Node) (chk : Bool) :
    GenT.get_depth pyNode s (f + 1) n none chk = GenT.get_depth pyNode s (f + 1) n none false := by
  simp only [GenT.get_depth]

theorem get_depth_step (s : GenT.TreeS Node) (f : Nat) (n : Node) (rel : Option Node) :
    GenT.get_depth pyNode s (f + 1) n rel false =
      match GenT.get_parent pyNode s n with
      | .error e => .error e
      | .ok none => .ok 0
      | .ok (some p) =>
        if rel.any (p.uid == ·.uid) then .ok 1
        else match GenT.get_depth pyNode s f p rel false with
          | .error e => .error e
          | .ok v => .ok (v + 1) := by
  simp only [GenT.get_depth]
  cases rel <;> rcases GenT.get_parent pyNode s n with e | _ | p <;> rfl

theorem get_depth_error (t : TreeT) (rel : Option Node) (f : Nat) (hf : 0 < f) (n : Node) (e : TErr)
    (h : t.getParent n = .error e) : GenT.get_depth pyNode (toS t) f n rel false = .error (toErr e) := by
  obtain ⟨f, rfl⟩ := Nat.exists_eq_add_one_of_ne_zero (Nat.ne_of_gt hf)
  rw [get_depth_step, ← getParent_eq_gen t n, h]
  rfl

theorem get_depth_walk {t : TreeT} {n : Node} {l : List Node} (w : C06.Walk t n l) (rel : Option Node) :
    ∀ f, l.length < f → GenT.get_depth pyNode (toS t) f n rel false = .ok (Int.ofNat (C06.depthIn rel l)) := by
  induction w with
  | @top n h =>
    intro f hf
    obtain ⟨f, rfl⟩ := Nat.exists_eq_add_one_of_ne_zero (Nat.ne_of_gt hf)
    rw [get_depth_step, ← getParent_eq_gen t n, h]
    rfl
  | @up n p r h _ ih =>
    intro f hf
    obtain ⟨f, rfl⟩ := Nat.exists_eq_add_one_of_ne_zero (Nat.ne_of_gt (Nat.zero_lt_of_lt hf))
    rw [get_depth_step, ← getParent_eq_gen t n, h]
    simp only [embed, id, C06.depthIn, ih f (Nat.lt_of_succ_lt_succ hf)]
    split <;> rfl

theorem depthAux_eq_gen (t : TreeT) (rel : Option Node) (f : Nat) (n : Node) (l : List Node)
    (h : t.ancestorsAux f n = .ok l) (hl : l.length < f) :
    embed Int.ofNat (t.depthAux rel f n) = GenT.get_depth pyNode (toS t) f n rel false := by
  have w := C06.walk_of_ancestorsAux t f n l h hl
  rw [w.depthAux rel f hl, get_depth_walk w rel f hl]
  rfl

theorem getDepth_eq_gen (t : TreeT) (n : Node) (rel : Option Node) (chk : Bool) (h : Slack t t.root.size n) :
    embed Int.ofNat (t.getDepth n rel chk) = GenT.get_depth pyNode (toS t) t.root.size n rel chk := by
  have hanc := fun a => isAncestor_eq_gen t n a h
  -- the call without the ancestor test
  have hno : embed Int.ofNat (t.depthAux rel t.root.size n) = GenT.get_depth pyNode (toS t) t.root.size n rel false := by
    obtain ⟨hf, ⟨e, he⟩ | ⟨l, hl, hlen⟩⟩ := h
    · rw [C06.depthAux_error he rel hf, get_depth_error t rel _ hf n e he]
      rfl
    · exact depthAux_eq_gen t rel _ n l hl hlen
  obtain ⟨f', hf'⟩ := Nat.exists_eq_add_one_of_ne_zero (Nat.ne_of_gt h.1)
  unfold TreeT.getDepth
  cases rel with
  | none =>
    rw [hf', get_depth_nocheck, ← hf']
    exact hno
  | some r =>
    cases chk with
    | false => exact hno
    | true =>
      have ha := hanc r
      rw [hf'] at ha hno ⊢
      rw [get_depth_check, ← ha, ← hno]
      simp only [if_true]
      cases t.isAncestor n r with
      | error e => simp [embed]
      | ok b => cases b <;> simp [embed, toErr]

/-! ### the tables of `Tree(root)`: every node has slack -/

theorem getParent_congr (t : TreeT) (n m : Node) (e : n.uid = m.uid) : t.getParent n = t.getParent m := by
  unfold TreeT.getParent TreeT.getParentInfo TreeT.isRoot
  rw [e]

theorem walk_congr {t : TreeT} {n m : Node} {l : List Node} (e : n.uid = m.uid) (w : C06.Walk t m l) :
    C06.Walk t n l := by
  cases w with
  | top h => exact .top (getParent_congr t n m e ▸ h)
  | up h w => exact .up (getParent_congr t n m e ▸ h) w

theorem slack_build (root : Node) (h : NoRepeat root) (n : Node) :
    Slack (TreeT.build root) (TreeT.build root).root.size n := by
  rw [C06.build_root]
  refine ⟨root.size_pos, ?_⟩
  by_cases hf : ∃ m ∈ allNodes root, m.uid = n.uid
  · obtain ⟨m, hm, e⟩ := hf
    obtain ⟨c, oe, hc⟩ := C06.exists_chain root m hm
    have hlen := C06.walk_fuel root c m oe hc
    exact Or.inr ⟨_, (walk_congr e.symm (C06.walk_chain root h c m oe hc)).ancestorsAux _ hlen, hlen⟩
  · exact Or.inl ⟨_, C06.getParent_foreign root n (fun m hm e => hf ⟨m, hm, e⟩)⟩

theorem getAncestors_build_eq_gen (root : Node) (h : NoRepeat root) (n : Node) :
    genOf ((TreeT.build root).getAncestors n) = GenT.get_ancestors pyNode (toS (TreeT.build root)) root.size n := by
  have := getAncestors_eq_gen _ n (slack_build root h n)
  rwa [C06.build_root] at this

theorem isAncestor_build_eq_gen (root : Node) (h : NoRepeat root) (n a : Node) :
    embed id ((TreeT.build root).isAncestor n a) = GenT.is_ancestor pyNode (toS (TreeT.build root)) root.size n a := by
  have := isAncestor_eq_gen _ n a (slack_build root h n)
  rwa [C06.build_root] at this

theorem firstAncestorOfType_build_eq_gen (root : Node) (h : NoRepeat root) (n : Node) (ca : Str ⊕ List Str) (exact : Bool) :
    embed id ((TreeT.build root).firstAncestorOfType n (classesOf ca) exact)
      = GenT.get_first_ancestor_of_type pyNode (toS (TreeT.build root)) root.size n ca exact := by
  have := firstAncestorOfType_eq_gen _ n ca exact (slack_build root h n)
  rwa [C06.build_root] at this

theorem getDepth_build_eq_gen (root : Node) (h : NoRepeat root) (n : Node) (rel : Option Node) (chk : Bool) :
    embed Int.ofNat ((TreeT.build root).getDepth n rel chk)
      = GenT.get_depth pyNode (toS (TreeT.build root)) root.size n rel chk := by
  have := getDepth_eq_gen _ n rel chk (slack_build root h n)
  rwa [C06.build_root] at this

/-- in particular the generated functions never run out of fuel on the tables of `Tree(root)` -/
theorem build_no_outOfFuel (root : Node) (h : NoRepeat root) (n : Node) (rel : Option Node) (chk : Bool) :
    (GenT.get_ancestors pyNode (toS (TreeT.build root)) root.size n).2 ≠ some .OutOfFuel ∧
    GenT.get_depth pyNode (toS (TreeT.build root)) root.size n rel chk ≠ .error .OutOfFuel := by
  rw [← getAncestors_build_eq_gen root h n, ← getDepth_build_eq_gen root h n rel chk]
  constructor
  · cases (TreeT.build root).getAncestors n with
    | ok l => simp [genOf]
    | error e => cases e <;> simp [genOf, toErr]
  · cases (TreeT.build root).getDepth n rel chk with
    | ok l => simp [embed]
    | error e => cases e <;> simp [embed, toErr]

/-! ### `__init__` -/

theorem natStr_zero : natStr 0 = ['0'] := by decide

/-- `str(i)` of a positive int is the decimal text of the model -/
theorem py_str_succ (k : Nat) : GenT.py_str_int ((k : Int) + 1) = natStr (k + 1) := rfl

/-- the loop body of `__init__`, when the xpath of the parent is in the table (`{n.findex or '0'}`: None and 0 give '0') -/
theorem initStep_eq_gen (t : TreeT) (it : Item) (px : Str) (h : dictGet? t.xpath it.parent.uid = some px) :
    GenT.init_step pyNode (toS t) (toItem it) = .ok (toS (C06.buildStep t it)) := by
  unfold GenT.init_step C06.buildStep
  simp only [pyNode, toS, toItem, getitem_eq, h, Option.getD_some]
  have hpi : ({ parent := it.parent, field := ⟨it.edge.field⟩, findex := it.edge.idx.map Int.ofNat } : GenT.ParentInfo Node)
      = toPI ⟨it.parent, it.edge⟩ := rfl
  rw [hpi, setitem_map toPI, setitem_eq]
  cases it.edge.idx with
  | none => simp [xpathStep, natStr_zero]
  | some k =>
    cases k with
    | zero => simp [xpathStep, natStr_zero]
    | succ k =>
      have hne : ¬ ((k : Int) + 1 = 0) := by omega
      simp [xpathStep, py_str_succ, hne]

theorem foldlM_init (L : List Item) : ∀ (t : TreeT),
    C06.ParentsBefore (fun m => (dictGet? t.xpath m.uid).isSome = true) L →
    (L.map toItem).foldlM (GenT.init_step pyNode) (toS t) = .ok (toS (L.foldl C06.buildStep t)) := by
  induction L with
  | nil => intro t _; rfl
  | cons x r ih =>
    intro t ⟨h1, h2⟩
    obtain ⟨px, hpx⟩ := Option.isSome_iff_exists.mp h1
    simp only [List.map_cons, List.foldlM_cons, List.foldl_cons, initStep_eq_gen t x px hpx]
    refine ih (C06.buildStep t x) (C06.ParentsBefore.mono ?_ r h2)
    intro m hm
    simp only [C06.buildStep, C06.dictGet?_dictSet]
    rcases hm with hm | rfl
    · split <;> simp [hm]
    · simp

/-- `Tree.__init__`: the generated constructor never raises and returns exactly the tables of `TreeT.build root` -/
theorem init_eq_gen (root : Node) : GenT.init pyNode root = .ok (toS (TreeT.build root)) := by
  unfold GenT.init
  rw [C06.build_eq_fold]
  have h0 : (GenT.TreeS.mk root [] [(pyNode.id root, ['/', '@', 'r', 'o', 'o', 't', '[', '0', ']'] ++ pyNode.class_name root)]
      : GenT.TreeS Node) = toS (C06.buildInit root) := by
    simp [toS, C06.buildInit, C06.rootStep, xpathStep, natStr_zero, pyNode]
  show ((dfsImpl (fun _ => false) (fun _ => true) false root).map toItem).foldlM _ _ = _
  rw [h0]
  apply foldlM_init
  rw [C06.dfs_eq]
  apply C06.PI_parentsBefore
  intro x hx
  simp [C06.buildInit, C06.dictGet?_single, (C06.mem_items hx).1]

/-! ### the generated functions run on `DemoT`; tables on which the bridge fails without `Slack` -/

namespace Demo
open C06.DemoT

/-- `Slack` holds on a concrete three-level tree (root `tree`, `mid` below it, `leaf 3` below `mid`) -/
example : Slack (TreeT.build tree) (TreeT.build tree).root.size (leaf 3) := slack_build tree noRepeat_tree (leaf 3)

/-- … and for a foreign node (first disjunct: the first lookup raises) -/
example : Slack (TreeT.build tree) (TreeT.build tree).root.size (leaf 9) := slack_build tree noRepeat_tree (leaf 9)

/-- decidable views of results -/
def view {α : Type} : Except GenT.Err α → Option GenT.Err × Option α
  | .ok a => (none, some a)
  | .error e => (some e, none)
def gview (g : GenT.Gen Node) : List Nat × Option GenT.Err := (g.1.map Node.uid, g.2)

/-- the generated functions, run: ancestors of the deepest node, its depth, `is_ancestor`, a foreign node -/
example : gview (GenT.get_ancestors pyNode (toS (TreeT.build tree)) tree.size (leaf 3)) = ([2, 0], none) := by decide
example : view (GenT.get_depth pyNode (toS (TreeT.build tree)) tree.size (leaf 3) none true) = (none, some 2) := by decide
example : view (GenT.get_depth pyNode (toS (TreeT.build tree)) tree.size (leaf 3) (some mid) true) = (none, some 1) := by decide
example : view (GenT.get_depth pyNode (toS (TreeT.build tree)) tree.size mid (some (leaf 3)) true) = (some .ValueError, none) := by
  decide
example : view (GenT.is_ancestor pyNode (toS (TreeT.build tree)) tree.size (leaf 9) tree) = (some .KeyError, none) := by decide
example : view (GenT.is_ancestor pyNode (toS (TreeT.build tree)) tree.size (leaf 3) tree) = (none, some true) := by decide

/-- a table no `Tree(root)` produces: two entries that name each other as parent (a cycle) -/
def cyc : TreeT := { root := leaf 0, pinfo := [(1, ⟨leaf 2, ⟨['x'], none⟩⟩), (2, ⟨leaf 1, ⟨['x'], none⟩⟩)], xpath := [] }

/-- without `Slack` the bridge is FALSE: on a cyclic table the hand-written model truncates the walk when its fuel ends and
answers `ok`, the generated walk says `OutOfFuel` (the Python loop would not terminate) -/
theorem getAncestors_eq_gen_needs_slack_fails :
    gview (genOf (cyc.getAncestors (leaf 1))) = ([2], none) ∧
    gview (GenT.get_ancestors pyNode (toS cyc) cyc.root.size (leaf 1)) = ([2], some .OutOfFuel) := by decide

/-- a table no `Tree(root)` produces: the parent of node 5 is node 6, which has no entry and is not the root -/
def dangling : TreeT := { root := mid, pinfo := [(5, ⟨leaf 6, ⟨['x'], none⟩⟩)], xpath := [] }

/-- without `Slack` the bridge is FALSE for the consumers too: the generated `is_ancestor` stops at the first hit (the
generator is lazy) and never sees the KeyError that the model, which builds the whole list first, reports -/
theorem isAncestor_eq_gen_needs_slack_fails :
    view (embed id (dangling.isAncestor (leaf 5) (leaf 6))) = (some .KeyError, none) ∧
    view (GenT.is_ancestor pyNode (toS dangling) dangling.root.size (leaf 5) (leaf 6)) = (none, some true) := by decide

end Demo

end PyOak.GenBridgeTree
