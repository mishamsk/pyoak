/-
`replace` on a receiver that HAS a parent, and the steps it shares with `replace_with`.

Between clearing the receiver's parent link and `_replace_child` the parent holds a detached child:
the invariant holds "with one hole" (`InvX (Hole p e) NoY`).  `_replace_child` closes the hole;
after it only the content id of the parent can be stale (`InvX NoX (· = p)`), and every step of
the `_reset_content_id` walk moves that single exception one node up, until the root is reached.
-/
import PyOak.Props.LegacyDetach
import PyOak.Props.LegacyConstruct
namespace PyOak.Legacy
open LState

/-! ### restoring parent slots -/

/-- two records that differ at most in the parent slots and agree there are equal -/
theorem eq_of_sameButParent {a b : LObj} (h : SameButParent a b) (h1 : a.pid = b.pid) (h2 : a.pfield = b.pfield)
    (h3 : a.pindex = b.pindex) : a = b := by
  cases a; cases b
  obtain ⟨c1, c2, c3, c4, c5, c6, c7, c8, c9⟩ := h
  simp only at c1 c2 c3 c4 c5 c6 c7 c8 c9 h1 h2 h3
  subst c1 c2 c3 c4 c5 c6 c7 c8 c9 h1 h2 h3
  rfl

/-- `reparent` gives the listed children exactly the parent slots of the target records `o` -/
theorem reparent_restore (u : Nat) (o : Nat → LObj) : ∀ (l : List (Nat × Str × Option Nat)) (t : LState),
    (∀ x, SameButParent (t.obj x) (o x)) →
    (∀ e ∈ l, (o e.1).pid = some (t.idOf u) ∧ (o e.1).pfield = some e.2.1 ∧ (o e.1).pindex = e.2.2) →
    ∀ x, x ∈ l.map (·.1) → (reparent u t l).obj x = o x := by
  intro l
  induction l with
  | nil => intro t _ _ x hx; cases hx
  | cons a r ih =>
    intro t hsame hl x hx
    obtain ⟨c, f, i⟩ := a
    simp only [reparent]
    have hsame' : ∀ y, SameButParent ((t.setParent c u f i).obj y) (o y) := by
      intro y; rw [setParent_obj]; split
      · next h =>
        subst h
        exact (sameButParent_setSlots _ _ _ _).trans (hsame y)
      · exact hsame y
    by_cases hxr : x ∈ r.map (·.1)
    · exact ih _ hsame' (fun e he => by rw [setParent_idOf]; exact hl e (List.mem_cons_of_mem _ he)) x hxr
    · have hxc : x = c := by
        simp only [List.map_cons, List.mem_cons] at hx
        rcases hx with h | h
        · exact h
        · exact absurd h hxr
      subst hxc
      rw [reparent_obj_not_mem u r _ x hxr]
      obtain ⟨p1, p2, p3⟩ := hl (x, f, i) (List.mem_cons_self ..)
      apply eq_of_sameButParent (hsame' x)
      · rw [setParent_obj]; simp [p1]
      · rw [setParent_obj]; simp [p2]
      · rw [setParent_obj]; simp [p3]

/-- the position `e` of `p` is exempt -/
def Hole (p : Nat) (e : Nat × Str × Option Nat) : Nat → (Nat × Str × Option Nat) → Prop :=
  fun q e' => q = p ∧ e' = e

section
variable (H Hc : Str → Str)

/-! ### closing a hole, in general -/

/-- **closing a hole**: the children of `p` are seated anew.  Only the child fields of `p` and parent slots
change.  If in the new state every child position of `p` is consistent (`hkids`), a child of `p` was one
before or was nobody's child (`hnew`), every former child other than the hole is still one (`hold`), and
whoever is not a child of `p` now keeps its parent slots (`hslots`), then the invariant holds again, except
that the content id of `p` may be stale. -/
theorem InvX.close_hole {s s' : LState} {p : Nat} {h : Nat × Str × Option Nat}
    (hI : InvX Hc (Hole p h) NoY s) (hp : Att s p) (hh : ¬ Att s h.1)
    (hsz : s'.size = s.size) (hlk : ∀ k, s'.lookup k = s.lookup k)
    (hsame : ∀ x, s'.idOf x = s.idOf x ∧ (s'.obj x).cid = (s.obj x).cid ∧ (s'.obj x).cls = (s.obj x).cls ∧
      (s'.obj x).props = (s.obj x).props)
    (hfl : ∀ x, x ≠ p → (s'.obj x).fields = (s.obj x).fields) (hwf : (s'.obj p).wf)
    (hkids : ∀ e ∈ (s'.obj p).kidsPos,
      Att s e.1 ∧ e.1 ≠ p ∧ slots (s'.obj e.1) = (some (s.idOf p), some e.2.1, e.2.2))
    (hnew : ∀ e ∈ (s'.obj p).kidsPos, e.1 ∈ (s.obj p).kidList ∨ ∀ q, Att s q → e.1 ∉ (s.obj q).kidList)
    (hold : ∀ e ∈ (s.obj p).kidsPos, e ≠ h → ∃ e' ∈ (s'.obj p).kidsPos, e'.1 = e.1)
    (hslots : ∀ x, (∀ e ∈ (s'.obj p).kidsPos, e.1 ≠ x) → slots (s'.obj x) = slots (s.obj x)) :
    InvX Hc NoX (fun x => x = p) s' := by
  have hatt : ∀ x, Att s' x ↔ Att s x := fun x => att_congr (hsame x).1 (hlk _)
  have hp' : s.lookup (s.idOf p) = some p := hp
  -- a child of an attached node other than `p` is not among the new children of `p`
  have other : ∀ w, Att s w → w ≠ p → ∀ e ∈ (s.obj w).kidsPos,
      KidOk s w e ∧ slots (s'.obj e.1) = slots (s.obj e.1) := by
    intro w hw hwp e he
    have hk := hI.down w hw e he (fun hx => hwp hx.1)
    refine ⟨hk, hslots e.1 (fun e' he' heq => ?_)⟩
    rcases hnew e' he' with hin | hfree
    · rw [heq] at hin
      obtain ⟨e0, he0, he01⟩ := (mem_kidList_iff _ _).mp hin
      have hne : e0 ≠ h := fun e => hh (by rw [← e, he01]; exact hk.1)
      have := (hI.down p hp e0 he0 (fun hx => hne hx.2)).2.1
      rw [he01, hk.2.1] at this
      exact hwp (att_inj hw hp (Option.some.inj this))
    · exact hfree w hw (heq ▸ mem_kidList_of_pos he)
  have isKid : ∀ x, (∃ e ∈ (s'.obj p).kidsPos, e.1 = x) ∨
      ((∀ e ∈ (s'.obj p).kidsPos, e.1 ≠ x) ∧ slots (s'.obj x) = slots (s.obj x)) := by
    intro x
    by_cases hx : ∃ e ∈ (s'.obj p).kidsPos, e.1 = x
    · exact .inl hx
    · have hn : ∀ e ∈ (s'.obj p).kidsPos, e.1 ≠ x := fun e he heq => hx ⟨e, he, heq⟩
      exact .inr ⟨hn, hslots x hn⟩
  refine ⟨?_, ?_, ?_, ?_, ?_, ?_, ?_, ?_⟩
  · intro k v hk
    rw [hlk] at hk
    obtain ⟨a, b⟩ := hI.regSound k v hk
    exact ⟨by rw [hsz]; exact a, by rw [(hsame v).1]; exact b⟩
  · intro w hw e he _
    have hws := (hatt w).mp hw
    by_cases hwp : w = p
    · rw [hwp] at he ⊢
      obtain ⟨a, _, hs⟩ := hkids e he
      obtain ⟨h1, h2, h3⟩ := slots_eq hs
      exact ⟨(hatt _).mpr a, by rw [(hsame p).1]; exact h1, h2, h3⟩
    · rw [LObj.kidsPos_congr (hfl w hwp)] at he
      obtain ⟨⟨a, b, c, d⟩, hs⟩ := other w hws hwp e he
      obtain ⟨h1, h2, h3⟩ := slots_congr hs
      exact ⟨(hatt _).mpr a, by rw [(hsame w).1]; exact h1.trans b, h2.trans c, h3.trans d⟩
  · intro x hx q hq
    have hxs := (hatt x).mp hx
    rcases isKid x with ⟨e, he, rfl⟩ | ⟨hnk, hs⟩
    · obtain ⟨h1, h2, h3⟩ := slots_eq (hkids e he).2.2
      rw [parent_of_pid h1, hlk, hp'] at hq
      rw [← Option.some.inj hq, h3]
      exact ⟨e.2.1, h2, he⟩
    · obtain ⟨h1, h2, h3⟩ := slots_congr hs
      obtain ⟨f', hf', hm⟩ := hI.up x hxs q (by rw [← parent_congr h1 hlk]; exact hq)
      refine ⟨f', h2.trans hf', ?_⟩
      rw [h3]
      by_cases hqp : q = p
      · rw [hqp] at hm
        obtain ⟨e', he', he'1⟩ := hold _ hm (fun e => hh (by rw [← e]; exact hxs))
        exact absurd he'1 (hnk e' he')
      · rw [LObj.kidsPos_congr (hfl q hqp)]; exact hm
  · intro x hx hy
    exact hI.cid_kept ((hatt x).mp hx) (fun h => h) (hsame x).2.1 (fun c _ => (hsame c).2.1) (hsame x).2.2.1
      (hsame x).2.2.2 (hfl x hy)
  · intro x k hk
    rcases isKid x with ⟨e, he, rfl⟩ | ⟨_, hs⟩
    · obtain ⟨a, _, hs⟩ := hkids e he
      rw [(slots_eq hs).1] at hk
      exact ⟨(hatt _).mpr a, by rw [← Option.some.inj hk, hlk, hp']; rfl⟩
    · rw [(slots_congr hs).1] at hk
      obtain ⟨a, b⟩ := hI.noDangling x k hk
      exact ⟨(hatt x).mpr a, by rw [hlk]; exact b⟩
  · intro v hv c hc
    rw [hsz] at hv ⊢
    by_cases hvp : v = p
    · rw [hvp] at hc
      obtain ⟨e, he, rfl⟩ := (mem_kidList_iff _ _).mp hc
      exact att_lt hI (hkids e he).1
    · rw [LObj.kidList_congr (hfl v hvp)] at hc
      exact hI.closed v hv c hc
  · intro x hx
    rcases isKid x with ⟨e, he, rfl⟩ | ⟨_, hs⟩
    · obtain ⟨_, hne, hs⟩ := hkids e he
      rw [parent_of_pid (slots_eq hs).1, hlk, hp'] at hx
      exact hne (Option.some.inj hx).symm
    · exact hI.noSelf x (by rw [← parent_congr (slots_congr hs).1 hlk]; exact hx)
  · intro v
    by_cases hvp : v = p
    · rw [hvp]; exact hwf
    · exact LObj.wf_congr (hfl v hvp) (hI.wf v)

/-! ### opening the hole: `self._clear_parent()` on a node that has a parent -/

theorem clearParent_invX {s : LState} {u p : Nat} {f : Str} (hI : Inv Hc s)
    (hp : s.parent u = some p) (hf : (s.obj u).pfield = some f) :
    InvX Hc (Hole p (u, f, (s.obj u).pindex)) NoY (s.clearParent u) := by
  have hpr : ∀ {α : Type} (g : LObj → α), (∀ o, g (clearP o) = g o) →
      ∀ v, g ((s.clearParent u).obj v) = g (s.obj v) := fun g hg v => modify_proj g s u clearP (hg _) v
  have hsl : ∀ x, x ≠ u → slots ((s.clearParent u).obj x) = slots (s.obj x) := by
    intro x hx; rw [clearParent_obj', if_neg hx]
  refine hI.of_sameKids rfl (fun _ => rfl)
    (fun v => ⟨clearParent_idOf s u v, hpr (·.fields) (fun _ => rfl) v⟩) ?_ ?_ ?_
  · intro x
    by_cases hx : x = u
    · right; rw [hx, clearParent_obj', if_pos rfl]; rfl
    · exact .inl (hsl x hx)
  · intro w e hw he hx
    refine ⟨fun h => h, hsl e.1 (fun h => hx ?_)⟩
    -- a position that holds `u` is the one `u` stores, in its parent
    obtain ⟨_, b, c, d⟩ := hI.down' w hw e he
    rw [h] at b c d
    have hw' : s.lookup (s.idOf w) = some w := hw
    rw [parent_of_pid b, hw'] at hp
    rw [hf] at c
    exact ⟨Option.some.inj hp, Prod.ext h (Prod.ext (Option.some.inj c).symm d.symm)⟩
  · intro x hx _
    exact hI.cid_kept hx (fun h => h) (hpr (·.cid) (fun _ => rfl) x) (fun c _ => hpr (·.cid) (fun _ => rfl) c)
      (hpr (·.cls) (fun _ => rfl) x) (hpr (·.props) (fun _ => rfl) x) (hpr (·.fields) (fun _ => rfl) x)

/-! ### the `_reset_content_id` walk -/

/-- recomputing the content id of the one node whose content id may be stale moves the exception to
its parent (if any) -/
theorem setContentId_invX {s : LState} {u : Nat} (hI : InvX Hc NoX (fun x => x = u) s) :
    InvX Hc NoX (fun x => s.parent u = some x) (s.setContentId Hc u) := by
  have hpr : ∀ {α : Type} (g : LObj → α), (∀ (o : LObj) c, g { o with cid := c } = g o) →
      ∀ v, g ((s.setContentId Hc u).obj v) = g (s.obj v) := by
    intro α g hg v
    refine modify_proj g s u _ ?_ v
    exact hg _ _
  have hobj : ∀ x, x ≠ u → (s.setContentId Hc u).obj x = s.obj x := fun x hx => modify_obj_ne s u _ x hx
  -- the children of an attached node name it as parent
  have kid : ∀ x c, Att s x → c ∈ (s.obj x).kidList → s.parent c = some x :=
    fun x c hx hc => hI.parent_of_kid hx hc (fun _ _ h => h)
  refine hI.of_sameKids rfl (fun _ => rfl)
    (fun v => ⟨hpr (·.id) (fun _ _ => rfl) v, hpr (·.fields) (fun _ _ => rfl) v⟩)
    (fun v => .inl (hpr slots (fun _ _ => rfl) v))
    (fun w e _ _ hx => ⟨hx, hpr slots (fun _ _ => rfl) e.1⟩) ?_
  intro x hxs hy
  by_cases hxu : x = u
  · rw [hxu] at hxs ⊢
    rw [setContentId_obj, if_pos rfl]
    refine congrArg Hc (cidPre_congr rfl rfl rfl (fun c hc => ?_)).symm
    rw [hobj c (fun h => hI.noSelf u (by have := kid u c hxs hc; rwa [h] at this))]
  · exact hI.cid_kept hxs hxu (congrArg (·.cid) (hobj x hxu))
      (fun c hc => congrArg (·.cid) (hobj c (fun h => hy (by have := kid x c hxs hc; rwa [h] at this))))
      (hpr (·.cls) (fun _ _ => rfl) x) (hpr (·.props) (fun _ _ => rfl) x) (hpr (·.fields) (fun _ _ => rfl) x)

/-- **the walk**: if only the content id of `u` may be stale and `_reset_content_id` started at `u`
reaches a root, the invariant holds without exception (the change has propagated to all ancestors) -/
theorem resetContentId_inv : ∀ (fuel : Nat) (s : LState) (u : Nat) (s' : LState),
    InvX Hc NoX (fun x => x = u) s → resetContentId Hc s fuel u = (s', true) → Inv Hc s' := by
  intro fuel
  induction fuel with
  | zero => intro s u s' _ h; simp [resetContentId] at h
  | succ fuel ih =>
    intro s u s' hI h
    unfold resetContentId at h
    simp only at h
    have h1 := setContentId_invX Hc hI
    have hpar : (s.setContentId Hc u).parent u = s.parent u :=
      parent_congr (by rw [setContentId_obj, if_pos rfl]) (fun _ => rfl)
    rw [hpar] at h
    cases hp : s.parent u with
    | none =>
      rw [hp] at h
      simp only [Prod.mk.injEq, and_true] at h
      subst h
      exact h1.weaken (fun _ _ h => h) (fun x hx => by rw [hp] at hx; cases hx)
    | some p =>
      rw [hp] at h
      simp only at h
      exact ih _ p s' (h1.weaken (fun _ _ h => h) (fun x hx => by rw [hp] at hx; exact (Option.some.inj hx).symm)) h

/-! ### the child positions of the parent after `_replace_child(old, field, index, new)` -/

def swapEntry (eu en e : Nat × Str × Option Nat) : Nat × Str × Option Nat := if e = eu then en else e

/-- the new value of the field, as `_replace_child` builds it -/
def newKidsFor (kids : List Nat) (idx : Option Nat) (n : Nat) : List Nat :=
  match idx with
  | some i => kids.take i ++ n :: kids.drop (i + 1)
  | none => [n]

theorem posFrom_mem_iff (name : Str) : ∀ (l : List Nat) (j : Nat) (e : Nat × Str × Option Nat),
    e ∈ posFrom name j l ↔ ∃ m x, l[m]? = some x ∧ e = (x, name, some (j + m)) := by
  intro l
  induction l with
  | nil => intro j e; simp [posFrom]
  | cons c r ih =>
    intro j e
    simp only [posFrom, List.mem_cons, ih]
    constructor
    · rintro (h | ⟨m, x, hx, he⟩)
      · exact ⟨0, c, by simp, by simpa using h⟩
      · exact ⟨m + 1, x, by simpa using hx, by rw [he]; simp; omega⟩
    · rintro ⟨m, x, hx, he⟩
      cases m with
      | zero => left; simp at hx; subst hx; simpa using he
      | succ m => right; exact ⟨m, x, by simpa using hx, by rw [he]; simp; omega⟩

theorem posFrom_mem_zero (name : Str) (l : List Nat) (x j : Nat) :
    (x, name, some j) ∈ posFrom name 0 l ↔ l[j]? = some x := by
  rw [posFrom_mem_iff]
  constructor
  · rintro ⟨m, y, hy, he⟩
    simp only [Nat.zero_add, Prod.mk.injEq, Option.some.injEq, true_and] at he
    obtain ⟨rfl, rfl⟩ := he; exact hy
  · intro h; exact ⟨j, x, h, by simp⟩

theorem posFrom_idx_ge (name : Str) (l : List Nat) (j : Nat) (e : Nat × Str × Option Nat)
    (he : e ∈ posFrom name j l) : ∃ m, e.2.2 = some m ∧ j ≤ m ∧ e.2.1 = name := by
  obtain ⟨m, x, _, rfl⟩ := (posFrom_mem_iff name l j e).mp he
  exact ⟨j + m, rfl, Nat.le_add_right j m, rfl⟩

/-- the child positions of a field: in a sequence field every child with its index, otherwise every child
with index `None` -/
theorem LField.mem_pos_iff (fl : LField) (x : Nat) (nm : Str) (j : Option Nat) :
    (x, nm, j) ∈ fl.pos ↔ nm = fl.name ∧
      ((fl.kind.isSeq = true ∧ ∃ i, j = some i ∧ fl.kids[i]? = some x) ∨
       (fl.kind.isSeq = false ∧ j = none ∧ x ∈ fl.kids)) := by
  unfold LField.pos
  by_cases hs : fl.kind.isSeq = true
  · rw [if_pos hs, posFrom_mem_iff]
    constructor
    · rintro ⟨m, y, hy, he⟩
      simp only [Prod.mk.injEq, Nat.zero_add] at he
      obtain ⟨rfl, rfl, rfl⟩ := he
      exact ⟨rfl, .inl ⟨hs, m, rfl, hy⟩⟩
    · rintro ⟨rfl, ⟨_, i, rfl, hi⟩ | ⟨h, _⟩⟩
      · exact ⟨i, x, hi, by rw [Nat.zero_add]⟩
      · rw [hs] at h; cases h
  · rw [if_neg hs, List.mem_map]
    constructor
    · rintro ⟨c, hc, he⟩
      simp only [Prod.mk.injEq] at he
      obtain ⟨rfl, rfl, rfl⟩ := he
      exact ⟨rfl, .inr ⟨Bool.eq_false_iff.mpr hs, rfl, hc⟩⟩
    · rintro ⟨rfl, ⟨h, _⟩ | ⟨_, rfl, hx⟩⟩
      · exact absurd h hs
      · exact ⟨x, hx, rfl⟩

theorem posFrom_swap (name : Str) (u n : Nat) : ∀ (l : List Nat) (j i : Nat),
    (u, name, some (j + i)) ∈ posFrom name j l →
    posFrom name j (l.take i ++ n :: l.drop (i + 1)) =
      (posFrom name j l).map (swapEntry (u, name, some (j + i)) (n, name, some (j + i))) := by
  intro l; induction l with
  | nil => intro j i he; cases he
  | cons c r ih =>
    intro j i he
    cases i with
    | zero =>
      simp only [posFrom, List.mem_cons] at he
      have hc : c = u := by
        rcases he with h | h
        · simp only [Nat.add_zero, Prod.mk.injEq] at h; exact h.1.symm
        · obtain ⟨m, h1, h2, _⟩ := posFrom_idx_ge name r (j + 1) _ h
          simp only [Nat.add_zero, Option.some.injEq] at h1; omega
      subst hc
      simp only [List.take_zero, List.nil_append, Nat.zero_add, List.drop_succ_cons, List.drop_zero, posFrom,
        List.map_cons, Nat.add_zero]
      congr 1
      · simp [swapEntry]
      · symm
        rw [List.map_congr_left, List.map_id]
        intro e he'
        obtain ⟨m, h1, h2, _⟩ := posFrom_idx_ge name r (j + 1) e he'
        unfold swapEntry
        have : e ≠ (c, name, some j) := by
          intro h; rw [h] at h1; simp only [Option.some.injEq] at h1; omega
        simp [this]
    | succ i =>
      simp only [posFrom, List.mem_cons] at he
      have he' : (u, name, some (j + 1 + i)) ∈ posFrom name (j + 1) r := by
        rcases he with h | h
        · simp only [Prod.mk.injEq, Option.some.injEq] at h; omega
        · have : j + (i + 1) = j + 1 + i := by omega
          rw [this] at h; exact h
      have := ih (j + 1) i he'
      have e1 : j + (i + 1) = j + 1 + i := by omega
      simp only [List.take_succ_cons, List.cons_append, List.drop_succ_cons, posFrom, List.map_cons, e1]
      congr 1
      · unfold swapEntry
        have : (c, name, some j) ≠ (u, name, some (j + 1 + i)) := by
          intro h; simp only [Prod.mk.injEq, Option.some.injEq] at h; omega
        simp [this]

theorem pos_swap (fl : LField) (hwf : fl.wf) (u n : Nat) (idx : Option Nat) (he : (u, fl.name, idx) ∈ fl.pos) :
    ({ fl with kids := newKidsFor fl.kids idx n } : LField).pos =
      fl.pos.map (swapEntry (u, fl.name, idx) (n, fl.name, idx)) := by
  unfold LField.pos at he ⊢
  by_cases hs : fl.kind.isSeq = true
  · simp only [hs, if_true] at he ⊢
    obtain ⟨m, h1, _, _⟩ := posFrom_idx_ge fl.name fl.kids 0 _ he
    simp only at h1
    subst h1
    have := posFrom_swap fl.name u n fl.kids 0 m (by simpa using he)
    simpa [newKidsFor] using this
  · simp only [hs, Bool.false_eq_true, if_false] at he ⊢
    have hlen : fl.kids.length ≤ 1 := by
      rcases hwf with h | h
      · exact absurd h hs
      · exact h
    obtain ⟨c, hc, hce⟩ := List.mem_map.mp he
    simp only [Prod.mk.injEq] at hce
    obtain ⟨rfl, _, rfl⟩ := hce
    have hk : fl.kids = [c] := by
      match hkk : fl.kids, hc, hlen with
      | [x], hc, _ => simp at hc; rw [hc]
      | _ :: _ :: _, _, hl => simp at hl
    simp [newKidsFor, hk, swapEntry]

theorem pos_field_name (fl : LField) (e : Nat × Str × Option Nat) (he : e ∈ fl.pos) : e.2.1 = fl.name :=
  ((fl.mem_pos_iff e.1 e.2.1 e.2.2).mp he).1

/-- `setattr(self, field.name, …)` swaps exactly the entry of the old child -/
theorem kidsPos_swap (o : LObj) (ho : o.wf) (u n : Nat) (f : Str) (idx : Option Nat)
    (he : (u, f, idx) ∈ o.kidsPos) (ks : List Nat)
    (hks : ∀ fl ∈ o.fields, fl.name = f → ks = newKidsFor fl.kids idx n) :
    ({ o with fields := o.fields.map fun fl => if fl.name = f then { fl with kids := ks } else fl } : LObj).kidsPos =
      o.kidsPos.map (swapEntry (u, f, idx) (n, f, idx)) := by
  unfold LObj.kidsPos at he ⊢
  obtain ⟨fl0, hfl0, he0⟩ := List.mem_flatMap.mp he
  have hn0 : fl0.name = f := (pos_field_name fl0 _ he0).symm
  simp only [List.flatMap_map, List.map_flatMap]
  apply flatMap_congr'
  intro fl hfl
  by_cases hname : fl.name = f
  · have : fl = fl0 := eq_of_nodup_map (·.name) o.fields ho.1 fl hfl fl0 hfl0 (hname.trans hn0.symm)
    subst this
    simp only [hname, if_true]
    rw [hks fl hfl hname]
    have := pos_swap fl (ho.2 fl hfl) u n idx (by rw [hname]; exact he0)
    rw [hname] at this
    exact this
  · simp only [hname, if_false]
    symm
    rw [List.map_congr_left, List.map_id]
    intro e he'
    have := pos_field_name fl e he'
    unfold swapEntry
    have hne : e ≠ (u, f, idx) := by
      intro h; rw [h] at this; exact hname this.symm
    simp [hne]

/-! ### closing the hole: `_replace_child(old, field, index, new)` with a new node -/

theorem fieldKids_eq {s : LState} {p : Nat} {f : Str} (ho : (s.obj p).wf) {fl : LField} (hfl : fl ∈ (s.obj p).fields)
    (hn : fl.name = f) : fieldKids s p f = fl.kids := by
  unfold fieldKids
  cases hf : (s.obj p).fields.find? (·.name = f) with
  | none =>
    have := List.find?_eq_none.mp hf fl hfl
    simp [hn] at this
  | some fl' =>
    have h1 := List.mem_of_find?_eq_some hf
    have h2 : fl'.name = f := by simpa using List.find?_some hf
    have : fl' = fl := eq_of_nodup_map (·.name) _ ho.1 fl' h1 fl hfl (h2.trans hn.symm)
    rw [this]

/-- the state after the field assignment and `new._set_parent(self, field, index)` -/
def swapped (s : LState) (p n : Nat) (f : Str) (idx : Option Nat) : LState :=
  (setField s p f (newKidsFor (fieldKids s p f) idx n)).setParent n p f idx

theorem ite_ne_swap {α β : Type} [DecidableEq α] (a b : α) (x y : β) :
    (if decide (a ≠ b) = true then x else y) = if a = b then y else x := by
  by_cases h : a = b <;> simp [h]

theorem replaceChild_some (fuel : Nat) (s : LState) (p u n : Nat) (f : Str) (idx : Option Nat) :
    replaceChild Hc fuel s p u f idx (some n) =
      if ((swapped s p n f idx).obj u).cid = ((swapped s p n f idx).obj n).cid
      then (swapped s p n f idx, true) else (swapped s p n f idx).resetContentId Hc fuel p := by
  unfold replaceChild swapped newKidsFor
  cases idx <;> simp only [Option.toList] <;> exact ite_ne_swap _ _ _ _

theorem setField_obj (s : LState) (p : Nat) (f : Str) (ks : List Nat) (x : Nat) :
    (setField s p f ks).obj x =
      if x = p then { s.obj p with fields := (s.obj p).fields.map fun fl =>
        if fl.name = f then { fl with kids := ks } else fl } else s.obj x := by
  unfold setField; rw [modify_obj]

theorem swapped_obj (s : LState) (p n : Nat) (f : Str) (idx : Option Nat) (hnp : n ≠ p) (x : Nat) :
    (swapped s p n f idx).obj x =
      if x = n then { s.obj n with pid := some (s.idOf p), pfield := some f, pindex := idx }
      else if x = p then { s.obj p with fields := (s.obj p).fields.map fun fl =>
        if fl.name = f then { fl with kids := newKidsFor (fieldKids s p f) idx n } else fl }
      else s.obj x := by
  unfold swapped
  rw [setParent_obj]
  have hidp : (setField s p f (newKidsFor (fieldKids s p f) idx n)).idOf p = s.idOf p := by
    unfold LState.idOf; rw [setField_obj, if_pos rfl]
  by_cases hx : x = n
  · subst hx
    rw [if_pos rfl, if_pos rfl, hidp, setField_obj, if_neg hnp]
  · rw [if_neg hx, if_neg hx, setField_obj]

/-- a component of the records that neither parent slots nor child fields enter is untouched by the swap -/
theorem swapped_proj {α : Type} (g : LObj → α)
    (hslot : ∀ (o : LObj) a b c, g { o with pid := a, pfield := b, pindex := c } = g o)
    (hfld : ∀ (o : LObj) fs, g { o with fields := fs } = g o)
    (s : LState) (p n : Nat) (f : Str) (idx : Option Nat) (x : Nat) :
    g ((swapped s p n f idx).obj x) = g (s.obj x) := by
  unfold swapped LState.setParent setField
  refine (modify_proj g _ n _ ?_ x).trans (modify_proj g s p _ ?_ x)
  · exact hslot _ _ _ _
  · exact hfld _ _

/-- the swap puts the new node into the child position of the old one -/
theorem swapped_kidsPos {s : LState} {p u n : Nat} {f : Str} {idx : Option Nat} (hwf : (s.obj p).wf)
    (he : (u, f, idx) ∈ (s.obj p).kidsPos) (hnp : n ≠ p) :
    ((swapped s p n f idx).obj p).kidsPos = (s.obj p).kidsPos.map (swapEntry (u, f, idx) (n, f, idx)) := by
  rw [swapped_obj s p n f idx hnp, if_neg (Ne.symm hnp), if_pos rfl]
  exact kidsPos_swap (s.obj p) hwf u n f idx he _ (fun fl hfl hname => by rw [fieldKids_eq hwf hfl hname])

/-- giving one field new children keeps an object well formed if the field is a sequence or gets at most
one child -/
theorem wf_setKids {o : LObj} (ho : o.wf) (f : Str) (ks : List Nat)
    (h : ∀ fl ∈ o.fields, fl.name = f → fl.kind.isSeq = true ∨ ks.length ≤ 1) :
    ({ o with fields := o.fields.map fun fl => if fl.name = f then { fl with kids := ks } else fl } : LObj).wf := by
  constructor
  · show ((o.fields.map fun fl => if fl.name = f then { fl with kids := ks } else fl).map (·.name)).Nodup
    rw [List.map_map]
    have : ((fun x : LField => x.name) ∘ fun fl => if fl.name = f then { fl with kids := ks } else fl) =
        (·.name) := by
      funext fl; simp only [Function.comp]; split <;> rfl
    rw [this]; exact ho.1
  · intro fl' hfl'
    obtain ⟨fl, hfl, rfl⟩ := List.mem_map.mp hfl'
    by_cases hname : fl.name = f
    · rw [if_pos hname]; exact h fl hfl hname
    · rw [if_neg hname]; exact ho.2 fl hfl

/-- after the swap the invariant holds except, possibly, for the content id of the parent -/
theorem swapped_invX {s : LState} {p u n : Nat} {f : Str} {idx : Option Nat}
    (hI : InvX Hc (Hole p (u, f, idx)) NoY s) (hp : Att s p) (he : (u, f, idx) ∈ (s.obj p).kidsPos)
    (hn : Att s n) (hfree : ∀ q, Att s q → n ∉ (s.obj q).kidList) (hnp : n ≠ p) (hudet : ¬ Att s u) :
    InvX Hc NoX (fun x => x = p) (swapped s p n f idx) := by
  have hobj := swapped_obj s p n f idx hnp
  have hkpp := swapped_kidsPos (n := n) (hI.wf p) he hnp
  have hsl : ∀ x, x ≠ n → slots ((swapped s p n f idx).obj x) = slots (s.obj x) := by
    intro x hx
    rw [hobj, if_neg hx]
    by_cases hxp : x = p
    · rw [if_pos hxp, hxp]; rfl
    · rw [if_neg hxp]
  -- the children of p now: n in the place of the hole, the others as they were
  have kids : ∀ e ∈ ((swapped s p n f idx).obj p).kidsPos,
      e = (n, f, idx) ∨ (e ∈ (s.obj p).kidsPos ∧ e ≠ (u, f, idx)) := by
    intro e he'
    rw [hkpp] at he'
    obtain ⟨e0, he0, rfl⟩ := List.mem_map.mp he'
    unfold swapEntry
    by_cases heq : e0 = (u, f, idx)
    · rw [if_pos heq]; exact .inl rfl
    · rw [if_neg heq]; exact .inr ⟨he0, heq⟩
  have hnkid : (n, f, idx) ∈ ((swapped s p n f idx).obj p).kidsPos := by
    rw [hkpp]; exact List.mem_map.mpr ⟨(u, f, idx), he, by unfold swapEntry; rw [if_pos rfl]⟩
  refine InvX.close_hole Hc hI hp hudet rfl (fun _ => rfl) ?_ ?_ ?_ ?_ ?_ ?_ ?_
  · exact fun x => ⟨swapped_proj (·.id) (fun _ _ _ _ => rfl) (fun _ _ => rfl) s p n f idx x,
      swapped_proj (·.cid) (fun _ _ _ _ => rfl) (fun _ _ => rfl) s p n f idx x,
      swapped_proj (·.cls) (fun _ _ _ _ => rfl) (fun _ _ => rfl) s p n f idx x,
      swapped_proj (·.props) (fun _ _ _ _ => rfl) (fun _ _ => rfl) s p n f idx x⟩
  · intro x hx
    rw [hobj]
    by_cases hxn : x = n
    · rw [if_pos hxn, hxn]
    · rw [if_neg hxn, if_neg hx]
  · rw [hobj, if_neg (Ne.symm hnp), if_pos rfl]
    refine wf_setKids (hI.wf p) f _ (fun fl hfl hname => ?_)
    -- a single field: the old child sits there with index None
    by_cases hseq : fl.kind.isSeq = true
    · exact .inl hseq
    · right
      obtain ⟨fl0, hfl0, he0⟩ :=
        List.mem_flatMap.mp (show (u, f, idx) ∈ (s.obj p).fields.flatMap LField.pos from he)
      have : fl = fl0 :=
        eq_of_nodup_map (·.name) _ (hI.wf p).1 fl hfl fl0 hfl0 (hname.trans (pos_field_name fl0 _ he0))
      rw [← this] at he0
      rcases ((fl.mem_pos_iff u f idx).mp he0).2 with ⟨h, _⟩ | ⟨_, h, _⟩
      · exact absurd h hseq
      · rw [h]; exact Nat.le_refl 1
  · intro e he'
    rcases kids e he' with rfl | ⟨h1, h2⟩
    · exact ⟨hn, hnp, by rw [hobj, if_pos rfl]; rfl⟩
    · have hk := hI.down p hp e h1 (fun hx => h2 hx.2)
      have hne : e.1 ≠ n := fun h => hfree p hp (h ▸ mem_kidList_of_pos h1)
      refine ⟨hk.1, fun h => hI.noSelf p (by have := hk.parent hp; rwa [h] at this), ?_⟩
      rw [hsl _ hne]; exact hk.slots_eq
  · intro e he'
    rcases kids e he' with rfl | ⟨h1, _⟩
    · exact .inr hfree
    · exact .inl (mem_kidList_of_pos h1)
  · intro e he' hne
    exact ⟨e, by rw [hkpp]; exact List.mem_map.mpr ⟨e, he', by unfold swapEntry; rw [if_neg hne]⟩, rfl⟩
  · intro x hx
    exact hsl x (fun h => hx _ hnkid h.symm)

/-- if the new child has the content id of the old one, the parent's content id is still right -/
theorem swapped_cid_parent {s : LState} {p u n : Nat} {f : Str} {idx : Option Nat}
    (hI : InvX Hc (Hole p (u, f, idx)) NoY s) (hp : Att s p) (he : (u, f, idx) ∈ (s.obj p).kidsPos)
    (hnp : n ≠ p) (hcid : (s.obj u).cid = (s.obj n).cid) :
    ((swapped s p n f idx).obj p).cid = Hc (cidPre (swapped s p n f idx) ((swapped s p n f idx).obj p)) := by
  have hcidall : ∀ x, ((swapped s p n f idx).obj x).cid = (s.obj x).cid :=
    swapped_proj (·.cid) (fun _ _ _ _ => rfl) (fun _ _ => rfl) s p n f idx
  rw [hcidall, hI.cid p hp (fun h => h)]
  congr 1
  unfold cidPre kidsText
  rw [swapped_proj (·.cls) (fun _ _ _ _ => rfl) (fun _ _ => rfl) s p n f idx p,
    swapped_proj (·.props) (fun _ _ _ _ => rfl) (fun _ _ => rfl) s p n f idx p,
    swapped_kidsPos (n := n) (hI.wf p) he hnp]
  congr 1
  unfold sortByName
  -- the swap keeps the field names, hence the order
  have hname : (fun a b : Nat × Str × Option Nat =>
      strLt (swapEntry (u, f, idx) (n, f, idx) a).2.1 (swapEntry (u, f, idx) (n, f, idx) b).2.1) =
      (fun a b => strLt a.2.1 b.2.1) := by
    funext a b
    have : ∀ e : Nat × Str × Option Nat, (swapEntry (u, f, idx) (n, f, idx) e).2.1 = e.2.1 := by
      intro e; unfold swapEntry
      by_cases h : e = (u, f, idx)
      · rw [if_pos h, h]
      · rw [if_neg h]
    rw [this a, this b]
  rw [sortBy_map (swapEntry (u, f, idx) (n, f, idx)) (fun a b => strLt a.2.1 b.2.1), hname, List.flatMap_map]
  apply flatMap_congr'
  intro e _
  unfold swapEntry
  by_cases heq : e = (u, f, idx)
  · rw [if_pos heq, heq]; dsimp only; rw [hcidall, hcid]
  · rw [if_neg heq]; dsimp only; rw [hcidall]

/-- **`_replace_child` with a new node** closes the hole and, walking up, repairs the content ids -/
theorem replaceChild_some_inv {s s' : LState} {p u n fuel : Nat} {f : Str} {idx : Option Nat}
    (hI : InvX Hc (Hole p (u, f, idx)) NoY s) (hp : Att s p) (he : (u, f, idx) ∈ (s.obj p).kidsPos)
    (hn : Att s n) (hfree : ∀ q, Att s q → n ∉ (s.obj q).kidList) (hnp : n ≠ p) (hudet : ¬ Att s u)
    (h : replaceChild Hc fuel s p u f idx (some n) = (s', true)) : Inv Hc s' := by
  rw [replaceChild_some] at h
  have h1 := swapped_invX Hc hI hp he hn hfree hnp hudet
  have hcidall : ∀ x, ((swapped s p n f idx).obj x).cid = (s.obj x).cid :=
    swapped_proj (·.cid) (fun _ _ _ _ => rfl) (fun _ _ => rfl) s p n f idx
  split at h
  · next hc =>
    simp only [Prod.mk.injEq, and_true] at h
    subst h
    rw [hcidall, hcidall] at hc
    have hcp := swapped_cid_parent Hc hI hp he hnp hc
    exact ⟨h1.regSound, h1.down, h1.up,
      fun x hx _ => by
        by_cases hxp : x = p
        · subst hxp; exact hcp
        · exact h1.cid x hx hxp,
      h1.noDangling, h1.closed, h1.noSelf, h1.wf⟩
  · exact resetContentId_inv Hc fuel _ p s' h1 h

/-! ### `replace(**changes)` on a receiver that has a parent -/

theorem chooseId_explicit {s0 : LState} {u : Nat} {n : NewSpec} {k : Str} (hk : n.idArg = some k)
    (hdet : n.createDetached = false) (hfree : s0.lookup k = none) {nid : Str} {coll orig : Option Str}
    (h : chooseId H s0 u n = .ok (nid, coll, orig)) : nid = k := by
  unfold chooseId at h
  simp only [hk, hdet, Bool.false_eq_true, if_false, hfree, Option.isSome_none] at h
  simp only [Except.ok.injEq, Prod.mk.injEq] at h
  exact h.1.symm

theorem replace_inv_parent {s s' : LState} {u p n fuel : Nat} {ch : Changes} (hI : Inv Hc s) (hu : u < s.size)
    (hpar : s.parent u = some p) (hrefs : ∀ c ∈ ch.fields.flatMap (·.2), c < s.size) (hwf : ch.wfFor (s.obj u))
    (h : replace H Hc fuel s u ch = (s', .ok n)) : Inv Hc s' := by
  obtain ⟨hua, hpa, _⟩ := hI.of_parent hpar
  obtain ⟨f, hf, hmem⟩ := hI.up u hua p hpar
  have hpu : p ≠ u := fun h => hI.noSelf u (h ▸ hpar)
  have hps : p < s.size := att_lt hI hpa
  unfold replace at h
  split at h
  · simp at h
  · simp only [hpar, Option.isSome_some, if_true, hf, Option.getD_some] at h
    -- 1. clear the parent link: the hole opens
    have hI1 := clearParent_invX Hc hI hpar hf
    have ha1 : Att (s.clearParent u) u := (att_clearParent_iff s u u).mpr hua
    have hr1 := clearParent_parent_self s u
    have hd1 : (s.clearParent u).detached u = false := (detached_eq_false_iff _ _).mpr ha1
    simp only [hd1, Bool.not_false, if_true] at h
    -- 2. detach_self
    have hds := detach_self_eq (fuel := fuel) ha1 hr1
    rw [hds] at h
    simp only at h
    generalize hs2 : (((s.clearParent u).obj u).kidList.foldl LState.clearParent (s.clearParent u)).unregister
      ((s.clearParent u).idOf u) = s2 at h hds
    have hF := detachGo_facts (fuel + 1) true (s.clearParent u) u true (by rw [hds])
    rw [hds] at hF
    have hS : Shrinks (s.clearParent u) s2 := hF.shr
    have hlk2 : ∀ k, s2.lookup k = if s.idOf u = k then none else s.lookup k := by
      intro k; rw [← hs2, unregister_lookup, foldl_clearParent_lookup, clearParent_idOf, clearParent_lookup]
    have hid2 : ∀ x, s2.idOf x = s.idOf x := by intro x; rw [hS.id_eq, clearParent_idOf]
    have hfl2 : ∀ x, (s2.obj x).fields = (s.obj x).fields := by
      intro x; rw [hS.fields_eq]; rw [clearParent_obj']; split
      · next hx => subst hx; rfl
      · rfl
    have hsz2 : s2.size = s.size := by rw [hS.size]; rfl
    have hpa2 : Att s2 p := by
      unfold Att; rw [hid2, hlk2]
      have : s.idOf u ≠ s.idOf p := fun e => hpu (att_inj hua hpa e).symm
      simp only [this, if_false]; exact hpa
    have hI2 : InvX Hc (Hole p (u, f, (s.obj u).pindex)) NoY s2 := by
      refine detachGo_invX Hc hI1 hds ?_
      intro q e hx hun
      rw [hx.1] at hun
      exact hun.2 hpa2
    have hureg2 : s2.lookup (s.idOf u) = none := by rw [hlk2]; simp
    -- 3. the new node
    split at h
    · simp at h
    · next s3 n0 hc =>
      have hid2u : (s2.obj u).id = s.idOf u := hid2 u
      obtain ⟨sp, hsp1, hsp2, hsp3, hc⟩ : ∃ sp : NewSpec, sp.idArg = some (s2.obj u).id ∧
          sp.createDetached = false ∧ sp.fields = applyFields (s2.obj u).fields ch.fields ∧
          construct H Hc fuel s2 sp = (s3, .ok n0) := ⟨_, rfl, rfl, rfl, hc⟩
      have hkids : ∀ c ∈ sp.fields.flatMap (·.kids), c < s2.size := by
        intro c hc'
        rw [hsz2]
        rw [hsp3] at hc'
        obtain ⟨fl, hfl, hcf⟩ := List.mem_flatMap.mp hc'
        unfold applyFields at hfl
        obtain ⟨f0, hf0, rfl⟩ := List.mem_map.mp hfl
        split at hcf
        · next nm ks hfind =>
          exact hrefs c (List.mem_flatMap.mpr ⟨(nm, ks), List.mem_of_find?_eq_some hfind, hcf⟩)
        · have : c ∈ (s.obj u).kidList := by
            unfold LObj.kidList
            rw [← hfl2 u]
            exact List.mem_flatMap.mpr ⟨f0, hf0, hcf⟩
          exact hI.closed u hu c this
      have hwf2 : ch.wfFor (s2.obj u) := by unfold Changes.wfFor; rw [hfl2 u]; exact hwf
      have hchoose : ∀ nid coll orig, chooseId H (s2.alloc (newObj sp)).1 s2.size sp = .ok (nid, coll, orig) →
          nid = s.idOf u := by
        intro nid coll orig hch
        have := chooseId_explicit H hsp1 hsp2 (by
          show s2.lookup (s2.obj u).id = none
          rw [hid2u]; exact hureg2) hch
        rw [this]; exact hid2u
      obtain ⟨hI3, hn0, hsz3, hatt3, hg3, hnid⟩ := construct_invX H Hc hI2 hkids
        (applyFields_wf (hI2.wf u) hwf2 sp hsp3)
        (by
          intro q e hx
          rw [hx.2]
          refine ⟨by rw [hsz2]; exact hu, ?_⟩
          intro nid coll orig hch
          rw [hchoose nid coll orig hch]; exact hid2 u)
        (fun h => h) hc
      have hn3 : Att s3 n0 := hatt3 hsp2
      -- the id of the new node is the id of the receiver
      have hidn : s3.idOf n0 = s.idOf u := by
        obtain ⟨nid, coll, orig, hch⟩ := construct_ok_chooseId H Hc hc
        rw [hn0, hnid nid coll orig hch]; exact hchoose nid coll orig hch
      have hups : u < s2.size := by rw [hsz2]; exact hu
      have hpps : p < s2.size := by rw [hsz2]; exact hps
      have hpa3 : Att s3 p := by
        unfold Att; rw [(hg3.same p hpps).1]; exact hg3.reg _ _ hpa2
      have hmem3 : (u, f, (s.obj u).pindex) ∈ (s3.obj p).kidsPos := by
        unfold LObj.kidsPos; rw [(hg3.same p hpps).2, hfl2 p]; exact hmem
      have hudet3 : ¬ Att s3 u := by
        intro hua3
        have : s3.idOf u = s3.idOf n0 := by rw [hidn, (hg3.same u hups).1, hid2]
        have := att_inj hua3 hn3 this
        rw [hn0] at this; omega
      have hnp : n0 ≠ p := by rw [hn0]; omega
      have hfree3 : ∀ q, Att s3 q → n0 ∉ (s3.obj q).kidList := by
        intro q hq hmemq
        by_cases hqn : q = n0
        · subst hqn
          exact hI3.noSelf q (hI3.parent_of_kid hq hmemq (fun e _ hx => hnp hx.1))
        · have hq3 : q < s3.size := att_lt hI3 hq
          have hq2 : q < s2.size := by rw [hsz3] at hq3; rw [hn0] at hqn; omega
          have : (s3.obj q).kidList = (s2.obj q).kidList := by unfold LObj.kidList; rw [(hg3.same q hq2).2]
          rw [this] at hmemq
          have := hI2.closed q hq2 n0 hmemq
          rw [hn0] at this; omega
      -- 4. `_replace_child` closes the hole, 5. the bookkeeping fields
      cases hrc : replaceChild Hc fuel s3 p u f (s.obj u).pindex (some n0) with
      | mk s4 fin =>
        rw [hrc] at h
        simp only at h
        cases fin with
        | false => simp at h
        | true =>
          simp only [if_true, Prod.mk.injEq, Except.ok.injEq] at h
          obtain ⟨rfl, _⟩ := h
          have hI4 := replaceChild_some_inv Hc hI3 hpa3 hmem3 hn3 hfree3 hnp hudet3 hrc
          exact inv_modify_meta Hc hI4 n0 _ _

end

end PyOak.Legacy
