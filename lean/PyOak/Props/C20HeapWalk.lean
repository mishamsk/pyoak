/-
C20 — the legacy traversals and `calculate_xpath` as they run on the heap (Model/LegacyHeapWalk.lean: deques of
object references, `get_child_nodes()` read from the object's child fields, callbacks on objects; `_set_xpath`
reading the node's own `parent_field` / `parent_index`) agree with the tree-level models (Model/LegacyTraverse.lean,
the functions the `ldfs` / `lbfs` / `lgather` / `lcalc` correspondence exercises) and with the successor's `dfsImpl` /
`bfsImpl` / `gatherImpl` / `Tree.get_xpath` on the tree the heap represents, in every state satisfying the C18
invariant whose child graph is acyclic, from every attached start node.

The tree-level loops do not depend on the fuel beyond `size + 1` (`ldfsLoop_fuel`, `lbfsLoop_fuel`); the heap loops
are the tree loops step by step, callbacks related by `P (treeOf s x) = p x` (`hdfsLoop_sim`, `hbfsLoop_sim`); hence
`heap_dfs` / `heap_bfs` / `heap_gather`, and against the successor `heap_dfs_successor` / `heap_bfs_successor` /
`heap_gather_successor` (with `skip_self` exactly the successor's positions, without it the start node added, in the
order of `ldfs_top_down`, `ldfs_bottom_up`, `lbfs_levels`).  `heap_items_agree`: every position the successor's walks
yield is what the heap's own parent pointers say.  `heap_calc_xpath` / `heap_calc_eq_get_xpath`: `calculate_xpath`
on an attached root makes the assignments of the tree-level `calcXpath`, each the successor's `get_xpath`; a node
that is not an attached root is refused (`heap_calc_refused`).
-/
import PyOak.Model.LegacyHeapWalk
import PyOak.Props.C20Heap
import PyOak.Props.C20Text
import PyOak.Props.C05Extra
namespace PyOak
namespace C20
open Legacy Legacy.C18 LState

section Fuel
variable (P F : Node → Bool)

/-- the legacy loop (start not skipped any more) in closed form, for any sufficient fuel -/
theorem ldfsLoop_closed (bu : Bool) (fuel : Nat) (stack : List Item) (h : C05.weight stack ≤ fuel) :
    ldfsLoop P F bu fuel false (stack.map (·.node)) [] =
      (if bu then C05.postItems (onItem P) (onItem F) stack.reverse
       else C05.preItems (onItem P) (onItem F) stack).map (·.node) := by
  have := ldfsLoop_sim P F bu fuel stack []
  simp only [List.map_nil] at this
  rw [this]
  cases bu
  · rw [C05.dfsLoop_topdown _ _ _ _ _ h]; simp
  · rw [C05.dfsLoop_bottomup _ _ _ _ _ h]; simp

/-- **fuel**: more fuel than `size + 1` does not change `dfs` -/
theorem ldfsLoop_fuel (bu skip : Bool) (n : Node) (fuel : Nat) (h : n.size + 1 ≤ fuel) :
    ldfsLoop P F bu fuel skip [n] [] = ldfsImpl P F bu skip n := by
  have hw := C05.weight_items n
  have key : ∀ k, n.size ≤ k → ldfsLoop P F bu (k + 1) skip [n] [] = ldfsLoop P F bu (n.size + 1) skip [n] [] := by
    intro k hk
    cases skip
    · have e : [n] = ([⟨n, n, default⟩] : List Item).map (·.node) := rfl
      rw [e, ldfsLoop_closed P F bu (k + 1) _ (by simp; omega), ldfsLoop_closed P F bu (n.size + 1) _ (by simp)]
    · simp only [ldfsLoop, if_true, List.append_nil]
      rw [children_eq]
      have e : (if bu = true then (n.items.map (·.node)).reverse else n.items.map (·.node)) =
          (if bu then n.items.reverse else n.items).map (·.node) := by cases bu <;> simp
      rw [e, ldfsLoop_closed P F bu k _ (by cases bu <;> simp <;> omega),
        ldfsLoop_closed P F bu n.size _ (by cases bu <;> simp <;> omega)]
  obtain ⟨k, rfl⟩ : ∃ k, fuel = k + 1 := ⟨fuel - 1, by omega⟩
  exact key k (by omega)

theorem lbfsLoop_fuel_gen (f1 f2 : Nat) (q : List Item) (h1 : C05.weight q ≤ f1) (h2 : C05.weight q ≤ f2) :
    lbfsLoop P F f1 false (q.map (·.node)) = lbfsLoop P F f2 false (q.map (·.node)) := by
  rw [lbfsLoop_sim, lbfsLoop_sim, C05.bfsLoop_filter, C05.bfsLoop_filter (fuel := f2),
    C05.bfsLoop_fuel _ f1 f2 q h1 h2]

/-- **fuel**: more fuel than `size + 1` does not change `bfs` -/
theorem lbfsLoop_fuel (skip : Bool) (n : Node) (fuel : Nat) (h : n.size + 1 ≤ fuel) :
    lbfsLoop P F fuel skip [n] = lbfsImpl P F skip n := by
  have hw := C05.weight_items n
  obtain ⟨k, rfl⟩ : ∃ k, fuel = k + 1 := ⟨fuel - 1, by omega⟩
  unfold lbfsImpl
  cases skip
  · have e : [n] = ([⟨n, n, default⟩] : List Item).map (·.node) := rfl
    rw [e]
    exact lbfsLoop_fuel_gen P F _ _ _ (by simp; omega) (by simp)
  · simp only [lbfsLoop, if_true, List.nil_append]
    rw [children_eq]
    exact lbfsLoop_fuel_gen P F _ _ _ (by omega) (by omega)

end Fuel

/-! ### the heap loops are the tree loops -/

section Sim
variable {s : LState} (hR : Ranked s) (hC : Closed s)
variable (P F : Node → Bool) (p f : Nat → Bool)

include hR hC in
theorem hdfsLoop_sim (hP : ∀ x, P (treeOf s x) = p x) (hF : ∀ x, F (treeOf s x) = f x) (bu : Bool) :
    ∀ (fuel : Nat) (skip : Bool) (build queue : List Nat), (∀ x ∈ build, x < s.size) →
      ldfsLoop P F bu fuel skip (build.map (treeOf s)) (queue.map (treeOf s)) =
        (hdfsLoop s p f bu fuel skip build queue).map (treeOf s) := by
  intro fuel
  induction fuel with
  | zero => intro skip build queue _; rfl
  | succ fuel ih =>
    intro skip build queue hb
    cases build with
    | nil => rfl
    | cons child build =>
      have hcs : child < s.size := hb child (List.mem_cons_self ..)
      have hb' : ∀ x ∈ build, x < s.size := fun x hx => hb x (List.mem_cons_of_mem _ hx)
      have hk : ∀ x ∈ (if bu = true then (s.obj child).kidList.reverse else (s.obj child).kidList) ++ build,
          x < s.size := by
        intro x hx
        rcases List.mem_append.mp hx with h | h
        · exact hC child hcs x (by cases bu <;> simpa using h)
        · exact hb' x h
      simp only [List.map_cons, ldfsLoop, hdfsLoop, treeOf_children hR hC hcs, hP, hF,
        apply_ite (List.map (treeOf s)), ← ih _ _ _ hb', ← ih _ _ _ hk, List.map_append, List.map_reverse,
        List.map_nil]

include hR hC in
theorem hbfsLoop_sim (hP : ∀ x, P (treeOf s x) = p x) (hF : ∀ x, F (treeOf s x) = f x) :
    ∀ (fuel : Nat) (skip : Bool) (queue : List Nat), (∀ x ∈ queue, x < s.size) →
      lbfsLoop P F fuel skip (queue.map (treeOf s)) = (hbfsLoop s p f fuel skip queue).map (treeOf s) := by
  intro fuel
  induction fuel with
  | zero => intro skip queue _; rfl
  | succ fuel ih =>
    intro skip queue hb
    cases queue with
    | nil => rfl
    | cons child queue =>
      have hcs : child < s.size := hb child (List.mem_cons_self ..)
      have hb' : ∀ x ∈ queue, x < s.size := fun x hx => hb x (List.mem_cons_of_mem _ hx)
      have hk : ∀ x ∈ queue ++ (s.obj child).kidList, x < s.size := by
        intro x hx
        rcases List.mem_append.mp hx with h | h
        · exact hb' x h
        · exact hC child hcs x h
      simp only [List.map_cons, lbfsLoop, hbfsLoop, treeOf_children hR hC hcs, hP, hF,
        apply_ite (List.map (treeOf s)), ← ih _ _ hb', ← ih _ _ hk, List.map_append]

end Sim

/-- a list of objects whose trees are `L` is the list of `L`'s identities -/
theorem of_map_treeOf {s : LState} {l : List Nat} {L : List Node} (h : l.map (treeOf s) = L) :
    l.map (treeOf s) = L ∧ l = L.map (·.uid) :=
  ⟨h, by simp [← h, List.map_map, Function.comp_def]⟩

variable (Hc : Str → Str)

/-! ### `dfs` / `bfs` / `gather` -/

/-- legacy `dfs` on the heap from ANY existing object of an acyclic heap whose represented tree fits the model's fuel
(`fuelOf s = size + 1` pops; always true below an attached node: `treeOf_size_le`) -/
theorem heap_dfs_of_size {s : LState} (hR : Ranked s) (hC : Closed s) {u : Nat} (hus : u < s.size)
    (hsz : (treeOf s u).size ≤ s.size)
    (P F : Node → Bool) (p f : Nat → Bool) (hP : ∀ x, P (treeOf s x) = p x) (hF : ∀ x, F (treeOf s x) = f x)
    (bu skip : Bool) :
    (hdfsImpl s p f bu skip u).map (treeOf s) = ldfsImpl P F bu skip (treeOf s u) ∧
    hdfsImpl s p f bu skip u = (ldfsImpl P F bu skip (treeOf s u)).map (·.uid) := by
  refine of_map_treeOf ?_
  unfold hdfsImpl
  rw [← hdfsLoop_sim hR hC P F p f hP hF bu (fuelOf s) skip [u] [] (fun x hx => by simp at hx; subst hx; exact hus)]
  exact ldfsLoop_fuel P F bu skip (treeOf s u) (fuelOf s) (by unfold fuelOf; omega)

theorem heap_bfs_of_size {s : LState} (hR : Ranked s) (hC : Closed s) {u : Nat} (hus : u < s.size)
    (hsz : (treeOf s u).size ≤ s.size)
    (P F : Node → Bool) (p f : Nat → Bool) (hP : ∀ x, P (treeOf s x) = p x) (hF : ∀ x, F (treeOf s x) = f x)
    (skip : Bool) :
    (hbfsImpl s p f skip u).map (treeOf s) = lbfsImpl P F skip (treeOf s u) ∧
    hbfsImpl s p f skip u = (lbfsImpl P F skip (treeOf s u)).map (·.uid) := by
  refine of_map_treeOf ?_
  unfold hbfsImpl
  rw [← hbfsLoop_sim hR hC P F p f hP hF (fuelOf s) skip [u] (fun x hx => by simp at hx; subst hx; exact hus)]
  exact lbfsLoop_fuel P F skip (treeOf s u) (fuelOf s) (by unfold fuelOf; omega)

/-- **legacy `dfs` on the heap** from an attached node = the legacy tree-level `dfs` of the represented tree, object
by object (callbacks: `P` on tree nodes and `p` on objects answer alike) -/
theorem heap_dfs {s : LState} (hI : Inv Hc s) (hR : Ranked s) {u : Nat} (hu : Att s u)
    (P F : Node → Bool) (p f : Nat → Bool) (hP : ∀ x, P (treeOf s x) = p x) (hF : ∀ x, F (treeOf s x) = f x)
    (bu skip : Bool) :
    (hdfsImpl s p f bu skip u).map (treeOf s) = ldfsImpl P F bu skip (treeOf s u) ∧
    hdfsImpl s p f bu skip u = (ldfsImpl P F bu skip (treeOf s u)).map (·.uid) :=
  heap_dfs_of_size hR hI.closed (att_lt hI hu) (treeOf_size_le Hc hI hR hu) P F p f hP hF bu skip

/-- **legacy `bfs` on the heap** -/
theorem heap_bfs {s : LState} (hI : Inv Hc s) (hR : Ranked s) {u : Nat} (hu : Att s u)
    (P F : Node → Bool) (p f : Nat → Bool) (hP : ∀ x, P (treeOf s x) = p x) (hF : ∀ x, F (treeOf s x) = f x)
    (skip : Bool) :
    (hbfsImpl s p f skip u).map (treeOf s) = lbfsImpl P F skip (treeOf s u) ∧
    hbfsImpl s p f skip u = (lbfsImpl P F skip (treeOf s u)).map (·.uid) :=
  heap_bfs_of_size hR hI.closed (att_lt hI hu) (treeOf_size_le Hc hI hR hu) P F p f hP hF skip

/-- **legacy `gather` on the heap** (the class test reads the object's class / MRO) -/
theorem heap_gather {s : LState} (hI : Inv Hc s) (hR : Ranked s) {u : Nat} (hu : Att s u)
    (classes : List Str) (exact : Bool) (E P : Node → Bool) (e p : Nat → Bool)
    (hE : ∀ x, E (treeOf s x) = e x) (hP : ∀ x, P (treeOf s x) = p x) (skip : Bool) :
    (hgatherImpl s classes exact e p skip u).map (treeOf s) = lgatherImpl classes exact E P skip (treeOf s u) ∧
    hgatherImpl s classes exact e p skip u = (lgatherImpl classes exact E P skip (treeOf s u)).map (·.uid) := by
  unfold hgatherImpl lgatherImpl
  refine heap_dfs Hc hI hR hu P _ p _ hP (fun x => ?_) false skip
  show ((if exact = true then classes.contains (treeOf s x).cls else classes.any (treeOf s x).isInst)
    && E (treeOf s x)) = _
  have : (treeOf s x).isInst = fun c => (s.obj x).mro.contains c := funext (treeOf_isInst s x)
  rw [hE, treeOf_cls, this]

/-! ### … and the successor's walks -/

/-- an object callback seen as a callback on the successor's positions -/
def onUid (p : Nat → Bool) : Item → Bool := fun it => p it.node.uid

theorem onItem_uid (p : Nat → Bool) : onItem (fun n => p n.uid) = onUid p := rfl

/-- **`dfs(skip_self=True)` on the heap yields exactly the nodes of the successor's `dfs` positions** on the
represented tree, in the same order (both directions, any prune / filter on objects); without `skip_self` the start
object is added in front (top-down) / at the end (bottom-up) — if the filter accepts it, and alone if it is pruned -/
theorem heap_dfs_successor {s : LState} (hI : Inv Hc s) (hR : Ranked s) {u : Nat} (hu : Att s u)
    (p f : Nat → Bool) (bu : Bool) :
    hdfsImpl s p f bu true u = (dfsImpl (onUid p) (onUid f) bu (treeOf s u)).map (·.node.uid) ∧
    hdfsImpl s p f false false u = (if f u then [u] else []) ++
      (if p u then [] else (dfsImpl (onUid p) (onUid f) false (treeOf s u)).map (·.node.uid)) ∧
    hdfsImpl s p f true false u =
      (if p u then [] else (dfsImpl (onUid p) (onUid f) true (treeOf s u)).map (·.node.uid)) ++
        (if f u then [u] else []) := by
  have hh := fun bu skip => (heap_dfs Hc hI hR hu (fun n => p n.uid) (fun n => f n.uid) p f
    (fun x => by simp) (fun x => by simp) bu skip).2
  refine ⟨?_, ?_, ?_⟩
  · rw [hh, ldfs_skip_self, onItem_uid, onItem_uid]
    cases bu
    · simp [C05.dfs_top_down]
    · simp [C05.dfs_bottom_up]
  · rw [hh, ldfs_top_down, onItem_uid, onItem_uid, C05.dfs_top_down]
    by_cases h1 : p u <;> by_cases h2 : f u <;> simp [h1, h2]
  · rw [hh, ldfs_bottom_up, onItem_uid, onItem_uid, C05.dfs_bottom_up]
    by_cases h1 : p u <;> by_cases h2 : f u <;> simp [h1, h2]

/-- **`bfs` on the heap against the successor's `bfs`** -/
theorem heap_bfs_successor {s : LState} (hI : Inv Hc s) (hR : Ranked s) {u : Nat} (hu : Att s u)
    (p f : Nat → Bool) :
    hbfsImpl s p f true u = (bfsImpl (onUid p) (onUid f) (treeOf s u)).map (·.node.uid) ∧
    hbfsImpl s p f false u = (if f u then [u] else []) ++
      (if p u then [] else (bfsImpl (onUid p) (onUid f) (treeOf s u)).map (·.node.uid)) := by
  have hh := fun skip => (heap_bfs Hc hI hR hu (fun n => p n.uid) (fun n => f n.uid) p f
    (fun x => by simp) (fun x => by simp) skip).2
  refine ⟨?_, ?_⟩
  · rw [hh, lbfs_skip_self, onItem_uid, onItem_uid, C05.bfs_levels]
    simp
  · rw [hh, lbfs_levels, onItem_uid, onItem_uid, C05.bfs_levels]
    by_cases h1 : p u <;> by_cases h2 : f u <;> simp [h1, h2]

/-- **`gather(skip_self=True)` on the heap is the successor's `gather`** on the represented tree -/
theorem heap_gather_successor {s : LState} (hI : Inv Hc s) (hR : Ranked s) {u : Nat} (hu : Att s u)
    (classes : List Str) (exact : Bool) (e p : Nat → Bool) :
    hgatherImpl s classes exact e p true u =
      (gatherImpl classes exact (onUid e) (onUid p) (treeOf s u)).map (·.uid) := by
  rw [(heap_gather Hc hI hR hu classes exact (fun n => e n.uid) (fun n => p n.uid) e p
    (fun x => by simp) (fun x => by simp) true).2]
  rw [(lgather_eq (fun n => p n.uid) classes exact (fun n => e n.uid) (treeOf s u)).2]
  simp only [gatherImpl]
  rw [C05.dfs_top_down]
  rfl

/-! ### the yielded positions agree with the heap's own parent pointers -/

/-- **every position the successor's `dfs` / `bfs` yields on the represented tree** (any prune, any filter, both
directions) **is what the heap's parent pointers say**: the node is the tree of an attached object `c` below the start
node, the position's parent is the tree of the object `node.parent`, and the position's field / index are `c`'s own
`parent_field` / `parent_index` slots -/
theorem heap_items_agree {s : LState} (hI : Inv Hc s) (hR : Ranked s) {u : Nat} (hu : Att s u)
    (P F : Item → Bool) (x : Item)
    (hx : (∃ b, x ∈ dfsImpl P F b (treeOf s u)) ∨ x ∈ bfsImpl P F (treeOf s u)) :
    ∃ c q, x.node = treeOf s c ∧ x.parent = treeOf s q ∧ Att s c ∧ Att s q ∧ Desc s u q ∧
      s.parent c = some q ∧ edgeOf s c = some x.edge ∧
      (s.obj c).pfield = some x.edge.field ∧ (s.obj c).pindex = x.edge.idx := by
  have hreach : C05X.Reach P (treeOf s u).items x := by
    rcases hx with ⟨b, hx⟩ | hx
    · exact ((C05X.mem_dfsImpl_iff P F b _ x).mp hx).1
    · exact ((C05X.mem_bfsImpl_iff P F _ x).mp hx).1
  have one : ∀ q, Att s q → Desc s u q → ∀ x ∈ (treeOf s q).items,
      ∃ c q, x.node = treeOf s c ∧ x.parent = treeOf s q ∧ Att s c ∧ Att s q ∧ Desc s u q ∧
        s.parent c = some q ∧ edgeOf s c = some x.edge ∧
        (s.obj c).pfield = some x.edge.field ∧ (s.obj c).pindex = x.edge.idx := by
    intro q hq hd x hx
    rw [Node.items, treeOf_edges hR hI.closed (att_lt hI hq)] at hx
    simp only [List.map_map, List.mem_map, Function.comp_def] at hx
    obtain ⟨e, he, rfl⟩ := hx
    obtain ⟨hca, _, hf, hi⟩ := hI.down' q hq e he
    refine ⟨e.1, q, rfl, rfl, hca, hq, hd, holder_is_parent Hc hI hq he, ?_, hf, hi⟩
    unfold edgeOf; rw [hf, hi]
  clear hx
  induction hreach with
  | top hx => exact one u hu .refl _ hx
  | @down y x _ _ hxy ih =>
    obtain ⟨c, q, hn, _, hca, hqa, hd, hpc, _⟩ := ih
    rw [hn] at hxy
    have hcq : c ∈ (s.obj q).kidList := by
      obtain ⟨_, f, _, hm⟩ := parent_is_holder Hc hI hca hpc
      exact (mem_kidList_iff _ _).mpr ⟨_, hm, rfl⟩
    exact one c hca (.step hd hcq) _ hxy

/-! ### `calculate_xpath` -/

theorem collectM_eq {α : Type} (f : Nat → Option (List α)) (g : Nat → List α) :
    ∀ l : List Nat, (∀ c ∈ l, f c = some (g c)) → collectM f l = some (l.flatMap g) := by
  intro l
  induction l with
  | nil => intro _; rfl
  | cons c r ih =>
    intro h
    simp only [collectM, h c (List.mem_cons_self ..), ih (fun x hx => h x (List.mem_cons_of_mem _ hx)),
      Option.map_some, List.flatMap_cons]

/-- the assignments as (object identity, text) -/
def asUid (l : List (Node × Str)) : List (Nat × Str) := l.map fun p => (p.1.uid, p.2)

/-- the children's part of `_set_xpath` / `calculate_xpath` at an attached node `c`: if `F` makes the tree-level
assignments below every child (which records its field), the loop over the children makes those below `c` -/
theorem collect_kids {s : LState} (hI : Inv Hc s) (hR : Ranked s) {c : Nat} (hc : Att s c)
    (F : Nat → Option (List (Nat × Str))) (pp : Str)
    (hF : ∀ k ∈ (s.obj c).kidList, ∀ f, Att s k → (s.obj k).pfield = some f →
      F k = some (asUid (setXpathN pp ⟨f, (s.obj k).pindex⟩ (treeOf s k)))) :
    collectM F (s.obj c).kidList = some (asUid ((treeOf s c).edges.flatMap fun ce => setXpathN pp ce.2 ce.1)) := by
  have hkids : ∀ k ∈ (s.obj c).kidList,
      F k = some (asUid (setXpathN pp ⟨((s.obj k).pfield).getD [], (s.obj k).pindex⟩ (treeOf s k))) := by
    intro k hk
    obtain ⟨e, he, he1⟩ := (mem_kidList_iff _ _).mp hk
    obtain ⟨hka, _, hkf, _⟩ := hI.down' c hc e he
    rw [he1] at hka hkf
    rw [hF k hk e.2.1 hka hkf, hkf]
    rfl
  rw [collectM_eq _ _ _ hkids, treeOf_edges hR hI.closed (att_lt hI hc)]
  simp only [asUid, List.map_flatMap, List.flatMap_map]
  congr 1
  rw [← kidsPos_map_fst, List.flatMap_map]
  apply Framing.flatMap_congr'
  intro e he
  obtain ⟨_, _, hkf, hki⟩ := hI.down' c hc e he
  simp [hkf, hki]

/-- `_set_xpath(c, parent_xpath)` on the heap, for an attached node that records field `f` -/
theorem hsetXpath_eq {s : LState} (hI : Inv Hc s) (hR : Ranked s) {r : Nat → Nat}
    (hr : ∀ x, x < s.size → ∀ c ∈ (s.obj x).kidList, r c < r x) :
    ∀ (fuel c : Nat) (pp f : Str), Att s c → (s.obj c).pfield = some f → nrank r s.size c < fuel →
      hsetXpath s fuel pp c = some (asUid (setXpathN pp ⟨f, (s.obj c).pindex⟩ (treeOf s c))) := by
  intro fuel
  induction fuel with
  | zero => intro c pp f _ _ h; omega
  | succ fuel ih =>
    intro c pp f hc hf hlt
    have hcs := att_lt hI hc
    simp only [hsetXpath, hf]
    rw [collect_kids Hc hI hR hc _ _ fun k hk g hka hkf => ih k _ g hka hkf
      (by have := nrank_mono r s.size k c (hI.closed c hcs k hk) (hr c hcs k hk); omega), setXpathN_unfold]
    simp [asUid]

/-- `root.calculate_xpath()` on the heap, for an attached root: the assignments made (object, text) are
those of the tree-level `calcXpath` on the represented tree, in the same order -/
theorem heap_calc_xpath {s : LState} (hI : Inv Hc s) (hR : Ranked s) {u : Nat} (hu : Att s u)
    (hp : s.parent u = none) : hcalcXpath s u = .ok (asUid (calcXpath (treeOf s u))) := by
  obtain ⟨r, hr⟩ := id hR
  have hus := att_lt hI hu
  have hroot : s.isAttachedRoot u = true := by
    simp [LState.isAttachedRoot, hp, (detached_eq_false_iff s u).mpr hu]
  unfold hcalcXpath
  simp only [hroot, Bool.not_true, Bool.false_eq_true, if_false]
  rw [collect_kids Hc hI hR hu _ _ fun k hk g hka hkf => hsetXpath_eq Hc hI hR hr (fuelOf s) k _ g hka hkf
    (by have := nrank_lt r s.size k (hI.closed u hus k hk); unfold fuelOf; omega), calcXpath_eq, setXpathN_unfold]
  simp [asUid, xpathStep]

/-- a node that is not an attached root is refused (`return False`) -/
theorem heap_calc_refused (s : LState) (u : Nat) (h : s.isAttachedRoot u = false) : hcalcXpath s u = .refused := by
  simp [hcalcXpath, h]

/-- **… and every text assigned is the successor's `Tree.get_xpath`**: whatever `calculate_xpath` assigns to an
object is what `Tree(treeOf s root).get_xpath` returns for the tree node of that object -/
theorem heap_calc_eq_get_xpath {s : LState} (hI : Inv Hc s) (hR : Ranked s) {u : Nat} (hu : Att s u)
    (hp : s.parent u = none) :
    ∃ l, hcalcXpath s u = .ok l ∧ l.map (·.1) = descU s u ∧
      ∀ x str, (x, str) ∈ l → Desc s u x ∧ (TreeT.build (treeOf s u)).getXpath (treeOf s x) = .ok str := by
  refine ⟨_, heap_calc_xpath Hc hI hR hu hp, ?_, ?_⟩
  · have := calc_nodes (treeOf s u)
    simp only [asUid, List.map_map, descU, ← this]
    rfl
  · intro x str hm
    simp only [asUid, List.mem_map] at hm
    obtain ⟨⟨m, str'⟩, hmem, heq⟩ := hm
    simp only [Prod.mk.injEq] at heq
    obtain ⟨rfl, rfl⟩ := heq
    have hnr := treeOf_noRepeat Hc hI hR hu
    have hall : m ∈ allNodes (treeOf s u) := by
      rw [← calc_nodes]; exact List.mem_map.mpr ⟨_, hmem, rfl⟩
    obtain ⟨y, hy, rfl⟩ := (mem_allNodes_treeOf hR hI.closed (att_lt hI hu) m).mp hall
    simp only [treeOf_uid]
    exact ⟨hy, calc_eq_get_xpath _ hnr _ _ hmem⟩

end C20
end PyOak
