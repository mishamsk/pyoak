/- everything the C13 check audits -/
import PyOak.Props.C13
import PyOak.Props.C13Sound
