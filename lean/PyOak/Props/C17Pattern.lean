/-
C17, pattern grammar at the text level: every string derived from `PATTERN_DEF_GRAMMAR`, written
with arbitrary white space in front of every token (and after the last one), is parsed back to
exactly the syntax tree it was derived from (`parse_render`), hence accepted by
`compilePattern` whenever the tree is well-formed (`pattern_accepts_rendering`).

A derivation with its white space is a *concrete syntax tree* (`CPat` …): the abstract tree of
Model/Pattern.lean plus one WS string in front of each token.
-/
import PyOak.Props.C17
namespace PyOak
namespace PM

/-! ### concrete syntax trees: the grammar's derivations with their white space -/

/-- `capture?` : `w1 "->" w2 CAPTURE_KEY` -/
inductive CCap where
  | none
  | some (w1 w2 : Str) (key : Str)

/-- `w1 "|" w2 CLASS` -/
structure CAlt where
  w1 : Str
  w2 : Str
  name : Str

/-- `class_spec` : `w "*"` or `w CLASS (w1 "|" w2 CLASS)*` -/
inductive CClass where
  | any (w : Str)
  | names (w : Str) (first : Str) (rest : List CAlt)

mutual
/-- `w1 "(" class_spec field_spec* w2 ")"` -/
inductive CPat where
  | mk (w1 : Str) (cls : CClass) (fields : CFields) (w2 : Str)
/-- `w1 "@" w2 FIELD_NAME spec capture?`, repeated -/
inductive CFields where
  | nil
  | cons (w1 w2 : Str) (name : Str) (spec : CFSpec) (cap : CCap) (rest : CFields)
inductive CFSpec where
  | any
  | val (w : Str) (v : CPVal)                                   -- `w "=" value`
  /-- `w1 "=" w2 "[" items (wt "*" capture?)? w3 "]"` -/
  | seq (w1 w2 : Str) (items : CItems) (tail : Option (Str × CCap)) (w3 : Str)
inductive CItems where
  | nil
  | cons (v : CPVal) (cap : CCap) (rest : CItems)
inductive CPVal where
  | tree (p : CPat)
  | var (w1 w2 : Str) (x : Str)       -- `w1 "$" w2 CAPTURE_KEY`
  | none (w : Str)                    -- `w "None"`
  | re (w : Str) (body : Str)         -- `w "\"" body "\""`
end

def CCap.render : CCap → Str
  | .none => []
  | .some w1 w2 k => w1 ++ ('-' :: '>' :: (w2 ++ k))

def renderAlts : List CAlt → Str
  | [] => []
  | a :: r => a.w1 ++ ('|' :: (a.w2 ++ (a.name ++ renderAlts r)))

def CClass.render : CClass → Str
  | .any w => w ++ ['*']
  | .names w f rest => w ++ (f ++ renderAlts rest)

def renderTail : Option (Str × CCap) → Str
  | none => []
  | some (w, cap) => w ++ ('*' :: cap.render)

mutual
def CPat.render : CPat → Str
  | .mk w1 cls fs w2 => w1 ++ ('(' :: (cls.render ++ (fs.render ++ (w2 ++ [')']))))
def CFields.render : CFields → Str
  | .nil => []
  | .cons w1 w2 name spec cap rest => w1 ++ ('@' :: (w2 ++ (name ++ (spec.render ++ (cap.render ++ rest.render)))))
def CFSpec.render : CFSpec → Str
  | .any => []
  | .val w v => w ++ ('=' :: v.render)
  | .seq w1 w2 items tail w3 => w1 ++ ('=' :: (w2 ++ ('[' :: (items.render ++ (renderTail tail ++ (w3 ++ [']']))))))
def CItems.render : CItems → Str
  | .nil => []
  | .cons v cap rest => v.render ++ (cap.render ++ rest.render)
def CPVal.render : CPVal → Str
  | .tree p => p.render
  | .var w1 w2 x => w1 ++ ('$' :: (w2 ++ x))
  | .none w => w ++ ['N', 'o', 'n', 'e']
  | .re w body => w ++ ('"' :: (body ++ ['"']))
end

def CCap.strip : CCap → Option Str
  | .none => Option.none
  | .some _ _ k => Option.some k

def CClass.strip : CClass → ClassSpec
  | .any _ => .any
  | .names _ f rest => .names f (rest.map (·.name))

def stripTail : Option (Str × CCap) → Option (Option Str)
  | none => none
  | some (_, cap) => some cap.strip

mutual
def CPat.strip : CPat → Pat
  | .mk _ cls fs _ => .mk cls.strip fs.strip
def CFields.strip : CFields → Fields
  | .nil => .nil
  | .cons _ _ name spec cap rest => .cons name spec.strip cap.strip rest.strip
def CFSpec.strip : CFSpec → FSpec
  | .any => .any
  | .val _ v => .val v.strip
  | .seq _ _ items tail _ => .seq items.strip (stripTail tail)
def CItems.strip : CItems → Items
  | .nil => .nil
  | .cons v cap rest => .cons v.strip cap.strip rest.strip
def CPVal.strip : CPVal → PVal
  | .tree p => .tree p.strip
  | .var _ _ x => .var x
  | .none _ => .none
  | .re _ body => .re body
end


def AllWS (w : Str) : Prop := ∀ c ∈ w, isWS c = true

/-- a CNAME (the predicate `C17.ValidName`, under the pattern grammar's name) -/
def ValidCName (s : Str) : Prop := ∃ c r, s = c :: r ∧ isNameStart c = true ∧ ∀ d ∈ r, isNameChar d = true

/-- a CAPTURE_KEY: `[a-z_]*[a-z]` -/
def ValidKey (s : Str) : Prop := ∃ r c, s = r ++ [c] ∧ isLower c = true ∧ ∀ d ∈ r, isKeyChar d = true

/-- the body of an ESCAPED_STRING (`".*?(?<!\\)(\\\\)*?"`): plain characters other than quote, backslash
and newline, and backslash escapes of any character but newline -/
inductive EscBody : Str → Prop where
  | nil : EscBody []
  | plain (c : Char) (rest : Str) (h : c ≠ '"' ∧ c ≠ '\\' ∧ c ≠ '\n') : EscBody rest → EscBody (c :: rest)
  | esc (c : Char) (rest : Str) (h : c ≠ '\n') : EscBody rest → EscBody ('\\' :: c :: rest)

def CCap.OK : CCap → Prop
  | .none => True
  | .some w1 w2 k => AllWS w1 ∧ AllWS w2 ∧ ValidKey k

def altsOK : List CAlt → Prop
  | [] => True
  | a :: r => AllWS a.w1 ∧ AllWS a.w2 ∧ ValidCName a.name ∧ altsOK r

def CClass.OK : CClass → Prop
  | .any w => AllWS w
  | .names w f rest => AllWS w ∧ ValidCName f ∧ altsOK rest

def tailOK : Option (Str × CCap) → Prop
  | none => True
  | some (w, cap) => AllWS w ∧ cap.OK

mutual
def CPat.OK : CPat → Prop
  | .mk w1 cls fs w2 => AllWS w1 ∧ cls.OK ∧ fs.OK ∧ AllWS w2
def CFields.OK : CFields → Prop
  | .nil => True
  | .cons w1 w2 name spec cap rest => AllWS w1 ∧ AllWS w2 ∧ ValidCName name ∧ spec.OK ∧ cap.OK ∧ rest.OK
def CFSpec.OK : CFSpec → Prop
  | .any => True
  | .val w v => AllWS w ∧ v.OK
  | .seq w1 w2 items tail w3 => AllWS w1 ∧ AllWS w2 ∧ items.OK ∧ tailOK tail ∧ AllWS w3
def CItems.OK : CItems → Prop
  | .nil => True
  | .cons v cap rest => v.OK ∧ cap.OK ∧ rest.OK
def CPVal.OK : CPVal → Prop
  | .tree p => p.OK
  | .var w1 w2 x => AllWS w1 ∧ AllWS w2 ∧ ValidKey x
  | .none w => AllWS w
  | .re w body => AllWS w ∧ EscBody body
end

/-! number of parser calls a derivation needs (fuel) -/
mutual
def CPat.size : CPat → Nat
  | .mk _ _ fs _ => fs.size + 1
def CFields.size : CFields → Nat
  | .nil => 0
  | .cons _ _ _ spec _ rest => spec.size + rest.size + 1
def CFSpec.size : CFSpec → Nat
  | .any => 0
  | .val _ v => v.size + 1
  | .seq _ _ items _ _ => items.size + 1
def CItems.size : CItems → Nat
  | .nil => 0
  | .cons v _ rest => v.size + rest.size + 1
def CPVal.size : CPVal → Nat
  | .tree p => p.size + 1
  | .var _ _ _ => 0
  | .none _ => 0
  | .re _ _ => 0
end

/-- the next significant character -/
def peek (s : Str) : Option Char := (skipWS s).head?

end PM
namespace C17
open PM

theorem skipWS_ws (w : Str) (hw : AllWS w) (t : Str) : skipWS (w ++ t) = skipWS t :=
  List.dropWhile_append_of_pos hw

theorem skipWS_cons (c : Char) (t : Str) (hc : isWS c = false) : skipWS (c :: t) = c :: t :=
  List.dropWhile_cons_of_neg (ne_true_of_eq_false hc)

theorem skipWS_tok (w : Str) (c : Char) (t : Str) (hw : AllWS w) (hc : isWS c = false) :
    skipWS (w ++ c :: t) = c :: t := by
  rw [skipWS_ws w hw, skipWS_cons c t hc]

theorem peek_tok (w : Str) (c : Char) (t : Str) (hw : AllWS w) (hc : isWS c = false) : peek (w ++ c :: t) = some c := by
  simp [peek, skipWS_tok w c t hw hc]

theorem peek_of_skip {s r : Str} {c : Char} (h : skipWS s = c :: r) : peek s = some c := by
  rw [peek, h]; rfl

theorem expectC_tok (w : Str) (c : Char) (t : Str) (hw : AllWS w) (hc : isWS c = false) :
    expectC c (w ++ c :: t) = some t := by
  simp [expectC, skipWS_tok w c t hw hc]

theorem nextNot_of_peek (p : Char → Bool) (hp : ∀ c, isWS c = true → p c = false) (s : Str)
    (h : ∀ c, peek s = some c → p c = false) : NextNot p s := by
  cases s with
  | nil => trivial
  | cons c t =>
    by_cases hc : isWS c = true
    · exact hp c hc
    · have hc' : isWS c = false := by simpa using hc
      exact h c (by simp [peek, skipWS_cons c t hc'])

theorem isLower_iff (c : Char) : isLower c = true ↔ 97 ≤ c.toNat ∧ c.toNat ≤ 122 := by
  simp only [isLower, Bool.and_eq_true, decide_eq_true_eq, char_le_iff]
  rfl
theorem isKeyChar_iff (c : Char) : isKeyChar c = true ↔ isLower c = true ∨ c.toNat = 95 := by
  simp only [isKeyChar, Bool.or_eq_true, beq_char_iff]
  rfl

theorem ws_not_key (c : Char) (h : isWS c = true) : isKeyChar c = false := by
  rw [Bool.eq_false_iff, Ne, isKeyChar_iff, isLower_iff]
  rw [isWS_iff] at h
  omega

theorem keyChar_not_ws (c : Char) (h : isKeyChar c = true) : isWS c = false := by
  cases hw : isWS c with
  | false => rfl
  | true => rw [ws_not_key c hw] at h; cases h

theorem lower_not_underscore (c : Char) (h : isLower c = true) : (c == '_') = false := by
  rw [Bool.eq_false_iff, Ne, beq_char_iff]
  rw [isLower_iff] at h
  have : '_'.toNat = 95 := rfl
  omega

theorem lexCName_tok (w name t : Str) (hw : AllWS w) (hn : ValidCName name) (ht : NextNot isNameChar t) :
    lexCName (w ++ (name ++ t)) = some (name, t) := by
  obtain ⟨c, r, rfl, hc, hr⟩ := hn
  obtain ⟨h1, h2⟩ := takeWhile_split isNameChar r t hr ht
  rw [List.cons_append, lexCName, skipWS_tok w c (r ++ t) hw (nameChar_not_ws c (nameStart_nameChar c hc))]
  simp only [hc, if_true, h1, h2]

theorem trimKey_key (key : Str) (hk : ValidKey key) : trimKey key = (key, []) := by
  obtain ⟨r, c, rfl, hc, -⟩ := hk
  have hnot : ((r ++ [c]).reverse).takeWhile (· == '_') = [] := by
    rw [List.reverse_append, List.reverse_singleton, List.singleton_append,
      List.takeWhile_cons_of_neg (p := (· == '_')) (ne_true_of_eq_false (lower_not_underscore c hc))]
  rw [trimKey, hnot, List.length_nil, Nat.sub_zero, List.take_length]

theorem lexKey_tok (w key t : Str) (hw : AllWS w) (hk : ValidKey key) (ht : NextNot isKeyChar t) :
    lexKey (w ++ (key ++ t)) = some (key, t) := by
  have htrim := trimKey_key key hk
  obtain ⟨r, c, hs, hc, hr⟩ := hk
  have hall : ∀ d ∈ key, isKeyChar d = true := by
    intro d hd
    rw [hs] at hd
    rcases List.mem_append.mp hd with hd | hd
    · exact hr d hd
    · rw [List.mem_singleton.mp hd]; exact (isKeyChar_iff c).mpr (Or.inl hc)
  obtain ⟨h1, h2⟩ := takeWhile_split isKeyChar key t hall ht
  -- the key does not start with white space
  have hskip : skipWS (w ++ (key ++ t)) = key ++ t := by
    rw [skipWS_ws w hw]
    cases key with
    | nil => exact absurd hs (List.ne_nil_of_length_pos (by rw [List.length_append]; exact Nat.succ_pos _)).symm
    | cons d key' => exact skipWS_cons d (key' ++ t) (keyChar_not_ws d (hall d List.mem_cons_self))
  have hne : key.isEmpty = false := by rw [hs]; cases r <;> rfl
  simp only [lexKey, hskip, h1, h2, htrim, hne]
  rfl

theorem scanStr_body (body : Str) (hb : EscBody body) : ∀ (t acc : Str),
    scanStr (body ++ '"' :: t) acc = some (acc.reverse ++ body, t) := by
  induction hb with
  | nil => intro t acc; simp [scanStr]
  | plain c b h _ ih =>
    intro t acc
    rw [List.cons_append, scanStr.eq_5 _ _ _ h.2.2 h.1 (fun _ _ e => absurd e h.2.1), ih]
    simp
  | esc c b h _ ih =>
    intro t acc
    show scanStr ('\\' :: c :: (b ++ '"' :: t)) acc = _
    rw [scanStr.eq_4, if_neg (by simpa using h), ih]
    simp

theorem parseCapture_cap (cap : CCap) (t : Str) (hok : cap.OK) (hp : peek t ≠ some '-') (ht : NextNot isKeyChar t) :
    parseCapture (cap.render ++ t) = some (cap.strip, t) := by
  cases cap with
  | none =>
    show parseCapture t = some (none, t)
    unfold parseCapture
    split
    · rename_i heq; exact absurd (peek_of_skip heq) hp
    · rename_i heq; exact absurd (peek_of_skip heq) hp
    · rfl
  | some w1 w2 k =>
    obtain ⟨h1, h2, hk⟩ := hok
    show parseCapture ((w1 ++ '-' :: '>' :: (w2 ++ k)) ++ t) = some (some k, t)
    simp only [List.append_assoc, List.cons_append, parseCapture, skipWS_tok w1 '-' _ h1 (by decide),
      lexKey_tok w2 k t h2 hk ht]

theorem nextNot_tok (p : Char → Bool) (hp : ∀ c, isWS c = true → p c = false) (w : Str) (c : Char) (t : Str)
    (hw : AllWS w) (hc : p c = false) : NextNot p (w ++ c :: t) := by
  cases w with
  | nil => exact hc
  | cons d w' => exact hp d (hw d (by simp))

theorem alts_length : ∀ alts : List CAlt, alts.length ≤ (renderAlts alts).length
  | [] => by simp
  | a :: r => by
    have := alts_length r
    simp only [renderAlts, List.length_cons, List.length_append]
    omega

theorem nextNot_alts (alts : List CAlt) (t : Str) (hok : altsOK alts) (hn : NextNot isNameChar t) :
    NextNot isNameChar (renderAlts alts ++ t) := by
  cases alts with
  | nil => exact hn
  | cons b r =>
    simp only [renderAlts, List.append_assoc, List.cons_append]
    exact nextNot_tok isNameChar ws_not_name b.w1 '|' _ hok.1 (by decide)

theorem parseAlts_alts : ∀ (alts : List CAlt) (t : Str) (fuel : Nat), altsOK alts → alts.length < fuel →
    NextNot isNameChar t → peek t ≠ some '|' →
    parseAlts fuel (renderAlts alts ++ t) = some (alts.map (·.name), t)
  | [], t, fuel, _, hf, _, hp => by
    cases fuel with
    | zero => simp at hf
    | succ f =>
      simp only [renderAlts, List.nil_append]
      unfold parseAlts
      split
      · rename_i heq; exact absurd (peek_of_skip heq) hp
      · rfl
  | a :: r, t, fuel, hok, hf, hn, hp => by
    obtain ⟨h1, h2, hname, hr⟩ := hok
    cases fuel with
    | zero => simp at hf
    | succ f =>
      have hnext := nextNot_alts r t hr hn
      have ih := parseAlts_alts r t f hr (by simp at hf; omega) hn hp
      simp only [renderAlts, List.append_assoc, List.cons_append, parseAlts, skipWS_tok a.w1 '|' _ h1 (by decide),
        lexCName_tok a.w2 a.name _ h2 hname hnext, ih, List.map_cons]

theorem parseClassSpec_cls (cls : CClass) (t : Str) (hok : cls.OK) (hn : NextNot isNameChar t) (hp : peek t ≠ some '|') :
    parseClassSpec (cls.render ++ t) = some (cls.strip, t) := by
  cases cls with
  | any w =>
    have hw : AllWS w := hok
    simp only [CClass.render, List.append_assoc, List.cons_append, List.nil_append, parseClassSpec,
      skipWS_tok w '*' t hw (by decide), CClass.strip]
  | names w f rest =>
    obtain ⟨hw, hf, hr⟩ := hok
    have ⟨c, r', hs, hc, hr'⟩ := hf
    have hcw : isWS c = false := nameChar_not_ws c (nameStart_nameChar c hc)
    have hstar : c ≠ '*' := by
      intro h; subst h; revert hc; decide
    have hnext := nextNot_alts rest t hr hn
    have hskip : skipWS (w ++ (f ++ (renderAlts rest ++ t))) = f ++ (renderAlts rest ++ t) := by
      rw [hs]; exact skipWS_tok w c _ hw hcw
    have hlex : lexCName (f ++ (renderAlts rest ++ t)) = some (f, renderAlts rest ++ t) := by
      have := lexCName_tok [] f (renderAlts rest ++ t) (by intro d hd; cases hd) hf hnext
      simpa using this
    have halts := parseAlts_alts rest t ((renderAlts rest ++ t).length + 1) hr
      (by have := alts_length rest; simp only [List.length_append]; omega) hn hp
    simp only [CClass.render, List.append_assoc, CClass.strip]
    unfold parseClassSpec
    rw [hskip]
    split
    · rename_i heq
      rw [hs] at heq
      injection heq with heq _
      exact absurd heq hstar
    · simp only [hlex, halts]

/-! ### the rendering of each form in front of more text, so that no proof below unfolds the mutually recursive `render` -/

theorem render_mk (w1 : Str) (cls : CClass) (fs : CFields) (w2 t : Str) :
    (CPat.mk w1 cls fs w2).render ++ t = w1 ++ '(' :: (cls.render ++ (fs.render ++ (w2 ++ ')' :: t))) := by
  show (w1 ++ '(' :: (cls.render ++ (fs.render ++ (w2 ++ [')'])))) ++ t = _
  simp only [List.append_assoc, List.cons_append, List.nil_append]

theorem render_fields (w1 w2 name : Str) (spec : CFSpec) (cap : CCap) (rest : CFields) (t : Str) :
    (CFields.cons w1 w2 name spec cap rest).render ++ t
      = w1 ++ '@' :: (w2 ++ (name ++ (spec.render ++ (cap.render ++ (rest.render ++ t))))) := by
  show (w1 ++ '@' :: (w2 ++ (name ++ (spec.render ++ (cap.render ++ rest.render))))) ++ t = _
  simp only [List.append_assoc, List.cons_append]

theorem render_val (w : Str) (v : CPVal) (t : Str) : (CFSpec.val w v).render ++ t = w ++ '=' :: (v.render ++ t) := by
  show (w ++ '=' :: v.render) ++ t = _
  simp only [List.append_assoc, List.cons_append]

theorem render_seq (w1 w2 : Str) (items : CItems) (tail : Option (Str × CCap)) (w3 t : Str) :
    (CFSpec.seq w1 w2 items tail w3).render ++ t
      = w1 ++ '=' :: (w2 ++ '[' :: (items.render ++ (renderTail tail ++ (w3 ++ ']' :: t)))) := by
  show (w1 ++ '=' :: (w2 ++ '[' :: (items.render ++ (renderTail tail ++ (w3 ++ [']']))))) ++ t = _
  simp only [List.append_assoc, List.cons_append, List.nil_append]

theorem render_items (v : CPVal) (cap : CCap) (rest : CItems) (t : Str) :
    (CItems.cons v cap rest).render ++ t = v.render ++ (cap.render ++ (rest.render ++ t)) := by
  show (v.render ++ (cap.render ++ rest.render)) ++ t = _
  simp only [List.append_assoc]

theorem render_var (w1 w2 x t : Str) : (CPVal.var w1 w2 x).render ++ t = w1 ++ '$' :: (w2 ++ (x ++ t)) := by
  show (w1 ++ '$' :: (w2 ++ x)) ++ t = _
  simp only [List.append_assoc, List.cons_append]

theorem render_none (w t : Str) : (CPVal.none w).render ++ t = w ++ 'N' :: 'o' :: 'n' :: 'e' :: t := by
  show (w ++ ['N', 'o', 'n', 'e']) ++ t = _
  simp only [List.append_assoc, List.cons_append, List.nil_append]

theorem render_re (w body t : Str) : (CPVal.re w body).render ++ t = w ++ '"' :: (body ++ '"' :: t) := by
  show (w ++ '"' :: (body ++ ['"'])) ++ t = _
  simp only [List.append_assoc, List.cons_append, List.nil_append]

/-! ### the first significant character of a rendering -/

/-- the next significant character of `s` is one of `cs`: what the parser may rely on after a construct -/
def Next (cs : List Char) (s : Str) : Prop := ∃ c ∈ cs, peek s = some c

theorem next_cons (a : Char) (cs : List Char) (s : Str) : Next (a :: cs) s ↔ peek s = some a ∨ Next cs s := by
  constructor
  · rintro ⟨c, hc, hp⟩
    rcases List.mem_cons.mp hc with rfl | hc
    · exact .inl hp
    · exact .inr ⟨c, hc, hp⟩
  · rintro (h | ⟨c, hc, hp⟩)
    · exact ⟨a, List.mem_cons_self, h⟩
    · exact ⟨c, List.mem_cons_of_mem _ hc, hp⟩

theorem next_nil (s : Str) : Next [] s ↔ False :=
  ⟨fun ⟨_, hc, _⟩ => (nomatch hc), False.elim⟩

theorem next_singleton (a : Char) (s : Str) : Next [a] s ↔ peek s = some a := by
  simp only [Next, List.mem_singleton, exists_eq_left]

theorem Next.mono {cs ds : List Char} {s : Str} (h : Next cs s) (hsub : ∀ c ∈ cs, c ∈ ds) : Next ds s :=
  h.imp fun c hc => ⟨hsub c hc.1, hc.2⟩

theorem Next.ne {cs : List Char} {s : Str} {d : Char} (h : Next cs s) (hd : d ∉ cs) : peek s ≠ some d := by
  obtain ⟨c, hc, hp⟩ := h
  rw [hp]
  exact fun e => hd (Option.some.inj e ▸ hc)

theorem Next.all {cs : List Char} {s : Str} {p : Char → Bool} (h : Next cs s) (hcs : ∀ c ∈ cs, p c = false) :
    ∀ c, peek s = some c → p c = false := by
  obtain ⟨c, hc, hp⟩ := h
  rw [hp]
  exact fun d e => Option.some.inj e ▸ hcs c hc

theorem Next.nameEnd {cs : List Char} {s : Str} (h : Next cs s) (hcs : ∀ c ∈ cs, isNameChar c = false) :
    NextNot isNameChar s :=
  nextNot_of_peek isNameChar ws_not_name s (h.all hcs)

theorem Next.keyEnd {cs : List Char} {s : Str} (h : Next cs s) (hcs : ∀ c ∈ cs, isKeyChar c = false) :
    NextNot isKeyChar s :=
  nextNot_of_peek isKeyChar ws_not_key s (h.all hcs)

theorem next_tok (w : Str) (c : Char) (t : Str) (cs : List Char) (hw : AllWS w) (hc : isWS c = false) (h : c ∈ cs) :
    Next cs (w ++ c :: t) :=
  ⟨c, h, peek_tok w c t hw hc⟩

theorem peek_ws (w t : Str) (hw : AllWS w) : peek (w ++ t) = peek t := by
  simp [peek, skipWS_ws w hw]

theorem next_cap (cap : CCap) (t : Str) (cs : List Char) (hok : cap.OK) (h : Next cs t) :
    Next ('-' :: cs) (cap.render ++ t) := by
  cases cap with
  | none => exact h.mono fun _ => List.mem_cons_of_mem _
  | some w1 w2 k =>
    simp only [CCap.render, List.append_assoc, List.cons_append]
    exact next_tok w1 '-' _ _ hok.1 (by decide) List.mem_cons_self

def valChars : List Char := ['(', '$', '"', 'N']

theorem next_val (v : CPVal) (t : Str) (hok : v.OK) : Next valChars (v.render ++ t) := by
  cases v with
  | tree p =>
    cases p with
    | mk w1 cls fs w2 =>
      show Next valChars ((CPat.mk w1 cls fs w2).render ++ t)
      rw [render_mk]
      exact next_tok w1 '(' _ _ hok.1 (by decide) (by decide)
  | var w1 w2 x => rw [render_var]; exact next_tok w1 '$' _ _ hok.1 (by decide) (by decide)
  | none w => rw [render_none]; exact next_tok w 'N' _ _ hok (by decide) (by decide)
  | re w body => rw [render_re]; exact next_tok w '"' _ _ hok.1 (by decide) (by decide)

theorem next_fields (fs : CFields) (t : Str) (cs : List Char) (hok : fs.OK) (h : Next cs t) :
    Next ('@' :: cs) (fs.render ++ t) := by
  cases fs with
  | nil => exact h.mono fun _ => List.mem_cons_of_mem _
  | cons w1 w2 name spec cap rest =>
    rw [render_fields]
    exact next_tok w1 '@' _ _ hok.1 (by decide) List.mem_cons_self

theorem next_items (items : CItems) (t : Str) (cs : List Char) (hok : items.OK) (h : Next cs t) :
    Next (valChars ++ cs) (items.render ++ t) := by
  cases items with
  | nil => exact h.mono fun _ => List.mem_append_right _
  | cons v cap rest =>
    rw [render_items]
    exact (next_val v _ hok.1).mono fun _ => List.mem_append_left _

theorem next_spec (spec : CFSpec) (t : Str) (cs : List Char) (hok : spec.OK) (h : Next cs t) :
    Next ('=' :: cs) (spec.render ++ t) := by
  cases spec with
  | any => exact h.mono fun _ => List.mem_cons_of_mem _
  | val w v => rw [render_val]; exact next_tok w '=' _ _ hok.1 (by decide) List.mem_cons_self
  | seq w1 w2 items tail w3 => rw [render_seq]; exact next_tok w1 '=' _ _ hok.1 (by decide) List.mem_cons_self

theorem startsValue_of_next (s : Str) (h : Next valChars s) : startsValue s = true := by
  obtain ⟨c, hc, hp⟩ := h
  cases hs : skipWS s with
  | nil => rw [peek, hs] at hp; cases hp
  | cons d r =>
    rw [peek, hs] at hp
    cases Option.some.inj hp
    simp only [valChars, List.mem_cons, List.mem_nil_iff, or_false] at hc
    rcases hc with rfl | rfl | rfl | rfl <;> simp [startsValue, hs]

theorem startsValue_false (s : Str) (h : Next ['*', ']'] s) : startsValue s = false := by
  obtain ⟨c, hc, hp⟩ := h
  cases hs : skipWS s with
  | nil => rw [peek, hs] at hp; cases hp
  | cons d r =>
    rw [peek, hs] at hp
    cases Option.some.inj hp
    simp only [List.mem_cons, List.mem_nil_iff, or_false] at hc
    rcases hc with rfl | rfl <;> simp [startsValue, hs]

theorem parseTree_skip (fuel : Nat) (w s : Str) (hw : AllWS w) : parseTree fuel (w ++ s) = parseTree fuel s := by
  cases fuel with
  | zero => simp [parseTree]
  | succ f => simp only [parseTree, expectC, skipWS_ws w hw]

/-! ### the parser inverts the rendering -/

mutual
theorem pat_parse : ∀ (p : CPat) (t : Str) (fuel : Nat), p.OK → p.size < fuel →
    parseTree fuel (p.render ++ t) = some (p.strip, t)
  | .mk w1 cls fs w2, t, fuel, hok, hf => by
    obtain ⟨h1, hcls, hfs, h2⟩ := hok
    cases fuel with
    | zero => simp at hf
    | succ f =>
      have hclose := peek_tok w2 ')' t h2 (by decide)
      have hN := next_fields fs _ _ hfs ((next_singleton _ _).mpr hclose)
      have hcs := parseClassSpec_cls cls _ hcls (hN.nameEnd (by decide)) (hN.ne (by decide))
      have hpf := fields_parse fs (w2 ++ ')' :: t) f hfs (Nat.lt_of_succ_lt_succ hf) hclose
      rw [render_mk]
      simp only [parseTree, expectC_tok w1 '(' _ h1 (by decide), hcs, hpf, expectC_tok w2 ')' t h2 (by decide)]
      rfl
theorem fields_parse : ∀ (fs : CFields) (t : Str) (fuel : Nat), fs.OK → fs.size < fuel → peek t = some ')' →
    parseFields fuel (fs.render ++ t) = some (fs.strip, t)
  | .nil, t, fuel, _, hf, ht => by
    cases fuel with
    | zero => simp at hf
    | succ f =>
      show parseFields (f + 1) t = some (.nil, t)
      unfold parseFields
      split
      · rename_i heq
        cases ht.symm.trans (peek_of_skip heq)
      · rfl
  | .cons w1 w2 name spec cap rest, t, fuel, hok, hf, ht => by
    obtain ⟨h1, h2, hname, hspec, hcap, hrest⟩ := hok
    cases fuel with
    | zero => simp at hf
    | succ f =>
      have hsz : spec.size + rest.size < f := Nat.lt_of_succ_lt_succ hf
      have hN3 := next_fields rest t _ hrest ((next_singleton _ _).mpr ht)
      have hN2 := next_cap cap _ _ hcap hN3
      have hN1 := next_spec spec _ _ hspec hN2
      have hspec_p := fspec_parse spec _ f hspec (by omega)
        (by simpa only [next_cons, next_nil, or_false] using hN2)
      have hcap_p := parseCapture_cap cap _ hcap (hN3.ne (by decide)) (hN3.keyEnd (by decide))
      have hrest_p := fields_parse rest t f hrest (by omega) ht
      rw [render_fields]
      simp only [parseFields, skipWS_tok w1 '@' _ h1 (by decide),
        lexCName_tok w2 name _ h2 hname (hN1.nameEnd (by decide)), hspec_p, hcap_p, hrest_p]
      rfl
theorem fspec_parse : ∀ (spec : CFSpec) (t : Str) (fuel : Nat), spec.OK → spec.size < fuel →
    (peek t = some '-' ∨ peek t = some '@' ∨ peek t = some ')') →
    parseFSpec fuel (spec.render ++ t) = some (spec.strip, t)
  | .any, t, fuel, _, hf, ht => by
    have hN : Next ['-', '@', ')'] t := by simpa only [next_cons, next_nil, or_false] using ht
    cases fuel with
    | zero => simp at hf
    | succ f =>
      show parseFSpec (f + 1) t = some (.any, t)
      unfold parseFSpec
      split
      · rename_i heq
        exact absurd (peek_of_skip heq) (hN.ne (by decide))
      · rfl
  | .val w v, t, fuel, hok, hf, ht => by
    have hN : Next ['-', '@', ')'] t := by simpa only [next_cons, next_nil, or_false] using ht
    obtain ⟨hw, hv⟩ := hok
    cases fuel with
    | zero => simp at hf
    | succ f =>
      have hvp := val_parse v t f hv (Nat.lt_of_succ_lt_succ hf) (hN.all (by decide))
      rw [render_val]
      show parseFSpec (f + 1) _ = some (.val v.strip, t)
      unfold parseFSpec
      rw [skipWS_tok w '=' _ hw (by decide)]
      simp only []
      split
      · rename_i heq
        exact absurd (peek_of_skip heq) ((next_val v t hv).ne (by decide))
      · simp only [hvp]
  | .seq w1 w2 items tail w3, t, fuel, hok, hf, ht => by
    obtain ⟨h1, h2, hitems, htail, h3⟩ := hok
    cases fuel with
    | zero => simp at hf
    | succ f =>
      have his : items.size < f := Nat.lt_of_succ_lt_succ hf
      have hclose := peek_tok w3 ']' t h3 (by decide)
      cases tail with
      | none =>
        have hip := items_parse items (w3 ++ ']' :: t) f hitems his (Or.inr hclose)
        rw [render_seq]
        simp only [renderTail, List.nil_append, parseFSpec, skipWS_tok w1 '=' _ h1 (by decide),
          skipWS_tok w2 '[' _ h2 (by decide), hip, skipWS_tok w3 ']' t h3 (by decide)]
        rfl
      | some tc =>
        obtain ⟨wt, cap⟩ := tc
        obtain ⟨hwt, hcap⟩ := htail
        have hip := items_parse items (wt ++ '*' :: (cap.render ++ (w3 ++ ']' :: t))) f hitems his
          (Or.inl (peek_tok wt '*' _ hwt (by decide)))
        have hN := (next_singleton _ _).mpr hclose
        have hcp := parseCapture_cap cap (w3 ++ ']' :: t) hcap (hN.ne (by decide)) (hN.keyEnd (by decide))
        rw [render_seq]
        simp only [renderTail, List.append_assoc, List.cons_append, parseFSpec, skipWS_tok w1 '=' _ h1 (by decide),
          skipWS_tok w2 '[' _ h2 (by decide), hip, skipWS_tok wt '*' _ hwt (by decide), hcp,
          expectC_tok w3 ']' t h3 (by decide)]
        rfl
theorem items_parse : ∀ (items : CItems) (t : Str) (fuel : Nat), items.OK → items.size < fuel →
    (peek t = some '*' ∨ peek t = some ']') →
    parseItems fuel (items.render ++ t) = some (items.strip, t)
  | .nil, t, fuel, _, hf, ht => by
    cases fuel with
    | zero => simp at hf
    | succ f =>
      show parseItems (f + 1) t = some (.nil, t)
      simp only [parseItems, startsValue_false t (by simpa only [next_cons, next_nil, or_false] using ht)]
      rfl
  | .cons v cap rest, t, fuel, hok, hf, ht => by
    have hN : Next ['*', ']'] t := by simpa only [next_cons, next_nil, or_false] using ht
    obtain ⟨hv, hcap, hrest⟩ := hok
    cases fuel with
    | zero => simp at hf
    | succ f =>
      have hsz : v.size + rest.size < f := Nat.lt_of_succ_lt_succ hf
      have hN3 := next_items rest t _ hrest hN
      have hN2 := next_cap cap _ _ hcap hN3
      have hcp := parseCapture_cap cap _ hcap (hN3.ne (by decide)) (hN3.keyEnd (by decide))
      have hvp := val_parse v _ f hv (by omega) (hN2.all (by decide))
      have hrp := items_parse rest t f hrest (by omega) ht
      rw [render_items]
      simp only [parseItems, startsValue_of_next _ (next_val v _ hv), if_true, hvp, hcp, hrp]
      rfl
theorem val_parse : ∀ (v : CPVal) (t : Str) (fuel : Nat), v.OK → v.size < fuel →
    (∀ c, peek t = some c → isKeyChar c = false) →
    parseValue fuel (v.render ++ t) = some (v.strip, t)
  | .tree p, t, fuel, hok, hf, _ => by
    cases fuel with
    | zero => simp at hf
    | succ f =>
      have hp : p.OK := hok
      have hps : p.size < f := Nat.lt_of_succ_lt_succ hf
      have ih := pat_parse p t f hp hps
      cases p with
      | mk w1 cls fs w2 =>
        have h1 : AllWS w1 := hp.1
        show parseValue (f + 1) ((CPat.mk w1 cls fs w2).render ++ t) = some (.tree (CPat.mk w1 cls fs w2).strip, t)
        rw [render_mk] at ih ⊢
        rw [parseTree_skip f w1 _ h1] at ih
        simp only [parseValue, skipWS_tok w1 '(' _ h1 (by decide), ih]
  | .var w1 w2 x, t, fuel, hok, hf, ht => by
    obtain ⟨h1, h2, hx⟩ := hok
    cases fuel with
    | zero => simp at hf
    | succ f =>
      have hn : NextNot isKeyChar t := nextNot_of_peek isKeyChar ws_not_key t ht
      rw [render_var]
      simp only [parseValue, skipWS_tok w1 '$' _ h1 (by decide), lexKey_tok w2 x t h2 hx hn]
      rfl
  | .none w, t, fuel, hok, hf, _ => by
    have hw : AllWS w := hok
    cases fuel with
    | zero => simp at hf
    | succ f =>
      rw [render_none]
      simp only [parseValue, skipWS_tok w 'N' _ hw (by decide)]
      rfl
  | .re w body, t, fuel, hok, hf, _ => by
    obtain ⟨hw, hb⟩ := hok
    cases fuel with
    | zero => simp at hf
    | succ f =>
      have hsc := scanStr_body body hb t []
      simp only [List.reverse_nil, List.nil_append] at hsc
      rw [render_re]
      simp only [parseValue, skipWS_tok w '"' _ hw (by decide), hsc]
      rfl
end

/-! ### the fuel handed to the parser by `parsePattern` is sufficient -/

mutual
theorem pat_size : ∀ p : CPat, p.size + 3 ≤ 2 * p.render.length
  | .mk w1 cls fs w2 => by
    have := fields_size fs
    show fs.size + 1 + 3 ≤ 2 * (w1 ++ '(' :: (cls.render ++ (fs.render ++ (w2 ++ [')'])))).length
    simp only [List.length_append, List.length_cons, List.length_nil]
    omega
theorem fields_size : ∀ fs : CFields, fs.size ≤ 2 * fs.render.length
  | .nil => Nat.zero_le _
  | .cons w1 w2 name spec cap rest => by
    have := fspec_size spec
    have := fields_size rest
    show spec.size + rest.size + 1
      ≤ 2 * (w1 ++ '@' :: (w2 ++ (name ++ (spec.render ++ (cap.render ++ rest.render))))).length
    simp only [List.length_append, List.length_cons]
    omega
theorem fspec_size : ∀ spec : CFSpec, spec.size ≤ 2 * spec.render.length
  | .any => Nat.zero_le _
  | .val w v => by
    have := val_size v
    show v.size + 1 ≤ 2 * (w ++ '=' :: v.render).length
    simp only [List.length_append, List.length_cons]
    omega
  | .seq w1 w2 items tail w3 => by
    have := items_size items
    show items.size + 1
      ≤ 2 * (w1 ++ '=' :: (w2 ++ '[' :: (items.render ++ (renderTail tail ++ (w3 ++ [']']))))).length
    simp only [List.length_append, List.length_cons, List.length_nil]
    omega
theorem items_size : ∀ items : CItems, items.size ≤ 2 * items.render.length
  | .nil => Nat.zero_le _
  | .cons v cap rest => by
    have := val_size v
    have := items_size rest
    show v.size + rest.size + 1 ≤ 2 * (v.render ++ (cap.render ++ rest.render)).length
    simp only [List.length_append]
    omega
theorem val_size : ∀ v : CPVal, v.size + 1 ≤ 2 * v.render.length
  | .tree p => by
    have := pat_size p
    show p.size + 1 + 1 ≤ 2 * p.render.length
    omega
  | .var w1 w2 x => by
    show 0 + 1 ≤ 2 * (w1 ++ '$' :: (w2 ++ x)).length
    simp only [List.length_append, List.length_cons]; omega
  | .none w => by
    show 0 + 1 ≤ 2 * (w ++ ['N', 'o', 'n', 'e']).length
    simp only [List.length_append, List.length_cons]; omega
  | .re w body => by
    show 0 + 1 ≤ 2 * (w ++ '"' :: (body ++ ['"'])).length
    simp only [List.length_append, List.length_cons]; omega
end

theorem skipWS_all (w : Str) (hw : AllWS w) : skipWS w = [] := by
  have := skipWS_ws w hw []
  rwa [List.append_nil] at this

/-- **parse ∘ render = id**: a derivation of the pattern grammar, written with any white space in
front of its tokens and after the last one, is parsed back to its own syntax tree -/
theorem parse_render (p : CPat) (wEnd : Str) (hok : p.OK) (hw : AllWS wEnd) :
    parsePattern (p.render ++ wEnd) = some p.strip := by
  have hsz := pat_size p
  have hfuel : p.size < 5 * (p.render ++ wEnd).length + 8 := by
    simp only [List.length_append]; omega
  simp only [parsePattern, pat_parse p wEnd _ hok hfuel, skipWS_all wEnd hw, List.isEmpty_nil, if_true]

/-- **every string of the pattern grammar whose tree is well-formed is accepted, whatever white
space surrounds its tokens**, and it compiles to the matcher of its syntax tree -/
theorem pattern_accepts_rendering (K : CEnv) (p : CPat) (wEnd : Str) (hok : p.OK) (hw : AllWS wEnd)
    (hwf : p.strip.WF K []) :
    ∃ m, compilePattern K (p.render ++ wEnd) = .ok m ∧ compile K p.strip = .ok m := by
  obtain ⟨m, hm⟩ := accepts_wellformed K p.strip hwf
  exact ⟨m, by simp only [compilePattern, parse_render p wEnd hok hw, hm], hm⟩

/-- **white space between tokens never changes the meaning**: two renderings of the same syntax
tree compile to the same result (accepted or rejected alike) -/
theorem pattern_ws_irrelevant (K : CEnv) (p q : CPat) (wp wq : Str) (hp : p.OK) (hq : q.OK) (hwp : AllWS wp)
    (hwq : AllWS wq) (h : p.strip = q.strip) :
    compilePattern K (p.render ++ wp) = compilePattern K (q.render ++ wq) := by
  simp only [compilePattern, parse_render p wp hp hwp, parse_render q wq hq hwq, h]

theorem allWS_nil : AllWS [] := nofun
theorem allWS_single (c : Char) (h : isWS c = true) : AllWS [c] := fun d hd => by
  rw [List.mem_singleton.mp hd]; exact h
theorem validCName_single (c : Char) (h : isNameStart c = true) : ValidCName [c] := validName_single c h
theorem validKey_single (c : Char) (h : isLower c = true) : ValidKey [c] :=
  ⟨[], c, rfl, h, nofun⟩

/-! non-vacuity: `( T @i = [ (L |T)->a $a * -> r ] -> c )` with assorted white space -/
section Examples
def exC : CPat :=
  .mk [' '] (.names [] ['T'] []) (.cons [' '] [] ['i']
    (.seq ['\t'] [] (.cons (.tree (.mk [] (.names [] ['L'] [⟨[' '], [], ['T']⟩]) .nil [])) (.some [] [' '] ['a'])
      (.cons (.var [' '] [] ['a']) .none .nil)) (some ([' '], .some [' '] [] ['r'])) ['\n'])
    (.some [] [] ['c']) .nil) [' ']
theorem exC_ok : exC.OK :=
  have sp : AllWS [' '] := allWS_single ' ' rfl
  have nl : AllWS [] := allWS_nil
  ⟨sp, ⟨nl, validCName_single 'T' rfl, trivial⟩,
    ⟨sp, nl, validCName_single 'i' rfl,
      ⟨allWS_single '\t' rfl, nl,
        ⟨⟨nl, ⟨nl, validCName_single 'L' rfl, sp, nl, validCName_single 'T' rfl, trivial⟩, trivial, nl⟩,
          ⟨nl, sp, validKey_single 'a' rfl⟩, ⟨sp, nl, validKey_single 'a' rfl⟩, trivial, trivial⟩,
        ⟨sp, sp, nl, validKey_single 'r' rfl⟩, allWS_single '\n' rfl⟩,
      ⟨nl, nl, validKey_single 'c' rfl⟩, trivial⟩,
    sp⟩
example : exC.OK := exC_ok
example : outcome (compilePattern C08.exK (exC.render ++ [' '])) = 0 := by decide +kernel
end Examples

end C17
end PyOak
