/-
Bridge for the LEGACY xpath matcher (C20, an OPTIONAL obligation — harness/kernels_tie.py `optional_legacy_xpath`).

`Gen/KernelsLegacyXPath.lean` is regenerated on every run of `./check C20` from `_match_node_xpath` of
src/pyoak/legacy/match/xpath.py (py2lean_k.py `generate_legacy_xpath`): a function over an ABSTRACT node type with the
primitives `isinstance`, `parent`, `parent_field`, `parent_index`, `ancestors` (the legacy source has no separate
`_match_node_element`: the per-element test is inline, so there is ONE generated function).  This file instantiates the
primitives with what the heap model of C18 / C20 stores (`LState.parent`, `LObj.pfield`, `LObj.pindex`, `LObj.mro`,
`Legacy.ancestors`) and proves the hand-written heap-level model equal to the generated function wherever it returns
(`lmatchH_eq_gen`, for every heap, fuel, node or `None`, and list; `lxmatchH_eq_gen` with the model's fuel;
`lmatchElemH_eq_gen` for the inline per-element test).  Composed with `C20.legacy_match_heap`, the generated function
decides `sat` along the heap's chain of an attached object (`legacy_gen_eq_sat`), of an object that is not attached
(`legacy_gen_eq_sat_detached`), and after every admissible history (`legacy_gen_run`); through
`C20.lmatchH_eq_lmatch` it is the chain-level model `lmatch` on the chain read off the heap (`lmatch_eq_gen_chain`).
-/
import PyOak.Gen.KernelsLegacyXPath
import PyOak.Props.C20ParentClean
namespace PyOak.GenBridgeLX
open PyOak Legacy Legacy.C18 LState C20
open PyOak.GenK.LX

/-! ### the primitives, read off the heap -/

/-- `isinstance(node, cls)`: the class is in the object's MRO -/
def isinstH (s : LState) (u : Nat) (c : Str) : Bool := (s.obj u).mro.contains c
/-- `node.parent_field` (the model stores the field's name) -/
def pfieldH (s : LState) (u : Nat) : Option FieldR := (s.obj u).pfield.map FieldR.mk
/-- `node.parent_index` -/
def pindexH (s : LState) (u : Nat) : Option Int := (s.obj u).pindex.map Int.ofNat
/-- `list(node.ancestors())` (a walk that does not end: the model answers `none`, the theorems below are about walks that end) -/
def ancH (s : LState) (u : Nat) : List Nat := (Legacy.ancestors s u).getD []

def toEl (e : XElem) : ASTXpathElement Str :=
  { ast_class := e.cls, parent_field := e.field, parent_index := e.idx.map Int.ofNat, anywhere := e.anywhere }

def toLEl : LElem → LegacyEl Str
  | .el e => .element (toEl e)
  | .anyw => .anywhereElement

/-- the generated `_match_node_xpath` over the heap `s` -/
abbrev gen (s : LState) : Nat → Option Nat → List (LegacyEl Str) → Bool :=
  match_node_xpath (isinstH s) s.parent (pfieldH s) (pindexH s) (ancH s)

/-! ### the bridge -/

/-- the inline per-element test of the generated function, in the model's vocabulary -/
theorem elem_test (s : LState) (u : Nat) (e : XElem) :
    (isinstH s u (toEl e).ast_class
      && (((toEl e).parent_field.isNone
            || ((toEl e).parent_field == (if (pfieldH s u).isSome then (pfieldH s u).map (·.name) else none)))
          && ((toEl e).parent_index.isNone || ((toEl e).parent_index == pindexH s u))))
      = lmatchElemH (s.obj u) e := by
  have hf : (if (pfieldH s u).isSome then (pfieldH s u).map (·.name) else none) = (s.obj u).pfield := by
    unfold pfieldH; cases (s.obj u).pfield <;> rfl
  have hi : ∀ i : Nat, (some (i : Int) == pindexH s u) = ((s.obj u).pindex == some i) := by
    intro i
    unfold pindexH
    cases (s.obj u).pindex with
    | none => rfl
    | some j =>
      rw [Bool.eq_iff_iff]
      simp only [Option.map_some, beq_iff_eq, Option.some.injEq, Int.ofNat_eq_natCast, Int.natCast_inj]
      exact eq_comm
  unfold lmatchElemH isinstH toEl
  rw [hf]
  cases e.field <;> cases e.idx <;> simp [hi, BEq.comm (a := (s.obj u).pfield), Bool.and_assoc]

theorem anyAnc_any (f : Nat → Option Bool) (h : Nat → Bool) :
    ∀ (as : List Nat) (b : Bool), (∀ a ∈ as, ∀ b', f a = some b' → h a = b') → anyAnc f as = some b → as.any h = b := by
  intro as
  induction as with
  | nil => intro b _ hr; simp [anyAnc] at hr; simp [← hr]
  | cons a r ih =>
    intro b hfh hr
    simp only [anyAnc] at hr
    cases hfa : f a with
    | none => simp [hfa] at hr
    | some v =>
      have hv := hfh a (by simp) v hfa
      cases v with
      | true => simp [hfa] at hr; simp [hv, ← hr]
      | false =>
        simp only [hfa] at hr
        have := ih b (fun x hx => hfh x (by simp [hx])) hr
        simp [hv, this]

/-- **model = generated**: wherever the heap-level model of `_match_node_xpath` returns (it answers `none` only when the
fuel runs out, i.e. on a cyclic heap), the function generated from the source returns the same — for every heap, every
fuel, `node` an object or `None`, every element list. -/
theorem lmatchH_eq_gen (s : LState) : ∀ (fuel : Nat) (on : Option Nat) (L : List LElem) (b : Bool),
    lmatchH s fuel on L = some b → gen s fuel on (L.map toLEl) = b := by
  intro fuel
  induction fuel with
  | zero => intro on L b h; simp [lmatchH] at h
  | succ fuel ih =>
    intro on L b h
    cases L with
    | nil =>
      cases on <;> simp [lmatchH] at h <;> simp [gen, match_node_xpath, ← h]
    | cons x tail =>
      cases x with
      | anyw =>
        cases on <;> simp [lmatchH] at h <;> simp [gen, match_node_xpath, toLEl, LegacyEl.isAnywhere, ← h]
      | el e =>
        cases on with
        | none => simp [lmatchH] at h; simp [gen, match_node_xpath, toLEl, LegacyEl.isAnywhere, ← h]
        | some u =>
          have hown : ∀ b', (if lmatchElemH (s.obj u) e then lmatchH s fuel (s.parent u) tail else some false) = some b' →
              (if lmatchElemH (s.obj u) e then gen s fuel (s.parent u) (tail.map toLEl) else false) = b' := by
            intro b' hb'
            by_cases hm : lmatchElemH (s.obj u) e = true
            · simp only [hm, if_true] at hb' ⊢
              exact ih _ _ _ hb'
            · simp only [hm] at hb' ⊢
              simpa using hb'
          simp only [lmatchH] at h
          simp only [gen, List.map_cons, toLEl, match_node_xpath, elem_test]
          by_cases ha : e.anywhere = true
          · have ha' : (toEl e).anywhere = true := ha
            simp only [ha, if_true] at h
            simp only [ha', if_true]
            cases hanc : Legacy.ancestors s u with
            | none => simp [hanc] at h
            | some as =>
              simp only [hanc] at h
              have hA : ancH s u = as := by simp [ancH, hanc]
              rw [hA]
              cases hany : anyAnc (fun a => lmatchH s fuel (some a) (.el e :: tail)) as with
              | none => simp [hany] at h
              | some v =>
                have := anyAnc_any _ (fun a => gen s fuel (some a) ((LElem.el e :: tail).map toLEl)) as v
                  (fun a _ b' hb' => ih _ _ _ hb') hany
                simp only [List.map_cons, toLEl, gen] at this
                rw [this]
                cases v with
                | true => simp [hany] at h; simp [← h]
                | false =>
                  simp only [hany] at h
                  simpa using hown b h
          · have ha0 : e.anywhere = false := by simpa using ha
            have ha' : (toEl e).anywhere = false := ha0
            simp only [ha0, Bool.false_eq_true, if_false] at h
            simp only [ha', Bool.false_eq_true, if_false]
            simpa using hown b h

/-- legacy `ASTXpath.match(node)` on the heap = the generated function started with the model's fuel -/
theorem lxmatchH_eq_gen (s : LState) (L : List LElem) (u : Nat) (b : Bool) (h : lxmatchH s L u = some b) :
    gen s (fuelOf s) (some u) (L.map toLEl) = b :=
  lmatchH_eq_gen s _ _ _ _ h

/-- the per-element test is inline in the legacy source; it is pinned by the generated function on an object without
parent (then `_match_node_xpath(None, [])` answers True): for a one-element list without the `anywhere` flag the
generated function IS `lmatchElemH` -/
theorem lmatchElemH_eq_gen (s : LState) (u : Nat) (e : XElem) (fuel : Nat) (hp : s.parent u = none)
    (ha : e.anywhere = false) :
    gen s (fuel + 2) (some u) [toLEl (.el e)] = lmatchElemH (s.obj u) e := by
  have ha' : (toEl e).anywhere = false := ha
  simp only [gen, toLEl, match_node_xpath, elem_test, ha', hp]
  cases lmatchElemH (s.obj u) e <;> simp

/-! ### the generated function decides `sat` -/

variable (H Hc : Str → Str)

/-- **C20 (xpath) for the source as it is now**: in every state that satisfies the C18 invariant, is acyclic and
parent-clean, for every attached object and every element list a legacy `ASTXpath` can hold, the function generated from
the legacy `_match_node_xpath`, run over the heap's parent pointers, decides the documented path semantics `sat` along the
heap's chain of the object. -/
theorem legacy_gen_eq_sat {s : LState} (hI : Inv Hc s) (hR : Ranked s) (hP : ParentClean s) {u : Nat} (hu : Att s u)
    (L : List LElem) (hL : HeadOK L) :
    ∃ l, UpChain s u l ∧ IsChain (treeOf s (topOf u l)) (heapChain s u l) ∧
      gen s (fuelOf s) (some u) (L.map toLEl) = sat (heapChain s u l) (shift L).reverse := by
  obtain ⟨l, hl, _, hc, _, hm⟩ := legacy_match_heap Hc hI hR hP hu L hL
  exact ⟨l, hl, hc, lxmatchH_eq_gen s L u _ hm⟩

/-- objects that are not attached: the one-member chain -/
theorem legacy_gen_eq_sat_detached {s : LState} (hI : Inv Hc s) (hP : ParentClean s) {u : Nat} (hus : u < s.size)
    (hd : ¬ Att s u) (L : List LElem) (hL : HeadOK L) :
    gen s (fuelOf s) (some u) (L.map toLEl) = sat [(treeOf s u, none)] (shift L).reverse :=
  lxmatchH_eq_gen s L u _ (legacy_match_heap_detached Hc hI hP hus hd L hL).2.2

/-- … after every admissible history of legacy operations from the empty world -/
theorem legacy_gen_run (ops : List LOp) (hg : AdmRun H Hc init ops) {u : Nat}
    (hu : Att (run H Hc init ops) u) (L : List LElem) (hL : HeadOK L) :
    let s := run H Hc init ops
    ∃ l, UpChain s u l ∧ IsChain (treeOf s (topOf u l)) (heapChain s u l) ∧
      gen s (fuelOf s) (some u) (L.map toLEl) = sat (heapChain s u l) (shift L).reverse := by
  intro s
  obtain ⟨hI, hR, hP⟩ := reachable_ok H Hc ops hg
  exact legacy_gen_eq_sat Hc hI hR hP hu L hL

/-- the chain-level model `lmatch` (Model/LegacyXPath.lean) on the chain read off a parent-clean heap = the generated
function (through `C20.lmatchH_eq_lmatch`) -/
theorem lmatch_eq_gen_chain {s : LState} (hP : ParentClean s) (fuel u : Nat) (l : List Nat) (L : List LElem)
    (h : UpChain s u l) (hsz : l.length < s.size) (hf : l.length + 1 < fuel) :
    lmatch fuel (upList s u l) L = gen s fuel (some u) (L.map toLEl) :=
  (lmatchH_eq_gen s fuel (some u) L _ (lmatchH_eq_lmatch hP fuel u l L h hsz hf)).symm

/-! ### examples: the hypotheses hold on a concrete reachable heap, and the generated function computes there -/
section Examples
open PyOak.Legacy.Ex

private abbrev sA : LState := st (histAdm.take 10)
private theorem okA : Inv id sA ∧ Ranked sA ∧ ParentClean sA := reachable_ok id id _ admRun_histAdm
-- `//U/@arg L` and `/U/U//L` as legacy element lists
private def lUL : List LElem :=
  [.el ⟨"L".toList, some "arg".toList, none, false⟩, .el ⟨"U".toList, none, none, false⟩, .anyw]
private def lUUL : List LElem :=
  [.el ⟨"L".toList, none, none, false⟩, .el ⟨"U".toList, none, none, true⟩, .el ⟨"U".toList, none, none, false⟩]
-- what the examples below read off `sA`
private theorem evalA :
    (HeadOK lUL ∧ HeadOK lUUL ∧ Att sA 0 ∧ ¬ Att sA 1) ∧
    (lxmatchH sA lUL 0 = some true ∧ lxmatchH sA lUUL 0 = some true ∧ lxmatchH sA lUUL 4 = some false) ∧
    (gen sA (fuelOf sA) (some 0) (lUL.map toLEl) = true ∧ gen sA (fuelOf sA) (some 7) (lUL.map toLEl) = false ∧
      gen sA (fuelOf sA) (some 0) (lUUL.map toLEl) = true ∧ gen sA (fuelOf sA) (some 4) (lUUL.map toLEl) = false ∧
      gen sA (fuelOf sA) none [] = true ∧ gen sA (fuelOf sA) none (lUL.map toLEl) = false) ∧
    (sA.parent 0 = some 7 ∧ sA.parent 7 = some 4 ∧ sA.parent 4 = some 3 ∧ sA.parent 3 = none) ∧
    1 < sA.size ∧ [7, 4, 3].length < sA.size ∧ [7, 4, 3].length + 1 < fuelOf sA := by decide +kernel
private theorem att0 : Att sA 0 := evalA.1.2.2.1
example : HeadOK lUL ∧ HeadOK lUUL ∧ Att sA 0 ∧ ¬ Att sA 1 := evalA.1
-- hypothesis of lmatchH_eq_gen / lxmatchH_eq_gen: the model returns
example : lxmatchH sA lUL 0 = some true ∧ lxmatchH sA lUUL 0 = some true ∧ lxmatchH sA lUUL 4 = some false := evalA.2.1
-- the generated function itself, evaluated on the heap (answers of both kinds)
example : gen sA (fuelOf sA) (some 0) (lUL.map toLEl) = true ∧ gen sA (fuelOf sA) (some 7) (lUL.map toLEl) = false ∧
    gen sA (fuelOf sA) (some 0) (lUUL.map toLEl) = true ∧ gen sA (fuelOf sA) (some 4) (lUUL.map toLEl) = false ∧
    gen sA (fuelOf sA) none [] = true ∧ gen sA (fuelOf sA) none (lUL.map toLEl) = false := evalA.2.2.1
example := lxmatchH_eq_gen sA lUUL 0 true evalA.2.1.2.1
example := legacy_gen_eq_sat id okA.1 okA.2.1 okA.2.2 (u := 0) att0 lUUL (by decide)
example := legacy_gen_eq_sat_detached id okA.1 okA.2.2 (u := 1) evalA.2.2.2.2.1 evalA.1.2.2.2 lUL (by decide)
example := legacy_gen_run id id (histAdm.take 10) admRun_histAdm (u := 0) att0 lUL (by decide)
-- lmatchElemH_eq_gen: object 3 is the root of the live tree (no parent)
example : sA.parent 3 = none := evalA.2.2.2.1.2.2.2
example := lmatchElemH_eq_gen sA 3 ⟨"U".toList, none, none, false⟩ 0 evalA.2.2.2.1.2.2.2 rfl
example := lmatch_eq_gen_chain okA.2.2 (fuelOf sA) 0 [7, 4, 3] lUL
  (have ⟨p0, p7, p4, p3⟩ := evalA.2.2.2.1; .step p0 (.step p7 (.step p4 (.root p3)))) evalA.2.2.2.2.2.1 evalA.2.2.2.2.2.2
end Examples

end PyOak.GenBridgeLX
