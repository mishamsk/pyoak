/-
Bridge for the option-slot wrappers (C16): the explicit try/finally model (Model/SerOptsF.lean) is the pair of definitions
GENERATED from `DataClassSerializeMixin.as_dict` / `as_obj` (src/pyoak/serialize.py) by harness/py2lean_s.py
(Gen/KernelsSerOpts.lean), instantiated with

  D := Opts, Dia := MD      py.update := Opts.update      py.empty := {}      st := the model's `G` (`toSt` / `ofSt`)
  body := ANY `M α` of the model (reads the slots, may write them, may raise), carried over by `bodyOf`

ON EVERY STATE, OPTIONS ARGUMENT, DIALECT AND BODY (no hypothesis):
  as_dict_eq / as_obj_eq                     the GENERATED functions alone, every `py`, body, state, arguments: the body's
                                             outcome on the entered state, the slots `{}` / `None`
  reset_after_gen_* / outcome_gen_*          its two halves
  as_dict_eq_gen_body / as_obj_eq_gen_body   `tryFin body resetM (enter g c)` = the generated wrapper around `body`
  as_dict_eq_gen / as_obj_eq_gen             `callF hook dhook g c` (input `.ser o` / `.deser d`, every hook) = the generated
                                             wrapper around the model's threaded body `bodyM hook dhook`
  reset_after_gen                            the same read through the model: `(callF …).1 = {}` derived FROM the generated code
-/
import PyOak.Gen.KernelsSerOpts
import PyOak.Props.C16Finally
namespace PyOak.GenBridgeSerOpts
open PyOak SerOpts

def pyS : GenS.Py Opts := { update := Opts.update, empty := {} }
def toSt (g : G) : GenS.St Opts MD := ⟨g.opts, g.md⟩
def ofSt (s : GenS.St Opts MD) : G := ⟨s.serialization_options, s.mashumaro_dialect⟩
theorem ofSt_toSt (g : G) : ofSt (toSt g) = g := rfl
theorem toSt_ofSt (s : GenS.St Opts MD) : toSt (ofSt s) = s := rfl

/-- a computation of the model as the opaque callee of the generated code -/
def bodyOf {α : Type} (b : M α) : GenS.St Opts MD → Except Unit α × GenS.St Opts MD :=
  fun s => ((b (ofSt s)).2, toSt (b (ofSt s)).1)
/-- a result of the generated code in the model's shape -/
def fromGen {α : Type} (r : Except Unit α × GenS.St Opts MD) : G × Except Unit α := (ofSt r.2, r.1)

/-- the state the body is entered in -/
def entered {D Dia : Type} (py : GenS.Py D) (st : GenS.St D Dia) (md : Option Dia) (opts : Option D) : GenS.St D Dia :=
  ⟨match opts with | none => st.serialization_options | some o => py.update st.serialization_options o, md⟩

theorem as_dict_eq {D Dia E R : Type} (py : GenS.Py D) (body : GenS.St D Dia → Except E R × GenS.St D Dia)
    (st : GenS.St D Dia) (md : Option Dia) (opts : Option D) :
    GenS.as_dict py body st md opts = ((body (entered py st md opts)).1, ⟨py.empty, none⟩) := by
  simp only [GenS.as_dict, entered]
  -- whether the body returned or raised, its state goes through `fin_1`, which overwrites both fields
  cases opts <;> (simp only []; split <;> simp_all)

theorem as_obj_eq {D Dia V E R : Type} (py : GenS.Py D) (body : V → GenS.St D Dia → Except E R × GenS.St D Dia)
    (st : GenS.St D Dia) (v : V) (md : Option Dia) (opts : Option D) :
    GenS.as_obj py body st v md opts = ((body v (entered py st md opts)).1, ⟨py.empty, none⟩) := by
  simp only [GenS.as_obj, entered]
  cases opts <;> (simp only []; split <;> simp_all)

/-- after the generated `as_dict`, raised or not, whatever the body did to the slots: `{}` / `None` -/
theorem reset_after_gen_dict {D Dia E R : Type} (py : GenS.Py D) (body : GenS.St D Dia → Except E R × GenS.St D Dia)
    (st : GenS.St D Dia) (md : Option Dia) (opts : Option D) :
    (GenS.as_dict py body st md opts).2 = ⟨py.empty, none⟩ := by
  rw [as_dict_eq]

theorem reset_after_gen_obj {D Dia V E R : Type} (py : GenS.Py D) (body : V → GenS.St D Dia → Except E R × GenS.St D Dia)
    (st : GenS.St D Dia) (v : V) (md : Option Dia) (opts : Option D) :
    (GenS.as_obj py body st v md opts).2 = ⟨py.empty, none⟩ := by
  rw [as_obj_eq]

theorem outcome_gen_dict {D Dia E R : Type} (py : GenS.Py D) (body : GenS.St D Dia → Except E R × GenS.St D Dia)
    (st : GenS.St D Dia) (md : Option Dia) (opts : Option D) :
    (GenS.as_dict py body st md opts).1 = (body (entered py st md opts)).1 := by
  rw [as_dict_eq]

theorem outcome_gen_obj {D Dia V E R : Type} (py : GenS.Py D) (body : V → GenS.St D Dia → Except E R × GenS.St D Dia)
    (st : GenS.St D Dia) (v : V) (md : Option Dia) (opts : Option D) :
    (GenS.as_obj py body st v md opts).1 = (body v (entered py st md opts)).1 := by
  rw [as_obj_eq]

theorem enter_eq_entered (g : G) (c : Call) : toSt (enter g c) = entered pyS (toSt g) (effMd c.kind c.md) c.opts := by
  simp only [enter, entered, toSt, pyS]
  cases c.opts <;> rfl

/-- `enter; try: body finally: reset` of the model = the generated `as_dict`, for EVERY body -/
theorem as_dict_eq_gen_body {α : Type} (body : M α) (g : G) (c : Call) :
    tryFin body resetM (enter g c) = fromGen (GenS.as_dict pyS (bodyOf body) (toSt g) (effMd c.kind c.md) c.opts) := by
  rw [as_dict_eq, ← enter_eq_entered]
  rfl

/-- … = the generated `as_obj`, for EVERY body (a function of the value) and every value -/
theorem as_obj_eq_gen_body {α V : Type} (body : V → M α) (v : V) (g : G) (c : Call) :
    tryFin (body v) resetM (enter g c)
      = fromGen (GenS.as_obj pyS (fun v => bodyOf (body v)) (toSt g) v (effMd c.kind c.md) c.opts) := by
  rw [as_obj_eq, ← enter_eq_entered]
  rfl

/-- one public serialization call of the model IS the generated `as_dict` around the model's threaded body -/
theorem as_dict_eq_gen (hook : Hook) (dhook : DHook) (g : G) (c : Call) (o : SObj) (h : c.input = .ser o) :
    callF hook dhook g c
      = fromGen (GenS.as_dict pyS (bodyOf (bodyM hook dhook (.ser o))) (toSt g) (effMd c.kind c.md) c.opts) := by
  rw [← as_dict_eq_gen_body]
  unfold callF
  rw [h]

/-- one public deserialization call of the model IS the generated `as_obj` -/
theorem as_obj_eq_gen (hook : Hook) (dhook : DHook) (g : G) (c : Call) (d : DJ) (h : c.input = .deser d) :
    callF hook dhook g c
      = fromGen (GenS.as_obj pyS (fun d => bodyOf (bodyM hook dhook (.deser d))) (toSt g) d (effMd c.kind c.md) c.opts) := by
  rw [← as_obj_eq_gen_body (fun d => bodyM hook dhook (.deser d))]
  unfold callF
  rw [h]

/-- `reset_afterF` derived from the GENERATED code: after every call that reaches the wrapper, raised or not,
both slots are at their defaults -/
theorem reset_after_gen (hook : Hook) (dhook : DHook) (g : G) (c : Call) (h : c.input ≠ .unparsable) :
    (callF hook dhook g c).1 = {} := by
  cases hi : c.input with
  | unparsable => exact absurd hi h
  | ser o => rw [as_dict_eq_gen hook dhook g c o hi, fromGen, reset_after_gen_dict]; rfl
  | deser d => rw [as_obj_eq_gen hook dhook g c d hi, fromGen, reset_after_gen_obj]; rfl

/-- non-vacuity: a call with options and a dialect whose body raises at a nested position, entered in a dirty state -/
example : ∃ g c, c.input ≠ .unparsable ∧ g ≠ {} ∧ c.opts.isSome ∧ (callF noHook noDHook g c).2 = .error () ∧
    (callF noHook noDHook g c).1 = {} :=
  ⟨{ opts := { skip := some true }, md := some .custom },
   { kind := .asDict, opts := some { sort := some true }, md := some .orjson,
     input := .ser (.mk .node ['A'] 0 [.mk ['x'] .bomb] []) }, by simp, by decide, rfl, rfl, rfl⟩

end PyOak.GenBridgeSerOpts
