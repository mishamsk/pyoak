/-
C04 (registry half): `deser ∘ ser` into a world where the ids of the serialized tree are free (a fresh
process, or the originals dropped); cf. AUDIT.md C04 §4.

`s` is the state in which the tree below `u` was serialized (`s.serOf n u`), `s0` the state in which
the payload is read back, `s'` the state afterwards, `u'` the answer.

* `roundtrip_fresh` — the map `φ v := s'.regGet (s.idOf v)` sends every node `v` of the original tree
  (`Desc s u v`) to a NEW object (`∈` the fresh tokens, `∉ s0.heap`), registered under — and
  carrying — the serialized id, with the same class and mro, whose children are, in order, the
  images of the children of `v` (`Good`); `φ u = u'`; no entry of `s0`'s registry is touched
  (`Persist`).  Hypotheses: the fuel of the serializer suffices (`Covered`, decidable), different
  nodes of the tree carry different ids (`IdInj`; derived from "registered" / "live and not
  detached" by `idInj_of_registered` / `idInj_of_live`), the ids are free in `s0`.
  No `clashAux` hypothesis: it is discharged by `C04.clash_free` (`acyclic_serOf`).
* `image_inj` — sharing both ways: `φ v = φ w ↔ v = w`.
* `roundtrip_iso` — the position-wise reading (`Iso`): the same positions exist, each with the same
  id / class / mro / number of children and registered under its id, and two positions hold the same
  object afterwards iff they did before.
* `roundtrip_fresh_process` — the instance `s0 = {}`, hypotheses from the C03 invariants.
-/
import PyOak.Props.C04Ser
namespace PyOak
namespace C04
open RState RegL C03

/-- `b` is `a` or a descendant of `a` (through child links of the heap of `s`) -/
inductive Desc (s : RState) : Nat → Nat → Prop
  | refl (a : Nat) : Desc s a a
  | kid {a k b : Nat} : k ∈ s.kidsOf a → Desc s k b → Desc s a b

theorem Desc.trans {s : RState} {a b c : Nat} (h1 : Desc s a b) (h2 : Desc s b c) : Desc s a c := by
  induction h1 with
  | refl => exact h2
  | kid hk _ ih => exact Desc.kid hk (ih h2)

theorem Desc.of_kid {s : RState} {a k : Nat} (hk : k ∈ s.kidsOf a) : Desc s a k := Desc.kid hk (Desc.refl k)

theorem covered_succ {s : RState} {n u : Nat} :
    s.Covered (n + 1) u ↔ (s.obj? u).isSome = true ∧ ∀ k ∈ s.kidsOf u, s.Covered n k := by
  rw [Covered]

theorem covered_mono {s : RState} : ∀ {n u : Nat}, s.Covered n u → s.Covered (n + 1) u
  | 0, _, h => by simp [Covered] at h
  | n + 1, u, h => by
    rw [covered_succ] at h ⊢
    exact ⟨h.1, fun k hk => covered_mono (h.2 k hk)⟩

theorem covered_desc {s : RState} {n a b : Nat} (h : s.Covered n a) (hd : Desc s a b) : s.Covered n b := by
  induction hd generalizing n with
  | refl => exact h
  | kid hk _ ih =>
    cases n with
    | zero => simp [Covered] at h
    | succ n => exact ih (covered_mono ((covered_succ.mp h).2 _ hk))

theorem covered_obj {s : RState} {n u : Nat} (h : s.Covered n u) : ∃ o, s.obj? u = some o := by
  cases n with
  | zero => simp [Covered] at h
  | succ n => exact Option.isSome_iff_exists.mp (covered_succ.mp h).1

theorem covered_no_cycle {s : RState} : ∀ {n a k : Nat}, s.Covered n a → k ∈ s.kidsOf a → Desc s k a → False
  | 0, _, _, h, _, _ => by simp [Covered] at h
  | n + 1, a, k, h, hk, hd =>
    covered_no_cycle (covered_desc ((covered_succ.mp h).2 k hk) hd) hk hd

theorem clsOf_obj {s : RState} {u : Nat} {o : RObj} (h : s.obj? u = some o) : s.clsOf u = o.cls := by simp [clsOf, h]
theorem mroOf_obj {s : RState} {u : Nat} {o : RObj} (h : s.obj? u = some o) : s.mroOf u = o.mro := by simp [mroOf, h]

theorem sids_serOf_sub (s : RState) : ∀ (n v : Nat) (k : Str), k ∈ (s.serOf n v).sids →
    ∃ x, Desc s v x ∧ k = s.idOf x
  | 0, v, k, h => by
    rw [serOf_zero, mem_sids_mk, sidsL_nil] at h
    simp at h
    exact ⟨v, Desc.refl v, h⟩
  | n + 1, v, k, h => by
    rw [serOf_succ, mem_sids_mk] at h
    rcases h with rfl | h
    · exact ⟨v, Desc.refl v, rfl⟩
    · obtain ⟨t, ht, hk⟩ := mem_sidsL.mp h
      obtain ⟨c, hc, rfl⟩ := List.mem_map.mp ht
      obtain ⟨x, hx, e⟩ := sids_serOf_sub s n c k hk
      exact ⟨x, Desc.kid hc hx, e⟩

theorem sids_serOf_sup {s : RState} {v x : Nat} (hd : Desc s v x) : ∀ {n : Nat}, s.Covered n v →
    s.idOf x ∈ (s.serOf n v).sids := by
  induction hd with
  | refl a =>
    intro n _
    cases n <;> simp [serOf_zero, serOf_succ, mem_sids_mk]
  | @kid a k b hk _ ih =>
    intro n hc
    cases n with
    | zero => simp [Covered] at hc
    | succ n =>
      rw [serOf_succ, mem_sids_mk]
      right
      exact mem_sidsL.mpr ⟨s.serOf n k, List.mem_map.mpr ⟨k, hk, rfl⟩, ih ((covered_succ.mp hc).2 k hk)⟩

/-- different nodes of the tree below `u` carry different ids -/
def IdInj (s : RState) (u : Nat) : Prop :=
  ∀ v w, Desc s u v → Desc s u w → s.idOf v = s.idOf w → v = w

theorem idInj_of_registered {s : RState} {u : Nat}
    (h : ∀ v, Desc s u v → s.regGet (s.idOf v) = some v) : IdInj s u := by
  intro v w hv hw e
  have a := h v hv
  rw [e, h w hw] at a
  exact (Option.some.inj a).symm

theorem isLive_desc {s : RState} (hI : Inv s) {u v : Nat} (hl : s.isLive u = true) (hd : Desc s u v) :
    s.isLive v = true := by
  induction hd with
  | refl => exact hl
  | kid hk _ ih => exact ih (isLive_kid hI.heapNodup hl hk)

theorem registered_of_live {s : RState} (hI : Inv s) (hL : LiveRegistered s) {n u : Nat} (hc : s.Covered n u)
    (hl : s.isLive u = true) (hd : ∀ v, Desc s u v → v ∉ s.detached) :
    ∀ v, Desc s u v → s.regGet (s.idOf v) = some v := by
  intro v hv
  obtain ⟨o, ho⟩ := covered_obj (covered_desc hc hv)
  obtain ⟨hm, rfl⟩ := obj?_some ho
  rw [idOf_of_obj ho]
  exact rget_of_mem hI.keysNodup (hL o hm (isLive_desc hI hl hv) (hd _ hv))

theorem idInj_of_live {s : RState} (hI : Inv s) (hL : LiveRegistered s) {n u : Nat} (hc : s.Covered n u)
    (hl : s.isLive u = true) (hd : ∀ v, Desc s u v → v ∉ s.detached) : IdInj s u :=
  idInj_of_registered (registered_of_live hI hL hc hl hd)

theorem acyclic_serOf {s : RState} {u : Nat} (hinj : IdInj s u) : ∀ (n v : Nat), s.Covered n v → Desc s u v →
    (s.serOf n v).AcyclicIds
  | 0, _, h, _ => by simp [Covered] at h
  | n + 1, v, hc, hv => by
    rw [serOf_succ, acyclicIds_mk]
    constructor
    · intro hm
      obtain ⟨t, ht, hk⟩ := mem_sidsL.mp hm
      obtain ⟨c, hcm, rfl⟩ := List.mem_map.mp ht
      obtain ⟨x, hx, e⟩ := sids_serOf_sub s n c _ hk
      have : v = x := hinj v x hv (hv.trans (Desc.kid hcm hx)) e
      subst this
      exact covered_no_cycle hc hcm hx
    · rw [acyclicIdsL_iff]
      intro t ht
      obtain ⟨c, hcm, rfl⟩ := List.mem_map.mp ht
      exact acyclic_serOf hinj n c ((covered_succ.mp hc).2 c hcm) (hv.trans (Desc.of_kid hcm))

/-- the image of the original node `v` (of `s`) in `s'`: registered under, and carrying, `v`'s id;
same class and mro; its children are, in order, the images of `v`'s children; it is one of the
tokens `T` -/
def Good (s s' : RState) (T : List Nat) (v : Nat) : Prop :=
  ∃ v' o o', s'.regGet (s.idOf v) = some v' ∧ s.obj? v = some o ∧ s'.obj? v' = some o' ∧
    o'.id = o.id ∧ o'.cls = o.cls ∧ o'.mro = o.mro ∧
    o'.kids.map some = o.kids.map (fun k => s'.regGet (s.idOf k)) ∧ v' ∈ T

/-- invariant of the traversal: whatever id of the tree is registered in the intermediate state
`si` belongs to a node whose whole subtree has already been rebuilt -/
def Built (s s' : RState) (T : List Nat) (u : Nat) (si : RState) : Prop :=
  ∀ w, Desc s u w → (si.regGet (s.idOf w)).isSome = true → ∀ x, Desc s w x → Good s s' T x

section Main
variable {s s' : RState} {T : List Nat} {u : Nat}

theorem built_after {si s1 : RState} {f f1 : Fresh} {n k r : Nat} (hinj : IdInj s u) (hI : Inv si)
    (hf : FreshOk si f) (hB : Built s s' T u si) (hk : Desc s u k)
    (ha : si.deserAux (s.serOf n k) f = some (s1, r, f1)) (hG : ∀ x, Desc s k x → Good s s' T x) :
    Built s s' T u s1 := by
  intro w hw hsome x hx
  rw [regGet_def, rget_isSome_iff] at hsome
  rcases deserAux_keys _ si f s1 r f1 hI hf ha _ hsome with h1 | h1
  · exact hB w hw (by rw [regGet_def, rget_isSome_iff]; exact h1) x hx
  · obtain ⟨y, hy, e⟩ := sids_serOf_sub s n k _ h1
    have : w = y := hinj w y hw (hk.trans hy) e
    subst this
    exact hG x (hy.trans hx)

/-- the statement proved by induction on the fuel -/
def StepA (s s' : RState) (T : List Nat) (u n : Nat) : Prop :=
  ∀ (v : Nat) (si : RState) (f : Fresh) (r : Nat), s.Covered n v → Desc s u v → Inv si → FreshOk si f →
    (∀ t ∈ f.map (·.1), t ∈ T) → Built s s' T u si → Realizes s' si f (s.serOf n v) r →
    (∀ x, Desc s v x → Good s s' T x) ∧ s'.regGet (s.idOf v) = some r

theorem realizesL_good (hinj : IdInj s u) {n : Nat} (hA : StepA s s' T u n) :
    ∀ (ks : List Nat) (si : RState) (f : Fresh) (us : List Nat), (∀ k ∈ ks, s.Covered n k ∧ Desc s u k) →
      Inv si → FreshOk si f → (∀ t ∈ f.map (·.1), t ∈ T) → Built s s' T u si →
      RealizesL s' si f (ks.map (s.serOf n)) us →
      (∀ k ∈ ks, ∀ x, Desc s k x → Good s s' T x) ∧
        us.map some = ks.map (fun k => s'.regGet (s.idOf k))
  | [], si, f, us, _, _, _, _, _, hR => by
    cases hR
    exact ⟨by intro k hk; simp at hk, rfl⟩
  | k :: rest, si, f, us, hks, hI, hf, hT, hB, hR => by
    rw [List.map_cons] at hR
    cases hR with
    | @cons _ _ _ _ u1 us' s1 f1 ha h1 h2 =>
      obtain ⟨hck, hdk⟩ := hks k (by simp)
      obtain ⟨hGk, hrk⟩ := hA k si f u1 hck hdk hI hf hT hB h1
      have hE := deserAux_evol _ si f s1 u1 f1 ha
      obtain ⟨hI1, hf1⟩ := evol_good hE hI hf
      have hT1 : ∀ t ∈ f1.map (·.1), t ∈ T := hE.freshK hT
      have hB1 := built_after hinj hI hf hB hdk ha hGk
      obtain ⟨hGr, hur⟩ := realizesL_good hinj hA rest s1 f1 us'
        (fun k' hk' => hks k' (List.mem_cons_of_mem _ hk')) hI1 hf1 hT1 hB1 h2
      refine ⟨?_, by simp [hrk, hur]⟩
      intro k' hk'
      rcases List.mem_cons.mp hk' with rfl | hk'
      · exact hGk
      · exact hGr k' hk'

theorem stepA (hinj : IdInj s u) : ∀ (n : Nat), StepA s s' T u n
  | 0 => by intro v si f r hc; simp [Covered] at hc
  | n + 1 => by
    intro v si f r hc hv hI hf hT hB hR
    obtain ⟨hobj, hkc⟩ := covered_succ.mp hc
    obtain ⟨o, ho⟩ := Option.isSome_iff_exists.mp hobj
    rw [serOf_succ] at hR
    cases hR with
    | reuse hg hreg =>
      exact ⟨hB v hv (by simp [hg]), hreg⟩
    | @create _ _ _ _ _ _ _ us o' s1 base fr hg hk hkids htok hnew hreg ho' hid hcls hmro hks =>
      obtain ⟨hGk, hus⟩ := realizesL_good hinj (stepA hinj n) (s.kidsOf v) si f us
        (fun k hk' => ⟨hkc k hk', hv.trans (Desc.of_kid hk')⟩) hI hf hT hB hkids
      have hGv : Good s s' T v := by
        refine ⟨r, o, o', hreg, ho, ho', ?_, ?_, ?_, ?_, hT r htok⟩
        · rw [hid, idOf_of_obj ho]
        · rw [hcls, clsOf_obj ho]
        · rw [hmro, mroOf_obj ho]
        · rw [hks, hus, kidsOf_of_obj ho]
      refine ⟨?_, hreg⟩
      intro x hx
      cases hx with
      | refl => exact hGv
      | kid hk' hd => exact hGk _ hk' x hd

end Main

/-- reading the serialized tree back where its ids are free -/
theorem roundtrip_fresh {s s0 : RState} {n u : Nat} {f : Fresh} {s' : RState} {u' : Nat} {fr : Fresh}
    (hcov : s.Covered n u) (hinj : IdInj s u) (hI0 : Inv s0) (hf : FreshOk s0 f)
    (hfree : ∀ k ∈ (s.serOf n u).sids, s0.regGet k = none)
    (h : s0.deserAux (s.serOf n u) f = some (s', u', fr)) :
    Persist s0 s' ∧ s'.regGet (s.idOf u) = some u' ∧ ∀ v, Desc s u v → Good s s' (f.map (·.1)) v := by
  have hA := acyclic_serOf hinj n u hcov (Desc.refl u)
  have hnc := clash_free _ s0 f hA hI0 hf
  have hP := deser_persist hI0 hf h
  have hR := deser_fresh_ids hI0 hf hnc h
  have hB : Built s s' (f.map (·.1)) u s0 := by
    intro w hw hsome
    rw [hfree _ (sids_serOf_sup hw hcov)] at hsome
    cases hsome
  obtain ⟨hG, hr⟩ := stepA hinj n u s0 f u' hcov (Desc.refl u) hI0 hf (fun t ht => ht) hB hR
  exact ⟨hP, hr, hG⟩

/-- every image is a NEW object: one of the fresh tokens, not an object of `s0` -/
theorem Good.new {s s0 s' : RState} {f : Fresh} {v : Nat} (hf : FreshOk s0 f) (h : Good s s' (f.map (·.1)) v) :
    ∃ v', s'.regGet (s.idOf v) = some v' ∧ v' ∈ f.map (·.1) ∧ v' ∉ s0.heap.map (·.uid) := by
  obtain ⟨v', _, _, hr, _, _, _, _, _, _, ht⟩ := h
  exact ⟨v', hr, ht, hf.2 v' ht⟩

/-- sharing both ways: two nodes of the original tree have the same image iff they are the same
node (shared nodes are shared again, distinct nodes stay distinct) -/
theorem image_inj {s s' : RState} {T : List Nat} {u : Nat} (hinj : IdInj s u)
    (hG : ∀ v, Desc s u v → Good s s' T v) {v w : Nat} (hv : Desc s u v) (hw : Desc s u w) :
    s'.regGet (s.idOf v) = s'.regGet (s.idOf w) ↔ v = w := by
  constructor
  · intro e
    obtain ⟨v', o, o', hr, ho, ho', hid, _⟩ := hG v hv
    obtain ⟨w', p, p', hr2, hp, hp', hid2, _⟩ := hG w hw
    rw [hr, hr2] at e
    have e' : v' = w' := Option.some.inj e
    subst e'
    rw [ho'] at hp'
    have e2 : o' = p' := Option.some.inj hp'
    subst e2
    apply hinj v w hv hw
    rw [idOf_of_obj ho, idOf_of_obj hp, ← hid, ← hid2]
  · intro e; rw [e]

theorem nodeAt_nil (s : RState) (u : Nat) : s.nodeAt u [] = some u := rfl

theorem nodeAt_cons (s : RState) (u i : Nat) (p : List Nat) :
    s.nodeAt u (i :: p) = match (s.kidsOf u)[i]? with
      | none => none
      | some k => s.nodeAt k p := rfl

theorem nodeAt_desc {s : RState} : ∀ (p : List Nat) {a v : Nat}, s.nodeAt a p = some v → Desc s a v
  | [], a, v, h => by
    rw [nodeAt_nil] at h; cases h; exact Desc.refl _
  | i :: p, a, v, h => by
    rw [nodeAt_cons] at h
    cases hk : (s.kidsOf a)[i]? with
    | none => simp [hk] at h
    | some k =>
      simp only [hk] at h
      exact Desc.kid (List.mem_of_getElem? hk) (nodeAt_desc p h)

/-- what "the same node at a position" means: same id, class, mro, number of children, and the copy
is the object registered under that id -/
def Same (s : RState) (v : Nat) (s' : RState) (v' : Nat) : Prop :=
  s'.idOf v' = s.idOf v ∧ s'.clsOf v' = s.clsOf v ∧ s'.mroOf v' = s.mroOf v ∧
  (s'.kidsOf v').length = (s.kidsOf v).length ∧ s'.regGet (s.idOf v) = some v'

theorem Good.same {s s' : RState} {T : List Nat} {v v' : Nat} (h : Good s s' T v)
    (hr : s'.regGet (s.idOf v) = some v') : Same s v s' v' := by
  obtain ⟨v'', o, o', hr', ho, ho', hid, hcls, hmro, hks, _⟩ := h
  rw [hr] at hr'
  cases hr'
  refine ⟨?_, ?_, ?_, ?_, hr⟩
  · rw [idOf_of_obj ho, idOf_of_obj ho', hid]
  · rw [clsOf_obj ho, clsOf_obj ho', hcls]
  · rw [mroOf_obj ho, mroOf_obj ho', hmro]
  · rw [kidsOf_of_obj ho, kidsOf_of_obj ho']
    have := congrArg List.length hks
    simpa using this

theorem Good.kid {s s' : RState} {T : List Nat} {v v' : Nat} (h : Good s s' T v)
    (hr : s'.regGet (s.idOf v) = some v') (i : Nat) :
    ((s'.kidsOf v')[i]?).map some = ((s.kidsOf v)[i]?).map (fun k => s'.regGet (s.idOf k)) := by
  obtain ⟨v'', o, o', hr', ho, ho', _, _, _, hks, _⟩ := h
  rw [hr] at hr'
  cases hr'
  rw [kidsOf_of_obj ho, kidsOf_of_obj ho', ← List.getElem?_map, ← List.getElem?_map, hks]

/-- the node at a position below the image is the image of the node at that position (and exists iff that does) -/
theorem pos_image {s s' : RState} {T : List Nat} {u : Nat} (hG : ∀ v, Desc s u v → Good s s' T v) :
    ∀ (p : List Nat) (a a' : Nat), Desc s u a → s'.regGet (s.idOf a) = some a' →
      (s'.nodeAt a' p).map some = (s.nodeAt a p).map fun v => s'.regGet (s.idOf v)
  | [], a, a', _, hr => by rw [nodeAt_nil, nodeAt_nil]; exact congrArg some hr.symm
  | i :: p, a, a', ha, hr => by
    rw [nodeAt_cons, nodeAt_cons]
    have hkid := (hG a ha).kid hr i
    cases hk : (s.kidsOf a)[i]? with
    | none =>
      rw [hk] at hkid
      cases hk' : (s'.kidsOf a')[i]? with
      | none => rfl
      | some k' => simp [hk'] at hkid
    | some k =>
      rw [hk] at hkid
      cases hk' : (s'.kidsOf a')[i]? with
      | none => simp [hk'] at hkid
      | some k' =>
        simp only [hk', Option.map_some, Option.some.injEq] at hkid
        exact pos_image hG p k k' (ha.trans (Desc.of_kid (List.mem_of_getElem? hk))) hkid.symm

/-- the tree below `u'` in `s'` is, position by position, the tree below `u` in `s` -/
structure Iso (s : RState) (u : Nat) (s' : RState) (u' : Nat) : Prop where
  /-- every position of the original exists in the copy and holds the same node -/
  fwd : ∀ p v, s.nodeAt u p = some v → ∃ v', s'.nodeAt u' p = some v' ∧ Same s v s' v'
  /-- the copy has no other positions -/
  bwd : ∀ p v', s'.nodeAt u' p = some v' → ∃ v, s.nodeAt u p = some v
  /-- two positions hold one object in the copy iff they did in the original -/
  share : ∀ p q v w v' w', s.nodeAt u p = some v → s.nodeAt u q = some w →
    s'.nodeAt u' p = some v' → s'.nodeAt u' q = some w' → (v' = w' ↔ v = w)

theorem iso_of_good {s s' : RState} {T : List Nat} {u u' : Nat} (hinj : IdInj s u)
    (hG : ∀ v, Desc s u v → Good s s' T v) (hr : s'.regGet (s.idOf u) = some u') : Iso s u s' u' := by
  have img := fun p => pos_image hG p u u' (Desc.refl u) hr
  have fwd : ∀ p v, s.nodeAt u p = some v → ∃ v', s'.nodeAt u' p = some v' ∧ s'.regGet (s.idOf v) = some v' := by
    intro p v h
    cases hv' : s'.nodeAt u' p with
    | none => simpa [h, hv'] using img p
    | some v' => exact ⟨v', rfl, by simpa [h, hv'] using (img p).symm⟩
  refine ⟨fun p v h => ?_, fun p v' h => ?_, fun p q v w v' w' hv hw hv' hw' => ?_⟩
  · obtain ⟨v', h1, h2⟩ := fwd p v h
    exact ⟨v', h1, (hG v (nodeAt_desc p h)).same h2⟩
  · cases hv : s.nodeAt u p with
    | none => simpa [h, hv] using img p
    | some v => exact ⟨v, rfl⟩
  · obtain ⟨v'', h1, h2⟩ := fwd p v hv
    obtain ⟨w'', h3, h4⟩ := fwd q w hw
    rw [hv'] at h1; rw [hw'] at h3
    cases h1; cases h3
    rw [← image_inj hinj hG (nodeAt_desc p hv) (nodeAt_desc q hw), h2, h4]
    exact ⟨fun e => by rw [e], fun e => Option.some.inj e⟩

/-- `roundtrip_fresh`, position-wise -/
theorem roundtrip_iso {s s0 : RState} {n u : Nat} {f : Fresh} {s' : RState} {u' : Nat} {fr : Fresh}
    (hcov : s.Covered n u) (hinj : IdInj s u) (hI0 : Inv s0) (hf : FreshOk s0 f)
    (hfree : ∀ k ∈ (s.serOf n u).sids, s0.regGet k = none)
    (h : s0.deserAux (s.serOf n u) f = some (s', u', fr)) : Iso s u s' u' := by
  obtain ⟨_, hr, hG⟩ := roundtrip_fresh hcov hinj hI0 hf hfree h
  exact iso_of_good hinj hG hr

/-- **`roundtrip_fresh` for a fresh process**: a live tree of a state satisfying the C03 invariants, none of
whose nodes was detached, serialized and read back into the empty world -/
theorem roundtrip_fresh_process {s : RState} (hI : Inv s) (hL : LiveRegistered s) {n u : Nat}
    (hcov : s.Covered n u) (hl : s.isLive u = true) (hd : ∀ v, Desc s u v → v ∉ s.detached)
    {f : Fresh} (hf : FreshOk {} f) {s' : RState} {u' : Nat} {fr : Fresh}
    (h : ({} : RState).deserAux (s.serOf n u) f = some (s', u', fr)) :
    Iso s u s' u' ∧ ∀ v, Desc s u v → Good s s' (f.map (·.1)) v :=
  have hinj := idInj_of_live hI hL hcov hl hd
  have hfree : ∀ k ∈ (s.serOf n u).sids, ({} : RState).regGet k = none := fun _ _ => rfl
  ⟨roundtrip_iso hcov hinj inv_empty hf hfree h, (roundtrip_fresh hcov hinj inv_empty hf hfree h).2.2⟩

section Examples
private def A : Str := "A".toList
private def B : Str := "B".toList

/-- `p(m(l), l, m')` with a shared leaf and a twin `m'` of `m` (same digest "m", id `m_1`) -/
private def hist : List ROp :=
  [ .construct 0 A [A] [] [(1, "l".toList)],
    .construct 1 B [B, A] [1] [(2, "m".toList)],
    .construct 2 B [B, A] [1] [(3, "m".toList)],
    .construct 3 A [A] [2, 1, 3] [(4, "p".toList)] ]
private def toks : Fresh := [(11, "l".toList), (12, "m".toList), (13, "m".toList), (14, "zz".toList)]

example : AllOkK {} hist := by decide
example : (run {} hist).Covered 3 4 ∧ (run {} hist).isLive 4 = true ∧ (run {} hist).detached = [] ∧
    FreshOk {} toks := by decide +kernel
example : ((run {} hist).serOf 3 4).sids = ["p".toList, "m".toList, "l".toList, "l".toList, "m_1".toList, "l".toList] := by
  decide +kernel
/-- the copy: the leaf is created once (11) and shared, the twin keeps its suffixed id, the root's
id is forced ("zz" was its fresh digest) -/
example : (({} : RState).deserAux ((run {} hist).serOf 3 4) toks).map (fun r => r.1.reg) =
    some [("l".toList, 11), ("m".toList, 12), ("m_1".toList, 13), ("p".toList, 14)] := by decide +kernel
example : (({} : RState).deserAux ((run {} hist).serOf 3 4) toks).map
    (fun r => (r.2.1, r.1.kidsOf 14, r.1.kidsOf 12, r.1.kidsOf 13)) = some (14, [12, 11, 13], [11], [11]) := by decide +kernel
example : (({} : RState).deserAux ((run {} hist).serOf 3 4) toks).map (fun r => r.2.2.length) = some 0 := by decide +kernel

/-- sharpness of `IdInj`: a detached node and its later twin carry one id; as children of one parent
they are two objects before and one object after the trip -/
private def hist2 : List ROp :=
  [ .construct 0 A [A] [] [(1, "l".toList)], .detachSelf 1,
    .construct 1 A [A] [] [(2, "l".toList)],
    .construct 2 A [A] [1, 2] [(3, "p".toList)] ]
example : AllOkK {} hist2 ∧ (run {} hist2).kidsOf 3 = [1, 2] ∧ (run {} hist2).idOf 1 = (run {} hist2).idOf 2 := by decide +kernel
example : (({} : RState).deserAux ((run {} hist2).serOf 3 3) [(11, "l".toList), (12, "p".toList)]).map
    (fun r => r.1.kidsOf 12) = some [11, 11] := by decide +kernel
end Examples

end C04
end PyOak

#print axioms PyOak.C04.acyclic_serOf
#print axioms PyOak.C04.idInj_of_live
#print axioms PyOak.C04.roundtrip_fresh
#print axioms PyOak.C04.Good.new
#print axioms PyOak.C04.image_inj
#print axioms PyOak.C04.roundtrip_iso
#print axioms PyOak.C04.roundtrip_fresh_process
