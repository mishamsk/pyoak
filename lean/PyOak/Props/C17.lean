/-
C17 — XPath and pattern text is either compiled or rejected with the definition error.

The model's entry points are total functions
  `parseXPath known : Str → Option (List XElem)`            (`none` = ASTXpathDefinitionError)
  `PM.compilePattern K : Str → Except DefErr Matcher`       (`error` = definition error)
so "compiled or rejected, nothing else" holds of the model by its types alone (`compile_total`; the
statements with content are `compilePattern_decides`, `compile_no_runtime`, `parseXPath_iff`); that the
*Python* entry points let no other exception escape and agree with each other is decided by the
correspondence (harness/props/c17.py), not by a theorem.

Acceptance half, proved here:
 * `accepts_wellformed` — every pattern syntax tree whose class names are node classes, whose
   regexes compile, whose capture names are pairwise distinct and whose variables follow their
   captures is accepted by the interpreter (no `RuntimeError` path, in particular
   `[*] -> c` is accepted: F8);
 * `xpath_accepts_rendering` / `xpath_ws_irrelevant` — every string derived from the xpath grammar
   (steps with optional field, index digits, class; the last step with a class), rendered with
   arbitrary white space after every token, parses to the same element list as the token
   sequence itself: accepted, all digits significant, white space irrelevant;
   `xpath_relative` — the same for a text written without its leading "/".
 * the same text-level theorem for the pattern grammar is in Props/C17Pattern.lean
   (`parse_render`, `pattern_accepts_rendering`, `pattern_ws_irrelevant`); rejection in C17Reject,
   soundness of the parsers in C17PatternSound and C17XPathSound.

Also here, for C17XPathSound and C17Legacy: the lexer one character at a time (`xlex_cons`), the step
parser as three parts, the path parser with the element constructor as a parameter (`stepsWith`).
-/
import PyOak.Model.XPath
import PyOak.Model.PatternParse
import PyOak.Props.C08
namespace PyOak
namespace PM

/-! ### well-formed pattern syntax trees -/

/-- the class names exist and are node classes -/
def ClassesOK (K : CEnv) : ClassSpec → Prop
  | .any => True
  | .names f r => ∀ c ∈ f :: r, K.cls c = .node

/-- a capture name is not among the names captured before -/
def CapFresh (cap : Option Str) (seen : List Str) : Prop := ∀ c, cap = some c → c ∉ seen

/-! `X.WF K x seen`: with the names in `seen` captured before `x` (text order), every class is a
node class, every regex compiles, every capture name is new, every variable was captured before -/
mutual
def Pat.WF (K : CEnv) : Pat → List Str → Prop
  | .mk cls fields, seen => ClassesOK K cls ∧ fields.WF K seen
def Fields.WF (K : CEnv) : Fields → List Str → Prop
  | .nil, _ => True
  | .cons _ spec cap rest, seen =>
    spec.WF K seen ∧ CapFresh cap (spec.caps.reverse ++ seen)
      ∧ rest.WF K (capOpt cap ++ (spec.caps.reverse ++ seen))
def FSpec.WF (K : CEnv) : FSpec → List Str → Prop
  | .any, _ => True
  | .val v, seen => v.WF K seen
  | .seq items tail, seen =>
    items.WF K seen ∧ (match tail with
      | some t => CapFresh t (items.caps.reverse ++ seen)
      | none => True)
def Items.WF (K : CEnv) : Items → List Str → Prop
  | .nil, _ => True
  | .cons v cap rest, seen =>
    v.WF K seen ∧ CapFresh cap (v.caps.reverse ++ seen)
      ∧ rest.WF K (capOpt cap ++ (v.caps.reverse ++ seen))
def PVal.WF (K : CEnv) : PVal → List Str → Prop
  | .tree p, seen => p.WF K seen
  | .var x, seen => x ∈ seen
  | .none, _ => True
  | .re s, _ => K.rxOk s = true
end

/-- `s` does not begin with a character satisfying `p` -/
def NextNot (p : Char → Bool) : Str → Prop
  | c :: _ => p c = false
  | [] => True

end PM
namespace C17
open PM

/-- only the `Sem`-free conjuncts of `C08.fspec_ok` and its siblings are used: any value will do -/
def dummySem : Sem := ⟨fun _ _ => false, fun _ _ => false, fun _ _ => false, fun _ _ => false⟩

theorem resolveNames_total (K : CEnv) : ∀ l : List Str, (∀ c ∈ l, K.cls c = .node) → resolveNames K l = .ok l
  | [], _ => rfl
  | c :: r, h => by
    have hc := h c (by simp)
    have hr := resolveNames_total K r (fun x hx => h x (by simp [hx]))
    simp [resolveNames, hc, hr]

theorem resolveClasses_total (K : CEnv) (cls : ClassSpec) (h : ClassesOK K cls) :
    ∃ ts, resolveClasses K cls = .ok ts := by
  cases cls with
  | any => exact ⟨_, rfl⟩
  | names f r => exact ⟨_, resolveNames_total K (f :: r) h⟩

theorem applyCap_ok (m : Matcher) (cap : Option Str) (seen : List Str) (hok : SeqOk m) (hf : CapFresh cap seen) :
    ∃ m', applyCap m cap seen = .ok (m', capOpt cap ++ seen) := by
  cases cap with
  | none => exact ⟨m, rfl⟩
  | some c =>
    obtain ⟨m', hset, -⟩ := C08.setName_spec m c hok
    have hc : ¬ c ∈ seen := hf c rfl
    refine ⟨m', ?_⟩
    simp [applyCap, checkCap, hc, hset, capOpt]

theorem finishSeq_ok (ms : Matchers) (tail : Option (Option Str)) (seen : List Str) (hno : NoAny ms)
    (hf : match tail with | some t => CapFresh t seen | none => True) :
    ∃ m seen', finishSeq ms tail seen = .ok (m, seen') := by
  cases tail with
  | none =>
    cases ms with
    | nil => exact ⟨_, _, rfl⟩
    | cons m r => exact ⟨.seq none (.cons m r) none, seen, by simp only [finishSeq, C08.mkSeq_noAny none m r hno]⟩
  | some t =>
    cases t with
    | none => exact ⟨.seq none ms (some none), seen, by simp only [finishSeq, C08.mkSeq_snoc]⟩
    | some c =>
      have hc : ¬ c ∈ seen := hf c rfl
      exact ⟨.seq none ms (some (some c)), c :: seen, by simp [finishSeq, checkCap, hc, C08.mkSeq_snoc]⟩

mutual
theorem pat_accept (K : CEnv) : ∀ (p : Pat) (seen : List Str), p.WF K seen →
    ∃ m seen', compilePat K p seen = .ok (m, seen')
  | .mk cls fields, seen, h => by
    obtain ⟨hcls, hf⟩ := h
    obtain ⟨ts, hts⟩ := resolveClasses_total K cls hcls
    obtain ⟨c, seen', hc⟩ := fields_accept K fields seen hf
    exact ⟨.node none ts c, seen', by simp only [compilePat, hts, hc]⟩
theorem fields_accept (K : CEnv) : ∀ (fs : Fields) (seen : List Str), fs.WF K seen →
    ∃ c seen', compileFields K fs seen = .ok (c, seen')
  | .nil, seen, _ => ⟨_, _, rfl⟩
  | .cons name spec cap rest, seen, h => by
    obtain ⟨m, seen1, hm⟩ := fspec_accept K spec seen h.1
    obtain ⟨rfl, -⟩ := C08.fspec_seen K spec seen m seen1 hm
    obtain ⟨m', hm'⟩ := applyCap_ok m cap _ (C08.fspec_ok K dummySem spec seen m _ hm).2.1 h.2.1
    obtain ⟨c, seen3, hc⟩ := fields_accept K rest _ h.2.2
    exact ⟨.cons name m' c, seen3, by simp only [compileFields, hm, hm', hc]⟩
theorem fspec_accept (K : CEnv) : ∀ (spec : FSpec) (seen : List Str), spec.WF K seen →
    ∃ m seen', compileFSpec K spec seen = .ok (m, seen')
  | .any, seen, _ => ⟨_, _, rfl⟩
  | .val pv, seen, h => val_accept K pv seen h
  | .seq items tail, seen, h => by
    obtain ⟨ms, seen1, hms⟩ := items_accept K items seen h.1
    obtain ⟨rfl, -⟩ := C08.items_seen K items seen ms seen1 hms
    obtain ⟨m, seen', hm⟩ := finishSeq_ok ms tail _ (C08.items_ok K dummySem items seen ms _ hms).2.1 h.2
    exact ⟨m, seen', by simp only [compileFSpec, hms, hm]⟩
theorem items_accept (K : CEnv) : ∀ (items : Items) (seen : List Str), items.WF K seen →
    ∃ ms seen', compileItems K items seen = .ok (ms, seen')
  | .nil, seen, _ => ⟨_, _, rfl⟩
  | .cons pv cap rest, seen, h => by
    obtain ⟨m, seen1, hm⟩ := val_accept K pv seen h.1
    obtain ⟨rfl, -⟩ := C08.val_seen K pv seen m seen1 hm
    obtain ⟨m', hm'⟩ :=
      applyCap_ok m cap _ (C08.valueKind_seqOk m (C08.val_ok K dummySem pv seen m _ hm).2.1) h.2.1
    obtain ⟨ms, seen3, hms⟩ := items_accept K rest _ h.2.2
    exact ⟨.cons m' ms, seen3, by simp only [compileItems, hm, hm', hms]⟩
theorem val_accept (K : CEnv) : ∀ (pv : PVal) (seen : List Str), pv.WF K seen →
    ∃ m seen', compileVal K pv seen = .ok (m, seen')
  | .tree p, seen, h => pat_accept K p seen h
  | .var x, seen, h => by
    have h : x ∈ seen := h
    exact ⟨.var none x, seen, by simp [compileVal, h]⟩
  | .none, seen, _ => ⟨_, _, rfl⟩
  | .re s, seen, h => by
    have h : K.rxOk s = true := h
    exact ⟨.regex none s, seen, by simp [compileVal, h]⟩
end

/-- **every well-formed pattern is accepted by the interpreter** -/
theorem accepts_wellformed (K : CEnv) (p : Pat) (h : p.WF K []) : ∃ m, compile K p = .ok m := by
  obtain ⟨m, seen', hm⟩ := pat_accept K p [] h
  exact ⟨m, by simp only [compile, hm]⟩

/-! non-vacuity: `(T @i=[*] -> c)` (the F8 pattern), `(T @i=[(L) -> a $a * -> r])` are well-formed -/
example : C08.exP8.WF C08.exK [] := by
  simp [C08.exP8, Pat.WF, Fields.WF, FSpec.WF, Items.WF, ClassesOK, CapFresh, C08.exK, FSpec.caps, Items.caps, capOpt]
example : C08.exP9.WF C08.exK [] := by
  simp [C08.exP9, C08.leafP, Pat.WF, Fields.WF, FSpec.WF, Items.WF, PVal.WF, ClassesOK, CapFresh, C08.exK, FSpec.caps,
    Items.caps, PVal.caps, Pat.caps, Fields.caps, capOpt]
def outcome : Except DefErr Matcher → Nat
  | .ok _ => 0
  | .error .syntax => 1
  | .error (.interp _) => 2
example : outcome (compilePattern C08.exK ['(', 'T', '@', 'i', '=', '[', '*', ']', '-', '>', 'c', ')']) = 0 := by decide +kernel
example : outcome (compilePattern C08.exK ['(', ' ', 'T', ' ', '@', 'i', ' ', '=', ' ', '[', ' ', '*', ' ', ']', ' ', '-', '>', ' ', 'c', ' ', ')', ' ']) = 0 := by decide +kernel
example : outcome (compilePattern C08.exK ['(', 'T', '@', 'i', '=', '[', '*', ']', '-', '>', 'c', ' ', '@', 'j', '=', '$', 'd', ')']) = 2 := by decide +kernel
example : outcome (compilePattern C08.exK ['(', 'T', '@', 'i', '=', '[', '*', ']', '-', '>', 'c']) = 1 := by decide +kernel

/-- the result types have no third case (true of any term of these types) -/
theorem compile_total (K : CEnv) (known : Str → Bool) (text : Str) :
    ((∃ m, compilePattern K text = .ok m) ∨ (∃ e, compilePattern K text = .error e))
    ∧ ((∃ els, parseXPath known text = some els) ∨ parseXPath known text = none) := by
  constructor
  · cases compilePattern K text with
    | ok m => exact Or.inl ⟨m, rfl⟩
    | error e => exact Or.inr ⟨e, rfl⟩
  · cases parseXPath known text with
    | some els => exact Or.inl ⟨els, rfl⟩
    | none => exact Or.inr rfl

/-! ## the xpath grammar: every rendering of every derivation is accepted -/

theorem char_eq_iff (c d : Char) : c = d ↔ c.toNat = d.toNat :=
  ⟨fun h => h ▸ rfl, fun h => Char.ext (UInt32.toNat_inj.mp h)⟩
theorem char_le_iff (c d : Char) : c ≤ d ↔ c.toNat ≤ d.toNat := by
  rw [Char.le_def, UInt32.le_iff_toNat_le]; rfl
theorem beq_char_iff (c d : Char) : (c == d) = true ↔ c.toNat = d.toNat := by
  rw [beq_iff_eq, char_eq_iff]

theorem isWS_iff (c : Char) :
    isWS c = true ↔ c.toNat = 32 ∨ c.toNat = 9 ∨ c.toNat = 12 ∨ c.toNat = 13 ∨ c.toNat = 10 := by
  simp only [isWS, Bool.or_eq_true, beq_char_iff, or_assoc]
  rfl
theorem isLetter_iff (c : Char) :
    isLetter c = true ↔ (97 ≤ c.toNat ∧ c.toNat ≤ 122) ∨ (65 ≤ c.toNat ∧ c.toNat ≤ 90) := by
  simp only [isLetter, Bool.or_eq_true, Bool.and_eq_true, decide_eq_true_eq, char_le_iff]
  rfl
theorem isDigitC_iff (c : Char) : isDigitC c = true ↔ 48 ≤ c.toNat ∧ c.toNat ≤ 57 := by
  simp only [isDigitC, Bool.and_eq_true, decide_eq_true_eq, char_le_iff]
  rfl
theorem isNameStart_iff (c : Char) : isNameStart c = true ↔ isLetter c = true ∨ c.toNat = 95 := by
  simp only [isNameStart, Bool.or_eq_true, beq_char_iff]
  rfl
theorem isNameChar_iff (c : Char) : isNameChar c = true ↔ isNameStart c = true ∨ isDigitC c = true := by
  simp only [isNameChar, isNameStart, Bool.or_eq_true]

theorem nameChar_code (c : Char) (h : isNameChar c = true) :
    (48 ≤ c.toNat ∧ c.toNat ≤ 57) ∨ (65 ≤ c.toNat ∧ c.toNat ≤ 90) ∨ c.toNat = 95 ∨ (97 ≤ c.toNat ∧ c.toNat ≤ 122) := by
  rw [isNameChar_iff, isNameStart_iff, isLetter_iff, isDigitC_iff] at h
  omega

theorem ws_not_name (c : Char) (h : isWS c = true) : isNameChar c = false := by
  rw [Bool.eq_false_iff]
  intro hn
  have := nameChar_code c hn
  rw [isWS_iff] at h
  omega

theorem nameChar_not_ws (c : Char) (h : isNameChar c = true) : isWS c = false := by
  cases hw : isWS c with
  | false => rfl
  | true => rw [ws_not_name c hw] at h; cases h

theorem nameStart_nameChar (c : Char) (h : isNameStart c = true) : isNameChar c = true :=
  (isNameChar_iff c).mpr (Or.inl h)

theorem digit_nameChar (c : Char) (h : isDigitC c = true) : isNameChar c = true :=
  (isNameChar_iff c).mpr (Or.inr h)

theorem nameStart_not_digit (c : Char) (h : isNameStart c = true) : isDigitC c = false := by
  rw [Bool.eq_false_iff, Ne, isDigitC_iff]
  rw [isNameStart_iff, isLetter_iff] at h
  omega

/-! ### rendering of a token sequence with white space after every token -/

def tokStr : XTok → Str
  | .slash => ['/']
  | .at => ['@']
  | .lsqb => ['[']
  | .rsqb => [']']
  | .cname s => s
  | .digit c => [c]

def renderToks : List (XTok × Str) → Str
  | [] => []
  | (t, ws) :: r => tokStr t ++ (ws ++ renderToks r)

/-- a CNAME: `[A-Za-z_][A-Za-z0-9_]*` -/
def ValidName (s : Str) : Prop := ∃ c r, s = c :: r ∧ isNameStart c = true ∧ ∀ d ∈ r, isNameChar d = true

theorem validName_single (c : Char) (h : isNameStart c = true) : ValidName [c] :=
  ⟨c, [], rfl, h, nofun⟩

def TokOK : XTok → Prop
  | .cname s => ValidName s
  | .digit c => isDigitC c = true
  | _ => True

def startsName : Str → Bool
  | c :: _ => isNameChar c
  | [] => false

/-- the white space strings consist of WS characters, and a name is separated from a following
name or digit by at least one of them (the only place where the grammars need white space) -/
def SpacedOK : List (XTok × Str) → Prop
  | [] => True
  | (t, ws) :: r =>
    TokOK t ∧ (∀ c ∈ ws, isWS c = true)
      ∧ (match t with
         | .cname _ => ws ≠ [] ∨ startsName (renderToks r) = false
         | _ => True)
      ∧ SpacedOK r

theorem takeWhile_split (p : Char → Bool) (s t : Str) (hs : ∀ d ∈ s, p d = true) (ht : NextNot p t) :
    (s ++ t).takeWhile p = s ∧ (s ++ t).dropWhile p = t := by
  rw [List.takeWhile_append_of_pos hs, List.dropWhile_append_of_pos hs]
  cases t with
  | nil => exact ⟨List.append_nil s, rfl⟩
  | cons c t =>
    have hc : ¬ p c = true := ne_true_of_eq_false (show p c = false from ht)
    rw [List.takeWhile_cons_of_neg hc, List.dropWhile_cons_of_neg hc]
    exact ⟨List.append_nil s, rfl⟩

theorem span_spec (p : Char → Bool) : ∀ l : Str, (∀ d ∈ l.takeWhile p, p d = true) ∧ NextNot p (l.dropWhile p)
  | [] => ⟨nofun, trivial⟩
  | c :: l => by
    obtain ⟨h1, h2⟩ := span_spec p l
    cases hc : p c with
    | true =>
      rw [List.takeWhile_cons_of_pos hc, List.dropWhile_cons_of_pos hc]
      exact ⟨fun d hd => (List.mem_cons.mp hd).elim (fun e => e ▸ hc) (h1 d), h2⟩
    | false =>
      have hc' : ¬ p c = true := ne_true_of_eq_false (hc)
      rw [List.takeWhile_cons_of_neg hc', List.dropWhile_cons_of_neg hc']
      exact ⟨nofun, hc⟩

theorem nextNot_startsName (s : Str) : startsName s = false ↔ NextNot isNameChar s := by
  cases s <;> simp only [startsName, NextNot]

theorem nextNot_name_ws (ws t : Str) (hws : ∀ c ∈ ws, isWS c = true) (h : ws ≠ [] ∨ NextNot isNameChar t) :
    NextNot isNameChar (ws ++ t) := by
  cases ws with
  | nil => exact h.elim (fun hne => absurd rfl hne) id
  | cons w ws' => exact ws_not_name w (hws w List.mem_cons_self)

/-- the token a single character is, if it is one -/
def charTok (c : Char) : Option XTok :=
  if c == '/' then some .slash else if c == '@' then some .at else if c == '[' then some .lsqb
  else if c == ']' then some .rsqb else if isDigitC c then some (.digit c) else none

theorem xlex_cons (fuel : Nat) (c : Char) (r : Str) :
    xlex (fuel + 1) (c :: r) =
      if isWS c then xlex fuel r
      else (charTok c).elim
        (if isNameStart c then
          (xlex fuel (r.dropWhile isNameChar)).map (.cname (c :: r.takeWhile isNameChar) :: ·)
        else none)
        fun t => (xlex fuel r).map (t :: ·) := by
  simp only [xlex, charTok]
  by_cases hw : isWS c = true
  · rw [if_pos hw, if_pos hw]
  rw [if_neg hw, if_neg hw]
  by_cases h1 : (c == '/') = true
  · rw [if_pos h1, if_pos h1]; rfl
  rw [if_neg h1, if_neg h1]
  by_cases h2 : (c == '@') = true
  · rw [if_pos h2, if_pos h2]; rfl
  rw [if_neg h2, if_neg h2]
  by_cases h3 : (c == '[') = true
  · rw [if_pos h3, if_pos h3]; rfl
  rw [if_neg h3, if_neg h3]
  by_cases h4 : (c == ']') = true
  · rw [if_pos h4, if_pos h4]; rfl
  rw [if_neg h4, if_neg h4]
  by_cases h5 : isDigitC c = true
  · rw [if_pos h5, if_pos h5]; rfl
  rw [if_neg h5, if_neg h5]
  rfl

theorem charTok_nameChar (c : Char) (h : isNameChar c = true) :
    charTok c = if isDigitC c then some (.digit c) else none := by
  have hc := nameChar_code c h
  have e1 : '/'.toNat = 47 := rfl
  have e2 : '@'.toNat = 64 := rfl
  have e3 : '['.toNat = 91 := rfl
  have e4 : ']'.toNat = 93 := rfl
  -- the four punctuation tests fail: their code points lie outside the ranges `hc`
  rw [charTok, if_neg, if_neg, if_neg, if_neg] <;> rw [beq_char_iff] <;> omega

theorem charTok_some (c : Char) (t : XTok) (h : charTok c = some t) :
    tokStr t = [c] ∧ TokOK t ∧ ∀ s, t ≠ .cname s := by
  unfold charTok at h
  by_cases h1 : (c == '/') = true
  · rw [if_pos h1] at h; cases h; exact ⟨by rw [eq_of_beq h1]; rfl, trivial, nofun⟩
  rw [if_neg h1] at h
  by_cases h2 : (c == '@') = true
  · rw [if_pos h2] at h; cases h; exact ⟨by rw [eq_of_beq h2]; rfl, trivial, nofun⟩
  rw [if_neg h2] at h
  by_cases h3 : (c == '[') = true
  · rw [if_pos h3] at h; cases h; exact ⟨by rw [eq_of_beq h3]; rfl, trivial, nofun⟩
  rw [if_neg h3] at h
  by_cases h4 : (c == ']') = true
  · rw [if_pos h4] at h; cases h; exact ⟨by rw [eq_of_beq h4]; rfl, trivial, nofun⟩
  rw [if_neg h4] at h
  by_cases h5 : isDigitC c = true
  · rw [if_pos h5] at h; cases h; exact ⟨rfl, h5, nofun⟩
  · rw [if_neg h5] at h; cases h

theorem tokOK_cases (t : XTok) (ht : TokOK t) :
    (∃ c, tokStr t = [c] ∧ isWS c = false ∧ charTok c = some t)
      ∨ ∃ c s, t = .cname (c :: s) ∧ isNameStart c = true ∧ ∀ d ∈ s, isNameChar d = true := by
  cases t with
  | slash => exact Or.inl ⟨_, rfl, rfl, rfl⟩
  | «at» => exact Or.inl ⟨_, rfl, rfl, rfl⟩
  | lsqb => exact Or.inl ⟨_, rfl, rfl, rfl⟩
  | rsqb => exact Or.inl ⟨_, rfl, rfl, rfl⟩
  | digit c =>
    have hn := digit_nameChar c ht
    exact Or.inl ⟨c, rfl, nameChar_not_ws c hn, by rw [charTok_nameChar c hn]; exact if_pos ht⟩
  | cname s =>
    obtain ⟨c, r, rfl, hc, hr⟩ := ht
    exact Or.inr ⟨c, r, rfl, hc, hr⟩

theorem xlex_ws : ∀ (ws : Str), (∀ c ∈ ws, isWS c = true) → ∀ (s : Str) (fuel : Nat),
    xlex (fuel + ws.length) (ws ++ s) = xlex fuel s
  | [], _, s, fuel => rfl
  | c :: ws, h, s, fuel => by
    rw [List.length_cons, ← Nat.add_assoc, List.cons_append, xlex_cons, if_pos (h c List.mem_cons_self)]
    exact xlex_ws ws (fun d hd => h d (List.mem_cons_of_mem c hd)) s fuel

/-- one unit of fuel per character suffices -/
theorem xlex_render_le : ∀ (tws : List (XTok × Str)), SpacedOK tws → ∀ fuel, (renderToks tws).length ≤ fuel →
    xlex fuel (renderToks tws) = some (tws.map (·.1))
  | [], _, fuel, _ => by cases fuel <;> rfl
  | (t, ws) :: r, h, fuel, hf => by
    obtain ⟨htok, hws, hsep, hr⟩ := h
    -- after the token: skip the white space, then the rest by induction
    have after : ∀ f, (ws ++ renderToks r).length ≤ f → xlex f (ws ++ renderToks r) = some (r.map (·.1)) := by
      intro f hle
      rw [List.length_append] at hle
      rw [show f = (f - ws.length) + ws.length by omega, xlex_ws ws hws]
      exact xlex_render_le r hr _ (by omega)
    rcases tokOK_cases t htok with ⟨c, hs, hw, hct⟩ | ⟨c, s, rfl, hc, hs⟩
    · rw [renderToks, hs, List.singleton_append] at hf ⊢
      obtain ⟨f, rfl⟩ := Nat.exists_eq_succ_of_ne_zero (Nat.ne_of_gt (Nat.lt_of_lt_of_le (Nat.succ_pos _) hf))
      rw [xlex_cons, if_neg (ne_true_of_eq_false hw), hct, after f (Nat.le_of_succ_le_succ hf)]
      rfl
    · have hnext : NextNot isNameChar (ws ++ renderToks r) :=
        nextNot_name_ws ws _ hws (hsep.imp_right (nextNot_startsName _).mp)
      obtain ⟨ht, hd⟩ := takeWhile_split isNameChar s _ hs hnext
      have hn := nameStart_nameChar c hc
      rw [renderToks, tokStr, List.cons_append] at hf ⊢
      obtain ⟨f, rfl⟩ := Nat.exists_eq_succ_of_ne_zero (Nat.ne_of_gt (Nat.lt_of_lt_of_le (Nat.succ_pos _) hf))
      rw [xlex_cons, if_neg (ne_true_of_eq_false (nameChar_not_ws c hn)), charTok_nameChar c hn,
        if_neg (ne_true_of_eq_false (nameStart_not_digit c hc)), Option.elim_none, if_pos hc, ht, hd,
        after f (by rw [List.length_cons, List.length_append] at hf; omega)]
      rfl

theorem xlex_render : ∀ (tws : List (XTok × Str)), SpacedOK tws → ∀ fuel, (renderToks tws).length < fuel →
    xlex fuel (renderToks tws) = some (tws.map (·.1)) :=
  fun tws h fuel hf => xlex_render_le tws h fuel (Nat.le_of_lt hf)

/-! ### the xpath grammar as data: steps, their tokens, their meaning -/

/-- `"/" field_spec? index_spec? class_spec?` -/
structure XStep where
  field : Option Str          -- `"@" CNAME`
  idx : Option (List Char)    -- `"[" DIGIT* "]"` (the digits)
  cls : Option Str            -- `CNAME`

def bodyToks (st : XStep) : List XTok :=
  (match st.field with | some f => [.at, .cname f] | none => [])
    ++ ((match st.idx with | some ds => .lsqb :: (ds.map .digit ++ [.rsqb]) | none => [])
    ++ (match st.cls with | some c => [.cname c] | none => []))

def stepToks (st : XStep) : List XTok := .slash :: bodyToks st

def pathToks (p : List XStep) : List XTok := p.flatMap stepToks

/-- all digits are significant; `[]` is "no index" -/
def idxVal (ds : List Char) : Option Nat := if ds.isEmpty then none else some (digitsVal ds)

/-- what the transformer's `element` callback returns for a step -/
def rawOf (st : XStep) : RawEl :=
  match st.field, st.idx, st.cls with
  | none, none, none => none
  | f, i, c => some (f, (i.map idxVal).getD none, c.getD astNodeName)

theorem digits_split (p : XTok → Bool) (hp : ∀ c, p (.digit c) = true) (hr : p .rsqb = false) :
    ∀ (ds : List Char) (more : List XTok),
      (ds.map XTok.digit ++ .rsqb :: more).takeWhile p = ds.map .digit
      ∧ (ds.map XTok.digit ++ .rsqb :: more).dropWhile p = .rsqb :: more
  | [], more => by simp [hr]
  | d :: ds, more => by
    obtain ⟨h1, h2⟩ := digits_split p hp hr ds more
    simp [hp, h1, h2]

theorem digits_filterMap (g : XTok → Option Char) (hg : ∀ c, g (.digit c) = some c) :
    ∀ ds : List Char, (ds.map XTok.digit).filterMap g = ds
  | [] => rfl
  | d :: ds => by simp [hg, digits_filterMap g hg ds]

/-! ### the step parser is its three optional parts, one after the other -/

def isDig : XTok → Bool
  | .digit _ => true
  | _ => false
def digOf : XTok → Option Char
  | .digit c => some c
  | _ => none

/-- `field_spec?` -/
def fieldPart (toks : List XTok) : Option Str × List XTok :=
  match toks with
  | .at :: .cname f :: r => (some f, r)
  | _ => (none, toks)

/-- `index_spec?` -/
def idxPart (toks : List XTok) : Option (Option (Option Nat) × List XTok) :=
  match toks with
  | .lsqb :: r =>
    match r.dropWhile isDig with
    | .rsqb :: r'' =>
      some (some (idxVal ((r.takeWhile isDig).filterMap digOf)), r'')
    | _ => none
  | _ => some (none, toks)

/-- `class_spec?` -/
def clsPart (known : Str → Bool) (fld : Option Str) (idx : Option (Option Nat)) (toks : List XTok) :
    Option (Option Str × Option (Option Nat) × Option Str × List XTok) :=
  match toks with
  | .cname c :: r => if known c then some (fld, idx, some c, r) else none
  | _ => some (fld, idx, none, toks)

theorem parseStepBody_eq (known : Str → Bool) (toks : List XTok) :
    parseStepBody known toks =
      (match fieldPart toks with
       | (fld, t1) =>
         match t1 with
         | .at :: _ => none
         | _ =>
           match idxPart t1 with
           | none => none
           | some (idx, t2) => clsPart known fld idx t2) := rfl

def fldToks : Option Str → List XTok
  | some f => [.at, .cname f]
  | none => []
def idxToks : Option (List Char) → List XTok
  | some ds => .lsqb :: (ds.map .digit ++ [.rsqb])
  | none => []
def clsToks : Option Str → List XTok
  | some c => [.cname c]
  | none => []

theorem bodyToks_eq (st : XStep) : bodyToks st = fldToks st.field ++ (idxToks st.idx ++ clsToks st.cls) := rfl

/-- first token of a list, as a tag: 0 none, 1 slash, 2 at, 3 lsqb, 4 other. `headTag r ≤ 1`: a step ends at
`r`; `≠ 2`: no field part starts there; `≠ 3`: no index part -/
def headTag : List XTok → Nat
  | [] => 0
  | .slash :: _ => 1
  | .at :: _ => 2
  | .lsqb :: _ => 3
  | _ :: _ => 4

theorem headTag_cls (c : Option Str) (r : List XTok) (hr : c = none → headTag r ≤ 1) :
    headTag (clsToks c ++ r) ≠ 2 ∧ headTag (clsToks c ++ r) ≠ 3 := by
  cases c with
  | none =>
    have := hr rfl
    rw [clsToks, List.nil_append]
    omega
  | some c => exact ⟨fun e => (nomatch e), fun e => (nomatch e)⟩

theorem headTag_idx (i : Option (List Char)) (y : List XTok) (hy : headTag y ≠ 2) : headTag (idxToks i ++ y) ≠ 2 := by
  cases i with
  | none => exact hy
  | some ds => exact fun e => nomatch e

theorem fieldPart_toks (f : Option Str) (t : List XTok) (ht : headTag t ≠ 2) : fieldPart (fldToks f ++ t) = (f, t) := by
  cases f with
  | some f => rfl
  | none =>
    show fieldPart t = (none, t)
    unfold fieldPart
    split
    · exact absurd rfl ht
    · rfl

theorem idxPart_toks (i : Option (List Char)) (t : List XTok) (ht : headTag t ≠ 3) :
    idxPart (idxToks i ++ t) = some (i.map idxVal, t) := by
  cases i with
  | none =>
    show idxPart t = some (none, t)
    unfold idxPart
    split
    · exact absurd rfl ht
    · rfl
  | some ds =>
    obtain ⟨h1, h2⟩ := digits_split isDig (fun _ => rfl) rfl ds t
    rw [idxToks, List.cons_append, List.append_assoc, List.singleton_append, idxPart]
    simp only [h1, h2, digits_filterMap digOf (fun _ => rfl)]
    rfl

theorem clsPart_toks (known : Str → Bool) (fld : Option Str) (idx : Option (Option Nat)) (c : Option Str)
    (rest : List XTok) (hr : c = none → headTag rest ≤ 1) :
    clsPart known fld idx (clsToks c ++ rest) = if c.all known then some (fld, idx, c, rest) else none := by
  cases c with
  | some c => rfl
  | none =>
    have := hr rfl
    show clsPart known fld idx rest = some (fld, idx, none, rest)
    unfold clsPart
    split
    · exact absurd this (show ¬ 4 ≤ 1 by omega)  -- 4: `rest` begins with a name
    · rfl

theorem fieldPart_sound (toks : List XTok) (fld : Option Str) (t1 : List XTok) (h : fieldPart toks = (fld, t1)) :
    toks = fldToks fld ++ t1 := by
  unfold fieldPart at h
  split at h <;> cases h <;> rfl

theorem digits_of_takeWhile : ∀ l : List XTok, (l.takeWhile isDig) = ((l.takeWhile isDig).filterMap digOf).map .digit
  | [] => rfl
  | t :: l => by
    cases t with
    | digit c => exact congrArg (XTok.digit c :: ·) (digits_of_takeWhile l)
    | _ => rfl

theorem idxPart_sound (t1 : List XTok) (idx : Option (Option Nat)) (t2 : List XTok) (h : idxPart t1 = some (idx, t2)) :
    ∃ dso : Option (List Char), dso.map idxVal = idx ∧ t1 = idxToks dso ++ t2 := by
  unfold idxPart at h
  split at h
  · rename_i r
    split at h
    · rename_i r'' hdrop
      cases h
      refine ⟨some ((r.takeWhile isDig).filterMap digOf), rfl, ?_⟩
      have hsplit : r = r.takeWhile isDig ++ r.dropWhile isDig := List.takeWhile_append_dropWhile.symm
      rw [hdrop, digits_of_takeWhile r] at hsplit
      rw [idxToks, List.cons_append, List.append_assoc, List.singleton_append, ← hsplit]
    · cases h
  · cases h
    exact ⟨none, rfl, rfl⟩

theorem clsPart_sound (known : Str → Bool) (fld : Option Str) (idx : Option (Option Nat)) (t2 : List XTok)
    (fld' : Option Str) (idx' : Option (Option Nat)) (cls : Option Str) (rest : List XTok)
    (h : clsPart known fld idx t2 = some (fld', idx', cls, rest)) :
    fld' = fld ∧ idx' = idx ∧ t2 = clsToks cls ++ rest ∧ ∀ c, cls = some c → known c = true := by
  unfold clsPart at h
  split at h
  · rename_i c r
    split at h
    · rename_i hk
      cases h
      exact ⟨rfl, rfl, rfl, fun c' hc' => by cases hc'; exact hk⟩
    · cases h
  · cases h
    exact ⟨rfl, rfl, rfl, fun c' hc' => nomatch hc'⟩

/-- **step soundness**: what the step parser consumes after a "/" is the body of a written step -/
theorem parseStepBody_sound (known : Str → Bool) (toks : List XTok) (fld : Option Str) (idx : Option (Option Nat))
    (cls : Option Str) (rest : List XTok) (h : parseStepBody known toks = some (fld, idx, cls, rest)) :
    ∃ st : XStep, toks = bodyToks st ++ rest ∧ st.field = fld ∧ st.idx.map idxVal = idx ∧ st.cls = cls
      ∧ ∀ c, st.cls = some c → known c = true := by
  rw [parseStepBody_eq] at h
  cases hf : fieldPart toks with
  | mk fld0 t1 =>
    rw [hf] at h
    simp only at h
    have e1 := fieldPart_sound toks fld0 t1 hf
    split at h
    · cases h
    · cases hi : idxPart t1 with
      | none => rw [hi] at h; cases h
      | some x =>
        obtain ⟨idx0, t2⟩ := x
        rw [hi] at h
        obtain ⟨dso, hd, e2⟩ := idxPart_sound t1 idx0 t2 hi
        obtain ⟨rfl, rfl, e3, hk⟩ := clsPart_sound known fld0 idx0 t2 fld idx cls rest h
        refine ⟨⟨fld, dso, cls⟩, ?_, rfl, hd, rfl, hk⟩
        rw [e1, e2, e3, bodyToks_eq, List.append_assoc, List.append_assoc]

theorem parseStepBody_bodyToks (known : Str → Bool) (st : XStep) (rest : List XTok)
    (hrest : st.cls = none → headTag rest ≤ 1) :
    parseStepBody known (bodyToks st ++ rest) =
      if st.cls.all known then some (st.field, st.idx.map idxVal, st.cls, rest) else none := by
  obtain ⟨f, i, c⟩ := st
  obtain ⟨h2, h3⟩ := headTag_cls c rest hrest
  have h2' := headTag_idx i _ h2
  rw [parseStepBody_eq, bodyToks_eq, List.append_assoc, List.append_assoc, fieldPart_toks f _ h2']
  simp only
  split
  · rename_i heq; rw [heq] at h2'; exact absurd rfl h2'
  · rw [idxPart_toks i _ h3]
    exact clsPart_toks known f _ c rest hrest

theorem parseStepBody_body (known : Str → Bool) (st : XStep) (rest : List XTok) (hrest : headTag rest ≤ 1)
    (hknown : ∀ c, st.cls = some c → known c = true) :
    parseStepBody known (bodyToks st ++ rest) = some (st.field, st.idx.map idxVal, st.cls, rest) := by
  rw [parseStepBody_bodyToks known st rest (fun _ => hrest), if_pos]
  cases hc : st.cls with
  | none => rfl
  | some c => exact hknown c hc

theorem pathToks_cons (st : XStep) (p : List XStep) : pathToks (st :: p) = .slash :: (bodyToks st ++ pathToks p) := rfl

theorem headTag_pathToks (p : List XStep) : headTag (pathToks p) ≤ 1 := by
  cases p with
  | nil => exact Nat.zero_le 1
  | cons st p => exact Nat.le_refl 1

/-- a derivation of `xpath: element* self`: at least one step, the last one names a class, every
class named is a node class -/
def PathOK (known : Str → Bool) : List XStep → Prop
  | [] => False
  | [st] => (∃ c, st.cls = some c) ∧ ∀ c, st.cls = some c → known c = true
  | st :: p => (∀ c, st.cls = some c → known c = true) ∧ PathOK known p

theorem pathOK_ne_nil (known : Str → Bool) (path : List XStep) (hp : PathOK known path) : path ≠ [] := by
  rintro rfl; cases hp

theorem pathOK_cons (known : Str → Bool) (st : XStep) (p : List XStep) (h : PathOK known (st :: p)) :
    (∀ c, st.cls = some c → known c = true) ∧ ((p = [] ∧ ∃ c, st.cls = some c) ∨ (p ≠ [] ∧ PathOK known p)) := by
  cases p with
  | nil => exact ⟨h.2, Or.inl ⟨rfl, h.1⟩⟩
  | cons st2 p => exact ⟨h.1, Or.inr ⟨List.cons_ne_nil _ _, h.2⟩⟩

/-! ### the path parser with the element constructor as a parameter: `parseSteps` and the legacy
`lparseSteps` differ only in it (`mkRaw`, `lmkRaw`) -/

/-- the raw element `parseSteps` builds from the parts of a step -/
def mkRaw (fld : Option Str) (idx : Option (Option Nat)) (cls : Option Str) : RawEl :=
  match fld, idx, cls with
  | none, none, none => none
  | _, _, _ => some (fld, idx.getD none, cls.getD astNodeName)

def stepsWith (mk : Option Str → Option (Option Nat) → Option Str → RawEl) (known : Str → Bool) :
    Nat → List XTok → Option (List RawEl)
  | fuel + 1, .slash :: r =>
    match parseStepBody known r with
    | none => none
    | some (fld, idx, cls, rest) =>
      match rest with
      | [] => if cls.isSome then some [mk fld idx cls] else none
      | _ :: _ => (stepsWith mk known fuel rest).map (mk fld idx cls :: ·)
  | _, _ => none

theorem parseSteps_eq (known : Str → Bool) : ∀ (fuel : Nat) (toks : List XTok),
    parseSteps known fuel toks = stepsWith mkRaw known fuel toks
  | 0, _ => rfl
  | fuel + 1, [] => rfl
  | fuel + 1, t :: r => by
    cases t <;> try rfl  -- both sides are `none` unless the first token is "/"
    simp only [parseSteps, stepsWith]
    cases parseStepBody known r with
    | none => rfl
    | some q =>
      obtain ⟨fld, idx, cls, rest⟩ := q
      cases rest with
      | nil => rfl
      | cons a b => exact congrArg (Option.map _) (parseSteps_eq known fuel (a :: b))

def XStep.raw (mk : Option Str → Option (Option Nat) → Option Str → RawEl) (st : XStep) : RawEl :=
  mk st.field (st.idx.map idxVal) st.cls

theorem rawOf_eq : rawOf = XStep.raw mkRaw := by
  funext st
  obtain ⟨f, i, c⟩ := st
  cases f <;> cases i <;> cases c <;> rfl

theorem stepsWith_path (mk : Option Str → Option (Option Nat) → Option Str → RawEl) (known : Str → Bool) :
    ∀ (p : List XStep), PathOK known p → ∀ fuel, p.length < fuel →
      stepsWith mk known fuel (pathToks p) = some (p.map (XStep.raw mk))
  | [], h, _, _ => nomatch h
  | st :: p, h, fuel, hf => by
    obtain ⟨hk, hp⟩ := pathOK_cons known st p h
    cases fuel with
    | zero => exact absurd hf (Nat.not_lt_zero _)
    | succ f =>
      rw [pathToks_cons, stepsWith, parseStepBody_body known st _ (headTag_pathToks p) hk]
      rcases hp with ⟨rfl, c, hc⟩ | ⟨hne, hp⟩
      · exact if_pos (by rw [hc]; rfl)
      · have ih := stepsWith_path mk known p hp f (Nat.lt_of_succ_lt_succ hf)
        cases p with
        | nil => exact absurd rfl hne
        | cons st2 p =>
          rw [pathToks_cons] at ih ⊢
          show Option.map _ (stepsWith mk known f _) = _
          rw [ih]; rfl

theorem stepsWith_sound (mk : Option Str → Option (Option Nat) → Option Str → RawEl) (known : Str → Bool) :
    ∀ (fuel : Nat) (toks : List XTok) (raws : List RawEl), stepsWith mk known fuel toks = some raws →
      ∃ path : List XStep, PathOK known path ∧ pathToks path = toks ∧ path.map (XStep.raw mk) = raws
  | 0, _, _, h => nomatch h
  | fuel + 1, toks, raws, h => by
    unfold stepsWith at h
    split at h
    · rename_i f r heq
      cases heq
      split at h
      · cases h
      · rename_i fld idx cls rest hb
        obtain ⟨st, rfl, rfl, rfl, rfl, hk⟩ := parseStepBody_sound known r fld idx cls rest hb
        split at h
        · split at h
          · rename_i hsome
            cases h
            exact ⟨[st], ⟨Option.isSome_iff_exists.mp hsome, hk⟩, by rw [pathToks_cons]; rfl, rfl⟩
          · cases h
        · rename_i a b
          obtain ⟨raws', h', rfl⟩ := Option.map_eq_some_iff.mp h
          obtain ⟨path, hp, ht, rfl⟩ := stepsWith_sound mk known fuel (a :: b) raws' h'
          cases path with
          | nil => cases hp
          | cons st2 p => exact ⟨st :: st2 :: p, ⟨hk, hp⟩, by rw [pathToks_cons, ht], rfl⟩
    · cases h

theorem digits_rsqb_inj : ∀ (ds ds' : List Char) (x x' : List XTok),
    ds.map XTok.digit ++ .rsqb :: x = ds'.map XTok.digit ++ .rsqb :: x' → ds = ds' ∧ x = x'
  | [], [], x, x', h => by simpa using h
  | [], d :: ds', x, x', h => by simp at h
  | d :: ds, [], x, x', h => by simp at h
  | d :: ds, d' :: ds', x, x', h => by
    simp only [List.map_cons, List.cons_append, List.cons.injEq, XTok.digit.injEq] at h
    obtain ⟨rfl, h⟩ := h
    obtain ⟨rfl, rfl⟩ := digits_rsqb_inj ds ds' x x' h
    exact ⟨rfl, rfl⟩

/-- `clsPart` (with any `known`, `fld`, `idx`: they are passed through) is a left inverse -/
theorem clsToks_inj (c c' : Option Str) (r r' : List XTok) (hr : headTag r ≤ 1) (hr' : headTag r' ≤ 1)
    (h : clsToks c ++ r = clsToks c' ++ r') : c = c' ∧ r = r' := by
  have e := clsPart_toks (fun _ => true) none none c r (fun _ => hr)
  rw [h, clsPart_toks (fun _ => true) none none c' r' (fun _ => hr')] at e
  cases c <;> cases c' <;> cases e <;> exact ⟨rfl, rfl⟩

theorem idxToks_inj (i i' : Option (List Char)) (y y' : List XTok) (hy : headTag y ≠ 3) (hy' : headTag y' ≠ 3)
    (h : idxToks i ++ y = idxToks i' ++ y') : i = i' ∧ y = y' := by
  cases i <;> cases i' <;> simp only [idxToks, List.nil_append, List.cons_append, List.append_assoc] at h
  · exact ⟨rfl, h⟩
  · subst h; simp [headTag] at hy
  · subst h; simp [headTag] at hy'
  · simp only [List.cons.injEq, true_and] at h
    obtain ⟨rfl, rfl⟩ := digits_rsqb_inj _ _ _ _ h
    exact ⟨rfl, rfl⟩

theorem fldToks_inj (f f' : Option Str) (z z' : List XTok) (hz : headTag z ≠ 2) (hz' : headTag z' ≠ 2)
    (h : fldToks f ++ z = fldToks f' ++ z') : f = f' ∧ z = z' :=
  Prod.mk.inj ((fieldPart_toks f z hz).symm.trans ((congrArg fieldPart h).trans (fieldPart_toks f' z' hz')))

theorem bodyToks_append_inj (st st' : XStep) (r r' : List XTok) (hr : headTag r ≤ 1) (hr' : headTag r' ≤ 1)
    (h : bodyToks st ++ r = bodyToks st' ++ r') : st = st' ∧ r = r' := by
  obtain ⟨f, i, c⟩ := st
  obtain ⟨f', i', c'⟩ := st'
  rw [bodyToks_eq, bodyToks_eq] at h
  simp only [List.append_assoc] at h
  obtain ⟨a1, a2⟩ := headTag_cls c r (fun _ => hr)
  obtain ⟨b1, b2⟩ := headTag_cls c' r' (fun _ => hr')
  obtain ⟨e1, h1⟩ := fldToks_inj f f' _ _ (headTag_idx i _ a1) (headTag_idx i' _ b1) h
  obtain ⟨e2, h2⟩ := idxToks_inj i i' _ _ a2 b2 h1
  obtain ⟨e3, e4⟩ := clsToks_inj c c' r r' hr hr' h2
  subst e1; subst e2; subst e3; subst e4
  exact ⟨rfl, rfl⟩

theorem pathToks_inj : ∀ p p' : List XStep, pathToks p = pathToks p' → p = p'
  | [], [], _ => rfl
  | [], st :: p', h => by rw [pathToks_cons] at h; simp [pathToks] at h
  | st :: p, [], h => by rw [pathToks_cons] at h; simp [pathToks] at h
  | st :: p, st' :: p', h => by
    rw [pathToks_cons, pathToks_cons] at h
    injection h with _ h1
    obtain ⟨e1, h2⟩ := bodyToks_append_inj st st' _ _ (headTag_pathToks p) (headTag_pathToks p') h1
    rw [e1, pathToks_inj p p' h2]

theorem pathOK_known (known : Str → Bool) : ∀ p : List XStep, PathOK known p →
    ∀ st ∈ p, ∀ c, st.cls = some c → known c = true
  | [], h => nomatch h
  | st :: p, h => fun st' hst' => by
    obtain ⟨hk, hp⟩ := pathOK_cons known st p h
    rcases List.mem_cons.mp hst' with rfl | hm
    · exact hk
    · rcases hp with ⟨rfl, -⟩ | ⟨-, hp⟩
      · cases hm
      · exact pathOK_known known p hp st' hm

/-- were it accepted, the tokens would be those of a path over the node classes, and they determine the path -/
theorem stepsWith_unknown (mk : Option Str → Option (Option Nat) → Option Str → RawEl) (known : Str → Bool)
    (p : List XStep) (fuel : Nat) (h : ∃ st ∈ p, ∃ c, st.cls = some c ∧ known c = false) :
    stepsWith mk known fuel (pathToks p) = none := by
  cases hs : stepsWith mk known fuel (pathToks p) with
  | none => rfl
  | some raws =>
    obtain ⟨path, hp, ht, -⟩ := stepsWith_sound mk known fuel _ raws hs
    cases pathToks_inj path p ht
    obtain ⟨st, hst, c, hc, hk⟩ := h
    rw [pathOK_known known p hp st hst c hc] at hk
    cases hk

theorem parseSteps_path (known : Str → Bool) (p : List XStep) (hp : PathOK known p) (fuel : Nat) (hf : p.length < fuel) :
    parseSteps known fuel (pathToks p) = some (p.map rawOf) := by
  rw [parseSteps_eq, rawOf_eq]
  exact stepsWith_path mkRaw known p hp fuel hf

theorem xwalk_some : ∀ (raws : List RawEl) (acc : List XElem), acc ≠ [] → ∃ els, xwalk raws acc = some els
  | [], _, _ => ⟨_, rfl⟩
  | some _ :: r, _, _ => xwalk_some r _ (List.cons_ne_nil _ _)
  | none :: _, [], h => absurd rfl h
  | none :: r, _ :: _, _ => xwalk_some r _ (List.cons_ne_nil _ _)

theorem pathToks_length : ∀ p : List XStep, p.length ≤ (pathToks p).length
  | [] => Nat.le_refl 0
  | st :: p => by
    have := pathToks_length p
    rw [pathToks_cons, List.length_cons, List.length_cons, List.length_append]
    omega

theorem pathOK_last (known : Str → Bool) : ∀ p : List XStep, PathOK known p →
    ∃ init last c, p = init ++ [last] ∧ last.cls = some c
  | [], h => nomatch h
  | st :: p, h => by
    rcases (pathOK_cons known st p h).2 with ⟨rfl, c, hc⟩ | ⟨-, hp⟩
    · exact ⟨[], st, c, rfl, hc⟩
    · obtain ⟨init, last, c, he, hc⟩ := pathOK_last known p hp
      exact ⟨st :: init, last, c, by rw [he]; rfl, hc⟩

theorem rawOf_cls (st : XStep) (c : Str) (h : st.cls = some c) :
    rawOf st = some (st.field, (st.idx.map idxVal).getD none, c) := by
  obtain ⟨fld, idx, cls⟩ := st
  cases h
  cases fld <;> cases idx <;> rfl

/-- `if not xpath.startswith("/"): xpath = "//" + xpath` -/
def xprefix (text : Str) : Str :=
  match text with
  | '/' :: _ => text
  | _ => '/' :: '/' :: text

theorem parseXPath_eq (known : Str → Bool) (text : Str) :
    parseXPath known text =
      (xlex ((xprefix text).length + 1) (xprefix text)).bind fun toks =>
        (parseSteps known (toks.length + 1) toks).bind fun raws => xwalk raws.reverse [] := by
  show (match xlex ((xprefix text).length + 1) (xprefix text) with
    | none => none
    | some toks => match parseSteps known (toks.length + 1) toks with
      | none => none
      | some raws => xwalk raws.reverse []) = _
  cases xlex _ _ with
  | none => rfl
  | some toks =>
    show (match parseSteps known (toks.length + 1) toks with
      | none => none
      | some raws => xwalk raws.reverse []) = (parseSteps known (toks.length + 1) toks).bind _
    cases parseSteps known (toks.length + 1) toks <;> rfl

theorem render_slash (path : List XStep) (tws : List (XTok × Str)) (hne : path ≠ [])
    (ht : tws.map (·.1) = pathToks path) : ∃ r, renderToks tws = '/' :: r := by
  cases path with
  | nil => exact absurd rfl hne
  | cons st p =>
    cases tws with
    | nil => exact nomatch ht
    | cons tw r =>
      obtain ⟨t, ws⟩ := tw
      cases (List.cons.inj ht).1
      exact ⟨_, rfl⟩

theorem parseXPath_render (known : Str → Bool) (path : List XStep) (tws : List (XTok × Str)) (hne : path ≠ [])
    (ht : tws.map (·.1) = pathToks path) (hs : SpacedOK tws) :
    parseXPath known (renderToks tws) =
      (parseSteps known ((pathToks path).length + 1) (pathToks path)).bind fun raws => xwalk raws.reverse [] := by
  obtain ⟨r, hr⟩ := render_slash path tws hne ht
  have hx : xprefix (renderToks tws) = renderToks tws := by rw [hr]; rfl
  rw [parseXPath_eq, hx, xlex_render tws hs _ (Nat.lt_succ_self _), ht]
  rfl

/-- **every string of the xpath grammar is accepted, whatever white space follows its tokens**, and
its meaning is that of the token sequence (`xwalk` of the steps: all digits significant, `//` as
"anywhere"); for a text without the leading "/" see `xpath_relative` -/
theorem xpath_accepts_rendering (known : Str → Bool) (path : List XStep) (tws : List (XTok × Str))
    (hp : PathOK known path) (ht : tws.map (·.1) = pathToks path) (hs : SpacedOK tws) :
    ∃ els, parseXPath known (renderToks tws) = some els ∧ xwalk (path.map rawOf).reverse [] = some els := by
  have hparse := parseSteps_path known path hp ((pathToks path).length + 1)
    (Nat.lt_succ_of_le (pathToks_length path))
  -- the reversed walk succeeds because the last step has a class
  obtain ⟨init, last, c, he, hc⟩ := pathOK_last known path hp
  obtain ⟨els, hels⟩ : ∃ els, xwalk (path.map rawOf).reverse [] = some els := by
    rw [he, List.map_append, List.reverse_append, List.map_singleton, rawOf_cls last c hc, List.reverse_singleton,
      List.singleton_append]
    exact xwalk_some (init.map rawOf).reverse [_] (List.cons_ne_nil _ _)
  refine ⟨els, ?_, hels⟩
  rw [parseXPath_render known path tws (pathOK_ne_nil known path hp) ht hs, hparse]
  exact hels

/-- **white space between tokens never changes the meaning** of an xpath -/
theorem xpath_ws_irrelevant (known : Str → Bool) (path : List XStep) (tws tws' : List (XTok × Str))
    (hp : PathOK known path) (ht : tws.map (·.1) = pathToks path) (ht' : tws'.map (·.1) = pathToks path)
    (hs : SpacedOK tws) (hs' : SpacedOK tws') :
    parseXPath known (renderToks tws) = parseXPath known (renderToks tws') := by
  have hne := pathOK_ne_nil known path hp
  rw [parseXPath_render known path tws hne ht hs, parseXPath_render known path tws' hne ht' hs']

theorem parseXPath_rel (known : Str → Bool) (text : Str) (h : ∀ r, text ≠ '/' :: r) :
    parseXPath known text = parseXPath known ('/' :: '/' :: text) := by
  have hx : xprefix text = '/' :: '/' :: text := by
    unfold xprefix
    split
    · exact absurd rfl (h _)
    · rfl
  rw [parseXPath_eq, parseXPath_eq, hx]
  rfl

/-- **relative paths**: a derivation written without its leading "/" means the same as with "//" in front
(`ASTXpath.__init__`: "relative path is the same as absolute path starting with anywhere") -/
theorem xpath_relative (known : Str → Bool) (path : List XStep) (tws : List (XTok × Str))
    (hp : PathOK known path) (ht : XTok.slash :: tws.map (·.1) = pathToks path) (hs : SpacedOK tws)
    (hrel : ∀ r, renderToks tws ≠ '/' :: r) :
    ∃ els, parseXPath known (renderToks tws) = some els
      ∧ xwalk ((⟨none, none, none⟩ :: path).map rawOf).reverse [] = some els := by
  have hp' : PathOK known (⟨none, none, none⟩ :: path) := by
    cases path with
    | nil => cases hp
    | cons st p => exact ⟨fun c hc => (nomatch hc), hp⟩
  have ht' : ((XTok.slash, ([] : Str)) :: (XTok.slash, []) :: tws).map (·.1) = pathToks (⟨none, none, none⟩ :: path) := by
    rw [pathToks_cons, ← ht]; rfl
  have hs' : SpacedOK ((XTok.slash, ([] : Str)) :: (XTok.slash, []) :: tws) :=
    ⟨trivial, nofun, trivial, trivial, nofun, trivial, hs⟩
  obtain ⟨els, h1, h2⟩ := xpath_accepts_rendering known _ _ hp' ht' hs'
  exact ⟨els, by rw [parseXPath_rel known _ hrel]; exact h1, h2⟩

/-! non-vacuity: `/ @items [1 2] Leaf // Expr` with assorted white space -/
section Examples
def exKnown : Str → Bool := fun c => c == ['L'] || c == ['E']
def exPath : List XStep := [⟨some ['i'], some ['1', '2'], some ['L']⟩, ⟨none, none, none⟩, ⟨none, none, some ['E']⟩]
def exTws : List (XTok × Str) :=
  [(.slash, [' ']), (.at, []), (.cname ['i'], ['\t']), (.lsqb, []), (.digit '1', [' ']), (.digit '2', []), (.rsqb, []),
   (.cname ['L'], ['\n']), (.slash, []), (.slash, []), (.cname ['E'], [' ', ' '])]
theorem exPath_ok : PathOK exKnown exPath :=
  ⟨fun c hc => by cases hc; rfl, fun c hc => (nomatch hc), ⟨_, rfl⟩, fun c hc => by cases hc; rfl⟩
theorem exTws_spaced : SpacedOK exTws := by
  refine ⟨trivial, by decide, trivial, trivial, by decide, trivial, validName_single 'i' rfl, by decide, Or.inl (by decide),
    trivial, by decide, trivial, (rfl : isDigitC '1' = true), by decide, trivial, (rfl : isDigitC '2' = true), by decide, trivial,
    trivial, by decide, trivial, validName_single 'L' rfl, by decide, Or.inl (by decide), trivial, by decide, trivial,
    trivial, by decide, trivial, validName_single 'E' rfl, by decide, Or.inl (by decide), trivial⟩
theorem exTws_toks : exTws.map (·.1) = pathToks exPath := rfl
example : PathOK exKnown exPath := exPath_ok
example : SpacedOK exTws := exTws_spaced
example : exTws.map (·.1) = pathToks exPath := exTws_toks
example : parseXPath exKnown (renderToks exTws) =
    some [⟨['E'], none, none, true⟩, ⟨['L'], some ['i'], some 12, false⟩] := by decide +kernel
end Examples

end C17
end PyOak
