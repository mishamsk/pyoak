/-
C12 — Child and property accessors return exactly what the class definition dictates.

Model: `Model/Accessors.lean` (dataclass field resolution, `process_node_fields`, the four generated
accessor bodies as an IR with a sorted and an unsorted branch, the static `get_property_fields`,
`children`, `to_properties_dict`, the per-class installation of the generated functions).
Specification: `Spec/Accessors.lean`.

Everything is proved for **every** class description (any number of levels, any overrides), every
instance and every flag vector; only `children_complete` needs the instance to be well typed.

  helper files   C12Order  — Python's `str` order is a strict total order; `sorted(key=name)` is a
                             sorted permutation, unique for pairwise distinct names
                 C12Fields — `fields(cls)` = declaration order of the chain (`fields_eq_declOrder`,
                             `fields_names_nodup`); `process_node_fields` = partition by kind
                 C12Acc    — accessor = specification (`get_child_nodes_with_field_eq_spec`,
                             `get_child_nodes_eq_spec`, `children_eq_spec`, `iter_child_fields_eq_spec`,
                             `get_child_fields_eq_spec`, `get_properties_eq_spec`,
                             `get_property_fields_eq_spec`, `static_agrees_with_instance`)
                 C12Sorted — `ordered_isNameOrder`, `nameOrder_unique`, `get_properties_sorted`,
                             `get_properties_sorted_fields`, `child_nodes_sorted_perm`,
                             `to_properties_dict_eq_spec`
                 C12Pos    — `with_field_mem` (sound + complete positions), `children_complete`,
                             `with_field_truthiness_irrelevant`, `child_uids_truthiness_irrelevant`
  this file      `call_runs_own_function` (the slot machine `World`: one accessor, class indices only), the
                 `…_fails` witnesses for the mechanism (`without_repointing_fails`, `marker_sharing_fails`) and
                 for the two repaired defects (`F12_pre_fix_fails`, `F17_pre_fix_fails`), examples.
  on top of it   C12Extra (stable sort), C12MI (multiple inheritance), C12FirstUse (first-use independence
                 of the RESULTS, on `World` with class table, generated code and memo)
-/
import PyOak.Props.C12Pos
namespace PyOak
namespace Acc
namespace C12

/-! ## first use: every class runs the function generated from its own fields -/

/-- a per-class table (the slots of one accessor, a memo dict) -/
def OwnEntries {α : Type} (init : α) (own : Nat → α) (l : List α) : Prop :=
  ∀ k, k < l.length → l[k]? = some init ∨ l[k]? = some (own k)

theorem OwnEntries.nil {α : Type} {init : α} {own : Nat → α} : OwnEntries init own [] :=
  fun _ h => absurd h (Nat.not_lt_zero _)

theorem OwnEntries.snoc {α : Type} {init : α} {own own' : Nat → α} {l : List α} (h : OwnEntries init own l)
    (ho : ∀ k, k < l.length → own' k = own k) : OwnEntries init own' (l ++ [init]) := by
  intro k hk
  rw [List.length_append, List.length_singleton] at hk
  by_cases hlt : k < l.length
  · rw [List.getElem?_append_left hlt, ho k hlt]; exact h k hlt
  · have : k = l.length := by omega
    subst this; left; simp

theorem OwnEntries.set {α : Type} {init : α} {own : Nat → α} {l : List α} (h : OwnEntries init own l) (k : Nat) :
    OwnEntries init own (l.set k (own k)) := by
  intro j hj
  rw [List.length_set] at hj
  by_cases hjk : k = j
  · subst hjk; right; rw [List.getElem?_set_self hj]
  · rw [List.getElem?_set_ne hjk]; exact h j hj

/-- every class has its own entry: the stub or the function generated for *that* class -/
def World.Good (w : World) : Prop :=
  w.slots.length = w.mros.length ∧ OwnEntries (some .stub) (fun k => some (.gen k)) w.slots

/-- the worlds a program can reach: class definitions (any MRO: single or multiple inheritance,
with or without own fields) and accessor calls in any order -/
inductive Reach : World → Prop
  | init : Reach ⟨[], []⟩
  | define (w : World) (mro : List Nat) : Reach w → Reach (w.defineClass mro)
  | call (w : World) (k : Nat) : Reach w → k < w.mros.length → Reach (w.call k).2

theorem World.lookup_own {w : World} {k : Nat} {s : Slot} (h : w.slots[k]? = some (some s)) :
    w.lookup k = s := by
  simp [World.lookup, h]

theorem lookup_good {w : World} (h : World.Good w) {k : Nat} (hk : k < w.mros.length) :
    w.lookup k = .stub ∨ w.lookup k = .gen k :=
  (h.2 k (h.1 ▸ hk)).imp World.lookup_own World.lookup_own

theorem call_snd_slots (w : World) (k : Nat) :
    (w.call k).2 = w ∨ (w.call k).2 = ⟨w.mros, w.slots.set k (some (.gen k))⟩ := by
  unfold World.call
  split <;> simp

theorem good_of_reach {w : World} (h : Reach w) : World.Good w := by
  induction h with
  | init => exact ⟨rfl, .nil⟩
  | define w p _ ih => exact ⟨by simp [World.defineClass, ih.1], ih.2.snoc fun _ _ => rfl⟩
  | call w k _ hk ih =>
    rcases call_snd_slots w k with e | e <;> rw [e]
    · exact ih
    · exact ⟨by simp [ih.1], ih.2.set k⟩

/-- after any sequence of class definitions (single or multiple inheritance) and accessor calls,
calling the accessor on an instance of class `k` runs the function generated for `k` itself (class
indices only; for the RESULTS see `first_use_independent`, C12FirstUse) -/
theorem call_runs_own_function {w : World} (h : Reach w) {k : Nat} (hk : k < w.mros.length) :
    (w.call k).1 = k := by
  have hg := good_of_reach h
  unfold World.call
  rcases lookup_good hg hk with e | e <;> simp [e]

/-- why `__init_subclass__` must re-point the accessors: without it a subclass defined after the
first use of its base runs the base's function (class 1 runs the function of class 0) -/
theorem without_repointing_fails :
    (((((World.mk [] []).defineClass []).call 0).2.defineClassNoRepoint [0]).call 1).1 = 0 := by
  decide

/-- … and why it must do so for **every** subclass, also one that declares no field of its own:
`class A`, `class B`, `A` used, `class C(A, B): pass` left without its own stubs → an instance of `C`
(class 2, whose fields are those of `B` and `A`) runs the function generated for `A` (class 0) -/
theorem marker_sharing_fails :
    ((((((World.mk [] []).defineClass []).defineClass []).call 0).2.defineClassNoRepoint [0, 1]).call 2).1 = 0 := by
  decide

/-! ## the two defects of the unrepaired tree, on the model of the unrepaired code -/

/-- F12: a field with `init=False, compare=False` was yielded under `skip_non_init=True` -/
theorem F12_pre_fix_fails :
    let d : FDecl := ⟨['q'], .prop, false, false, false⟩
    let fl : Flags := ⟨true, true, true, false, true⟩
    keeps fl d = false ∧ PStmt.run fl [] (buildPropPre d) = [(.none, d)] ∧ PStmt.run fl [] (buildProp d) = [] := by
  decide

/-- F17: the static variant dropped `id` under `skip_id=False, skip_non_compare=True` -/
theorem F17_pre_fix_fails :
    let fl : Flags := ⟨false, true, true, true, false⟩
    let idf : FDecl := ⟨nmId, .prop, false, false, false⟩
    keeps fl idf = true ∧ propertyFieldYieldedPre fl idf = false ∧ propertyFieldYielded fl idf = true := by
  decide

/-! ## non-vacuity: one concrete three-level hierarchy, evaluated -/

section Examples

private def s (x : String) : Str := x.toList
private def P (n : String) (cmp ini : Bool) : FDecl := ⟨n.toList, .prop, cmp, ini, false⟩

/-- class A(ASTNode): z: int; c: Kid; q = field(init=False, compare=False); t: tuple[Kid, ...]
    class B(A):       c: Kid | None (override, keeps its slot); a: str = field(compare=False)
    class C(B):       z: tuple[Kid, ...] (a property becomes a child field, keeps its slot); n = field(init=False) -/
private def cls : ClassDecl :=
  ⟨[ [P "z" true true, ⟨['c'], .childOne, true, true, false⟩, P "q" false false, ⟨['t'], .childTuple, true, true, false⟩],
     [⟨['c'], .childOne, true, true, true⟩, P "a" false true],
     [⟨['z'], .childTuple, true, true, false⟩, P "n" true false] ]⟩

private def inst : Inst :=
  [ (nmId, .prop 100), (nmContentId, .prop 101), (nmOrigin, .prop 102),
    (['z'], .tuple [⟨7, true⟩, ⟨8, false⟩]), (['c'], .none), (['q'], .prop 1),
    (['t'], .tuple []), (['a'], .prop 2), (['n'], .prop 3) ]

private def names (l : List FDecl) : List String := l.map fun d => String.ofList d.name

example : names cls.fields = ["id", "content_id", "origin", "z", "c", "q", "t", "a", "n"] := by decide +kernel
example : cls.fields = declOrder cls.allDecls := fields_eq_declOrder cls
example : (cls.fields.filter (·.name = ['c'])).map (·.kwOnly) = [true] := by decide +kernel  -- the override
example : names (getChildFields cls) = ["z", "c", "t"] := by decide +kernel
example : Conforms cls.fields inst := by decide +kernel
example : (getChildNodesWithField cls inst false).map (fun x => (x.1.uid, String.ofList x.2.1.name, x.2.2))
    = [(7, "z", some 0), (8, "z", some 1)] := by decide +kernel
example : (getChildNodesWithField cls ((['c'], FVal.node ⟨9, false⟩) :: inst) true).map
    (fun x => (x.1.uid, String.ofList x.2.1.name, x.2.2)) = [(9, "c", none), (7, "z", some 0), (8, "z", some 1)] := by
  decide +kernel
example : (children cls inst).map Nd.uid = [7, 8] := by decide +kernel
example : (iterChildFields cls inst true).map (fun x => (String.ofList x.2.name, x.1))
    = [("c", .none), ("t", .tuple []), ("z", .tuple [⟨7, true⟩, ⟨8, false⟩])] := by decide +kernel
example : names ((getProperties cls inst Flags.default false).map (·.2)) = ["q", "a", "n"] := by decide +kernel
example : names ((getProperties cls inst ⟨false, false, false, false, false⟩ true).map (·.2))
    = ["a", "content_id", "id", "n", "origin", "q"] := by decide +kernel
example : names ((getProperties cls inst ⟨false, true, true, true, false⟩ false).map (·.2)) = ["id", "n"] := by decide +kernel
example : names ((getProperties cls inst ⟨true, true, true, false, true⟩ false).map (·.2)) = ["a"] := by decide +kernel
example : names (getPropertyFields cls ⟨false, true, true, true, false⟩) = ["id", "n"] := by decide +kernel
example : (toPropertiesDict cls inst).map (fun e => (String.ofList e.1, e.2))
    = [("q", .prop 1), ("a", .prop 2), ("n", .prop 3)] := by decide +kernel
example : IsNameOrder (ordered true cls.props) cls.props := ordered_isNameOrder _
example : (getChildNodes cls (Inst.retruth (fun _ => false) inst) false).map Nd.uid = [7, 8] := by decide +kernel
example : Reach ((((World.mk [] []).defineClass []).call 0).2.defineClass [0]) :=
  .define _ _ (.call _ 0 (.define _ _ .init) (by decide))
example : (((((World.mk [] []).defineClass []).call 0).2.defineClass [0]).call 1).1 = 1 := by decide
example : ((((((World.mk [] []).defineClass []).defineClass []).call 0).2.defineClass [0, 1]).call 2).1 = 2 := by decide

end Examples

end C12
end Acc
end PyOak
