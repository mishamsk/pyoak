/-
Bridge for `==`: the hand-written model `eqImpl` (Model/Equality.lean) is the definition GENERATED from `_eq_fn`
(src/pyoak/node.py), instantiated with class identity, the content id, the origin key and the pre-order stream of the
model.  Hence the C02 theorems (`eq_iff`, `eq_total`, …) are theorems about the source as it is now.
-/
import PyOak.Gen.KernelsEq
import PyOak.Model.Equality
namespace PyOak.GenBridge
open PyOak

/-- the descendants stream `node.dfs()` as nodes (`item.node`) -/
def dfsNodes (n : Node) : List Node := (dfsImpl (fun _ => false) (fun _ => true) false n).map (·.node)

theorem zipOrigins_eq_gen (xs ys : List Item) :
    zipOrigins xs ys =
      (match GenK.zipStrictFind (fun (a b : Node) => !(a.org.key == b.org.key)) (xs.map (·.node)) (ys.map (·.node)) with
        | .error u => .error u
        | .ok true => .ok false
        | .ok false => .ok true) := by
  induction xs generalizing ys with
  | nil => cases ys <;> rfl
  | cons x xs ih => cases ys with
    | nil => rfl
    | cons y ys =>
      simp only [zipOrigins, bne, List.map_cons, GenK.zipStrictFind, ih ys]
      cases x.node.org.key == y.node.org.key <;> rfl

/-- `a == b` of the model is what `_eq_fn` says -/
theorem eqImpl_eq_gen (H : Str → Str) (a b : Node) :
    eqImpl H a b = GenK.eq_fn (fun x y => x.cls == y.cls) (cid H) (fun n => n.org.key) dfsNodes a b := by
  simp only [eqImpl, eqCore, GenK.eq_fn, dfsNodes, zipOrigins_eq_gen, BEq.comm (a := b.cls)]
  rfl

end PyOak.GenBridge
