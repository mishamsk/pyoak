/-
C09 — `transform` against the INDEPENDENT rewrite specification `Rw` (Spec/Rewrite.lean).

`T_strip` / `transform_strip`: for every visitor and every tree, the result of the model's
`transform` with all identities erased is the result of the pure bottom-up rewrite `Rw` with all
identities erased; errors coincide as well.  Hypotheses:
* `uidsLt c n` — the counter is fresh (every identity of the input is `< c`);
* `Coh v n` — "an identity has one value": when a method called for a visited child `x` returns a
  node `k` with `k.uid = x.uid` (the model reads this as `k is x`), then `k` and `x` are the same
  value up to identities.
Both are necessary: `T_strip_needs_coh`, `T_strip_needs_fresh` (concrete witnesses).  Neither can be
violated by real objects (an object has one value; a new object's identity differs from all live
ones).  Also `transform_strip'`, `transform_strip_noReplace`, `Rw_err`.
-/
import PyOak.Props.C09
import PyOak.Spec.Rewrite
namespace PyOak
namespace C09

theorem stripNodes_append (a b : List Node) : stripNodes (a ++ b) = stripNodes a ++ stripNodes b := by
  induction a with
  | nil => simp [stripNodes]
  | cons x r ih => simp [stripNodes, ih]

theorem stripNodes_toList (o : Option Node) : stripNodes o.toList = (o.map strip).toList := by
  cases o <;> simp [stripNodes]

theorem stripNodes_eq_map (ns : List Node) : stripNodes ns = ns.map strip := by
  induction ns with
  | nil => rfl
  | cons x r ih => simp [stripNodes, ih]

theorem hasInitProp_eq (name : Str) (ps : List PropV) :
    hasInitProp name ps = ps.any (fun q => q.name == name && q.init) := by
  induction ps with
  | nil => rfl
  | cons q r ih => simp [hasInitProp, ih]

theorem putProp_eq (p : PropV) (ps : List PropV) :
    putProp p ps = ps.map fun q =>
      if q.name == p.name then { p with compare := q.compare, init := q.init } else q := by
  induction ps with
  | nil => rfl
  | cons q r ih => simp [putProp, ih]

/-- the model's `setProp` is `withProp` on the head plus a fresh identity -/
theorem setProp_eq_withProp (h : Head) (ks : List Kid) (p : PropV) (u : Nat) :
    setProp (.mk h ks) p u = (withProp h p).map fun h' => .mk { h' with uid := u } ks := by
  rw [setProp, withProp, hasInitProp_eq, putProp_eq, Node.hd_mk]
  cases h.props.any fun q => q.name == p.name && q.init <;> rfl

theorem withProp_uid (h : Head) (p : PropV) (u : Nat) :
    withProp { h with uid := u } p = (withProp h p).map fun h' => { h' with uid := u } := by
  simp only [withProp]
  split <;> simp

/-- if the method called for `x` returns a node with the identity of `x`, it has the value of `x` -/
def SelfOK (v : Visitor) (x : Node) : Prop :=
  ∀ k, v.action x.hd = .replaceBy k → k.uid = x.uid → strip k = strip x

theorem selfOK_of_no_replace {v : Visitor} {x : Node} (h : ∀ k, v.action x.hd ≠ .replaceBy k) :
    SelfOK v x :=
  fun k e _ => absurd e (h k)

mutual
/-- `SelfOK` for every child that the transformation visits (children of nodes whose method calls
`generic_visit`); nothing is required of the root and of nodes that are never visited -/
def Coh (v : Visitor) : Node → Prop
  | .mk h ks => match v.action h with
    | .generic => CohKids v ks
    | .rewriteProp _ => CohKids v ks
    | _ => True
termination_by structural n => n
def CohKids (v : Visitor) : List Kid → Prop
  | [] => True
  | k :: r => CohKid v k ∧ CohKids v r
termination_by structural ks => ks
def CohKid (v : Visitor) : Kid → Prop
  | .mk _ _ ns => CohNodes v ns
termination_by structural k => k
def CohNodes (v : Visitor) : List Node → Prop
  | [] => True
  | x :: r => SelfOK v x ∧ Coh v x ∧ CohNodes v r
termination_by structural ns => ns
end

mutual
theorem coh_of_all (v : Visitor) : ∀ n : Node, (∀ x ∈ subs n, SelfOK v x) → Coh v n
  | .mk h ks, hs => by
    unfold Coh
    have : CohKids v ks := cohKids_of_all v ks (fun x hx => hs x (by simp [subs, hx]))
    split <;> first | exact this | trivial
termination_by structural n => n
theorem cohKids_of_all (v : Visitor) : ∀ ks : List Kid, (∀ x ∈ subsKids ks, SelfOK v x) → CohKids v ks
  | [], _ => by simp [CohKids]
  | k :: r, hs => by
    unfold CohKids
    exact ⟨cohKid_of_all v k (fun x hx => hs x (by simp [subsKids, hx])),
      cohKids_of_all v r (fun x hx => hs x (by simp [subsKids, hx]))⟩
termination_by structural ks => ks
theorem cohKid_of_all (v : Visitor) : ∀ k : Kid, (∀ x ∈ subsKid k, SelfOK v x) → CohKid v k
  | .mk _ _ ns, hs => by
    unfold CohKid
    exact cohNodes_of_all v ns (fun x hx => hs x (by simpa [subsKid] using hx))
termination_by structural k => k
theorem cohNodes_of_all (v : Visitor) : ∀ ns : List Node, (∀ x ∈ subsNodes ns, SelfOK v x) → CohNodes v ns
  | [], _ => by simp [CohNodes]
  | x :: r, hs => by
    unfold CohNodes
    refine ⟨hs x (by simp [subsNodes, self_mem_subs]),
      coh_of_all v x (fun y hy => hs y (by simp [subsNodes, hy])),
      cohNodes_of_all v r (fun y hy => hs y (by simp [subsNodes, hy]))⟩
termination_by structural ns => ns
end

/-- The invariant of `sim_T`: what is flagged unchanged has the old value, up to identities for
nodes (a `replaceBy` may return a copy), literally for fields. -/
def RelN (v : Visitor) (n : Node) : VRes → Except Err (Option Node) → Prop
  | .error e, .error e' => e = e'
  | .ok (r, _), .ok r' =>
    r.map strip = r'.map strip ∧ (SelfOK v n → sameObj r n = true → r.map strip = some (strip n))
  | _, _ => False

def RelKs (ks : List Kid) : Except Err (List Kid × Bool × Nat) → Except Err (List Kid) → Prop
  | .error e, .error e' => e = e'
  | .ok (ks', chg, _), .ok ks'' => stripKids ks' = stripKids ks'' ∧ (chg = false → ks' = ks)
  | _, _ => False

def RelK (k : Kid) : Except Err (Kid × Bool × Nat) → Except Err Kid → Prop
  | .error e, .error e' => e = e'
  | .ok (k', chg, _), .ok k'' => stripKid k' = stripKid k'' ∧ (chg = false → k' = k)
  | _, _ => False

def RelNs (ns : List Node) : Except Err (List Node × Bool × Nat) → Except Err (List Node) → Prop
  | .error e, .error e' => e = e'
  | .ok (out, chg, _), .ok out' =>
    stripNodes out = stripNodes out' ∧ (chg = false → stripNodes out = stripNodes ns)
  | _, _ => False

theorem TKids_mono (v : Visitor) (ks : List Kid) (c : Nat) (ks' : List Kid) (chg : Bool) (c' : Nat)
    (h : TKids v ks c = .ok (ks', chg, c')) : c ≤ c' := (frame_TKids v ks c ks' chg c' h).1
theorem TKid_mono (v : Visitor) (k : Kid) (c : Nat) (k' : Kid) (chg : Bool) (c' : Nat)
    (h : TKid v k c = .ok (k', chg, c')) : c ≤ c' := (frame_TKid v k c k' chg c' h).1

mutual
theorem sim_T (v : Visitor) : ∀ (n : Node) (c : Nat), uidsLt c n = true → Coh v n →
    RelN v n (T v n c) (Rw v.action n)
  | .mk h ks, c, hu, hc => by
    rw [uidsLt_mk] at hu
    rw [Coh] at hc
    -- a node created by this call is never taken for the old one
    have nf : ∀ {n' : Node}, c ≤ n'.uid → sameObj (some n') (.mk h ks) = true → False :=
      fun hle hso => Bool.noConfusion ((sameObj_fresh (Nat.lt_of_lt_of_le hu.1 hle)).symm.trans hso)
    rw [T, Rw]
    cases ha : v.action h <;> simp only [ha] at hc ⊢
    -- generic
    · match hk : TKids v ks c, RwKids v.action ks, sim_TKids v ks c hu.2 hc with
      | .error _, .error _, ih => exact ih
      | .error _, .ok _, ih | .ok _, .error _, ih => exact ih.elim
      | .ok (ks', chg, c1), .ok ks'', ih =>
        have hm := TKids_mono v ks c ks' chg c1 hk
        cases chg with
        | true => exact ⟨congrArg (fun x => some (Node.mk { h with uid := 0 } x)) ih.1, fun _ hso => (nf (n' := .mk { h with uid := c1 } ks') hm hso).elim⟩
        | false =>
          cases ih.2 rfl
          exact ⟨congrArg (fun x => some (Node.mk { h with uid := 0 } x)) ih.1, fun _ _ => rfl⟩
    -- keep
    · exact ⟨rfl, fun _ _ => rfl⟩
    -- rewriteProp
    · rename_i p
      match hk : TKids v ks c, RwKids v.action ks, sim_TKids v ks c hu.2 hc with
      | .error _, .error _, ih => exact ih
      | .error _, .ok _, ih | .ok _, .error _, ih => exact ih.elim
      | .ok (ks', chg, c1), .ok ks'', ih =>
        have hm := TKids_mono v ks c ks' chg c1 hk
        cases chg with
        | true =>
          simp only [rebuilt, finishRewrite, setProp_eq_withProp, withProp_uid, if_true]
          cases withProp h p with
          | none => rfl
          | some h' =>
            exact ⟨congrArg (fun x => some (Node.mk { h' with uid := 0 } x)) ih.1, fun _ hso =>
              (nf (n' := .mk { h' with uid := c1 + 1 } ks') (Nat.le_succ_of_le hm) hso).elim⟩
        | false =>
          cases ih.2 rfl
          simp only [rebuilt, finishRewrite, setProp_eq_withProp, Bool.false_eq_true, if_false]
          cases withProp h p with
          | none => rfl
          | some h' =>
            exact ⟨congrArg (fun x => some (Node.mk { h' with uid := 0 } x)) ih.1, fun _ hso =>
              (nf (n' := .mk { h' with uid := c1 } ks) hm hso).elim⟩
    -- replaceBy, remove, raise
    · exact ⟨rfl, fun hs hso => congrArg some (hs _ ha (beq_iff_eq.mp hso))⟩
    · exact ⟨rfl, fun _ hso => Bool.noConfusion hso⟩
    · rfl
termination_by structural n => n
theorem sim_TKids (v : Visitor) : ∀ (ks : List Kid) (c : Nat), uidsLtKids c ks = true → CohKids v ks →
    RelKs ks (TKids v ks c) (RwKids v.action ks)
  | [], c, _, _ => ⟨rfl, fun _ => rfl⟩
  | k :: r, c, hu, hc => by
    rw [uidsLtKids, Bool.and_eq_true] at hu
    rw [CohKids] at hc
    rw [TKids, RwKids]
    match hk : TKid v k c, RwKid v.action k, sim_TKid v k c hu.1 hc.1 with
    | .error _, .error _, ih => exact ih
    | .error _, .ok _, ih | .ok _, .error _, ih => exact ih.elim
    | .ok (k', chg1, c1), .ok k'', ih1 =>
      have hm := TKid_mono v k c k' chg1 c1 hk
      dsimp only
      match TKids v r c1, RwKids v.action r, sim_TKids v r c1 (uidsLtKids_mono hm r hu.2) hc.2 with
      | .error _, .error _, ih => exact ih
      | .error _, .ok _, ih | .ok _, .error _, ih => exact ih.elim
      | .ok (r', chg2, c2), .ok r'', ih2 =>
        exact ⟨by rw [stripKids, stripKids, ih1.1, ih2.1], fun hcg => by
          rw [Bool.or_eq_false_iff] at hcg; rw [ih1.2 hcg.1, ih2.2 hcg.2]⟩
termination_by structural ks => ks
theorem sim_TKid (v : Visitor) : ∀ (k : Kid) (c : Nat), uidsLtKid c k = true → CohKid v k →
    RelK k (TKid v k c) (RwKid v.action k)
  | .mk name coll ns, c, hu, hc => by
    rw [TKid, RwKid]
    match TNodes v ns c, RwNodes v.action ns, sim_TNodes v ns c hu hc with
    | .error _, .error _, ih => exact ih
    | .error _, .ok _, ih | .ok _, .error _, ih => exact ih.elim
    | .ok (out, true, c1), .ok out', ih => exact ⟨congrArg (Kid.mk name coll) ih.1, fun h => Bool.noConfusion h⟩
    | .ok (out, false, c1), .ok out', ih =>
      exact ⟨congrArg (Kid.mk name coll) ((ih.2 rfl).symm.trans ih.1), fun _ => rfl⟩
termination_by structural k => k
theorem sim_TNodes (v : Visitor) : ∀ (ns : List Node) (c : Nat), uidsLtNodes c ns = true → CohNodes v ns →
    RelNs ns (TNodes v ns c) (RwNodes v.action ns)
  | [], c, _, _ => ⟨rfl, fun _ => rfl⟩
  | x :: r, c, hu, hc => by
    rw [uidsLtNodes, Bool.and_eq_true] at hu
    rw [CohNodes] at hc
    rw [TNodes, RwNodes]
    match hx : T v x c, Rw v.action x, sim_T v x c hu.1 hc.2.1 with
    | .error _, .error _, ih => exact ih
    | .error _, .ok _, ih | .ok _, .error _, ih => exact ih.elim
    | .ok (rx, c1), .ok rx', ih1 =>
      have hm := counter_mono v x c c1 rx hx
      dsimp only
      match TNodes v r c1, RwNodes v.action r, sim_TNodes v r c1 (uidsLtNodes_mono hm r hu.2) hc.2.2 with
      | .error _, .error _, ih => exact ih
      | .error _, .ok _, ih | .ok _, .error _, ih => exact ih.elim
      | .ok (out, chg2, c2), .ok out', ih2 =>
        refine ⟨by rw [stripNodes_append, stripNodes_append, stripNodes_toList, stripNodes_toList, ih1.1, ih2.1],
          fun hcg => ?_⟩
        rw [Bool.or_eq_false_iff, Bool.not_eq_false'] at hcg
        rw [stripNodes_append, stripNodes_toList, ih1.2 hc.1 hcg.1, ih2.2 hcg.2]
        rfl
termination_by structural ns => ns
end

theorem relN_map (v : Visitor) (n : Node) (a : VRes) (b : Except Err (Option Node)) (h : RelN v n a b) :
    a.map (fun p => p.1.map strip) = b.map (fun r => r.map strip) := by
  match a, b, h with
  | .error _, .error _, h => cases h; rfl
  | .error _, .ok _, h | .ok _, .error _, h => exact h.elim
  | .ok (r, _), .ok r', h => exact congrArg Except.ok h.1

/-- **T_strip**: for every visitor (rule set, strict or not) and every tree, the result of the
bottom-up rewrite with counter / changed flag / identity test (`T`), identities erased, is the result
of the pure rewrite `Rw`, identities erased — and `T` fails exactly when `Rw` does, with the same
error. -/
theorem T_strip (v : Visitor) (n : Node) (c : Nat) (hu : uidsLt c n = true) (hc : Coh v n) :
    (T v n c).map (fun p => p.1.map strip) = (Rw v.action n).map (fun r => r.map strip) :=
  relN_map v n _ _ (sim_T v n c hu hc)

/-- **transform_strip**: the same for the implementation-shaped model (flat loop, dict, fuel) -/
theorem transform_strip (v : Visitor) (n : Node) (c : Nat) (hw : wf n = true) (hu : uidsLt c n = true)
    (hc : Coh v n) :
    (transform v n c).map (fun p => p.1.map strip) = (Rw v.action n).map (fun r => r.map strip) := by
  rw [transform_eq_spec v n c hw]; exact T_strip v n c hu hc

theorem transform_strip' (v : Visitor) (n : Node) (c : Nat) (hw : wf n = true) (hu : uidsLt c n = true)
    (hc : ∀ x ∈ subs n, ∀ k, v.action x.hd = .replaceBy k → k.uid = x.uid → strip k = strip x) :
    (transform v n c).map (fun p => p.1.map strip) = (Rw v.action n).map (fun r => r.map strip) :=
  transform_strip v n c hw hu (coh_of_all v n hc)

def noReplace (v : Visitor) : Prop := ∀ h k, v.action h ≠ .replaceBy k

theorem transform_strip_noReplace (v : Visitor) (n : Node) (c : Nat) (hw : wf n = true)
    (hu : uidsLt c n = true) (hn : noReplace v) :
    (transform v n c).map (fun p => p.1.map strip) = (Rw v.action n).map (fun r => r.map strip) :=
  transform_strip' v n c hw hu (fun x _ => selfOK_of_no_replace (hn x.hd))

/-! ### `Rw` itself: what the specification says, directly -/

mutual
/-- the only error of `Rw` is the visitor's own raise -/
theorem Rw_err (act : Head → Act) : ∀ (n : Node) (e : Err), Rw act n = .error e → e = .raised
  | .mk h ks, e, hr => by
    unfold Rw at hr
    split at hr
    · simp at hr                       -- keep
    · simp at hr                       -- replaceBy
    · simp at hr                       -- remove
    · simp at hr; exact hr.symm        -- raise
    · split at hr                      -- generic
      · rename_i e' hk; simp at hr; subst hr; exact RwKids_err act ks _ hk
      · simp at hr
    · split at hr                      -- rewriteProp
      · rename_i e' hk; simp at hr; subst hr; exact RwKids_err act ks _ hk
      · split at hr
        · simp at hr
        · simp at hr; exact hr.symm
termination_by structural n => n
theorem RwKids_err (act : Head → Act) : ∀ (ks : List Kid) (e : Err), RwKids act ks = .error e → e = .raised
  | [], e, hr => by simp [RwKids] at hr
  | k :: r, e, hr => by
    unfold RwKids at hr
    split at hr
    · rename_i e' hk; simp at hr; subst hr; exact RwKid_err act k _ hk
    · split at hr
      · rename_i e' hk; simp at hr; subst hr; exact RwKids_err act r _ hk
      · simp at hr
termination_by structural ks => ks
theorem RwKid_err (act : Head → Act) : ∀ (k : Kid) (e : Err), RwKid act k = .error e → e = .raised
  | .mk name coll ns, e, hr => by
    unfold RwKid at hr
    split at hr
    · rename_i e' hk; simp at hr; subst hr; exact RwNodes_err act ns _ hk
    · simp at hr
termination_by structural k => k
theorem RwNodes_err (act : Head → Act) : ∀ (ns : List Node) (e : Err), RwNodes act ns = .error e → e = .raised
  | [], e, hr => by simp [RwNodes] at hr
  | x :: r, e, hr => by
    unfold RwNodes at hr
    split at hr
    · rename_i e' hk; simp at hr; subst hr; exact Rw_err act x _ hk
    · split at hr
      · rename_i e' hk; simp at hr; subst hr; exact RwNodes_err act r _ hk
      · simp at hr
termination_by structural ns => ns
end

theorem selfOK_generic {v : Visitor} {x : Node} (h : v.action x.hd = .generic) : SelfOK v x :=
  selfOK_of_no_replace fun k e => by rw [h] at e; cases e
theorem selfOK_self {v : Visitor} {x : Node} (h : v.action x.hd = .replaceBy x) : SelfOK v x :=
  fun k e _ => by rw [h] at e; cases e; rfl
theorem selfOK_other {v : Visitor} {x k : Node} (h : v.action x.hd = .replaceBy k) (hne : k.uid ≠ x.uid) :
    SelfOK v x :=
  fun k' e hu => by rw [h] at e; cases e; exact absurd hu hne
theorem selfOK_remove {v : Visitor} {x : Node} (h : v.action x.hd = .remove) : SelfOK v x :=
  selfOK_of_no_replace fun k e => by rw [h] at e; cases e

/-- removed tuple elements are dropped in order, by `Rw` -/
theorem Rw_nodes_removed (act : Head → Act) (x : Node) (r out : List Node)
    (hx : Rw act x = .ok none) (hr : RwNodes act r = .ok out) : RwNodes act (x :: r) = .ok out := by
  simp [RwNodes, hx, hr]

/-- a removed single child becomes `None`, by `Rw` -/
theorem Rw_single_removed (act : Head → Act) (f : Str) (x : Node) (hx : Rw act x = .ok none) :
    RwKid act (.mk f false [x]) = .ok (.mk f false []) := by
  simp [RwKid, RwNodes, hx]

/-! ### non-vacuity and necessity of the hypotheses -/
namespace Ex

/-- the value of property `v` of every child of the root -/
def kidVals (r : Except Err (Option Node)) : Option (List (List Int)) :=
  match r with
  | .ok (some n) => some ((childrenOf n).map fun x => x.hd.props.map fun p =>
      match p.canon with | .int i => i | _ => 0)
  | _ => none

/-- number of children of every child of the root -/
def kidCounts (r : Except Err (Option Node)) : Option (List Nat) :=
  match r with
  | .ok (some n) => some ((childrenOf n).map fun x => (childrenOf x).length)
  | _ => none

theorem subs_tree : subs tree = [tree, leaf 1, opt 2 [leaf2 3], leaf2 3, leaf 4] := rfl

theorem coh_tree {v : Visitor} (h0 : SelfOK v tree) (h1 : SelfOK v (leaf 1))
    (h2 : SelfOK v (opt 2 [leaf2 3])) (h3 : SelfOK v (leaf2 3)) (h4 : SelfOK v (leaf 4)) :
    Coh v tree := coh_of_all _ _ (by
  rw [subs_tree]; intro x hx
  simp only [List.mem_cons, List.not_mem_nil, or_false] at hx
  rcases hx with rfl | rfl | rfl | rfl | rfl <;> assumption)

-- `Coh` holds for: a replacement by a foreign node, by the node itself, removals
example : Coh (vExpr 1 (.replaceBy (leaf 7))) tree :=
  coh_tree (selfOK_generic rfl) (selfOK_other (k := leaf 7) rfl (by decide))
    (selfOK_generic rfl) (selfOK_generic rfl) (selfOK_generic rfl)
example : Coh (vExpr 1 (.replaceBy (leaf 1))) tree :=
  coh_tree (selfOK_generic rfl) (selfOK_self rfl) (selfOK_generic rfl) (selfOK_generic rfl)
    (selfOK_generic rfl)
theorem coh_vRemove3 : Coh (vRemove 3) tree :=
  coh_tree (selfOK_generic rfl) (selfOK_generic rfl) (selfOK_generic rfl) (selfOK_remove rfl)
    (selfOK_generic rfl)

-- the theorem applied: the removal in an optional single field, two ancestors rebuilt
example : (transform (vRemove 3) tree 10).map (fun p => p.1.map strip) =
    (Rw (vRemove 3).action tree).map (fun r => r.map strip) :=
  transform_strip _ _ _ wf_tree uidsLt_tree coh_vRemove3
-- … and what `Rw` says there: `Opt#2` has lost its child, the siblings are in place
example : kidCounts (Rw (vRemove 3).action tree) = some [0, 0, 0] := by decide
example : kidCounts (Rw (vRemove 1).action tree) = some [1, 0] := by decide
example : kidVals (Rw (vExpr 4 (.rewriteProp (pV 5))).action tree) = some [[0], [], [5]] := by decide

def kBad : Node := .mk (hd 1 sLeaf [sLeaf, sExpr, sAST, sObj] [pV 9]) []
/-- **`Coh` is necessary**: a method that returns, for `Leaf#1(v=0)`, the node `kBad` with the SAME
identity and another value.  The model (`k is child` by identity) sees no change and returns the
input tree; the rewrite puts `kBad` in.  Fresh counter, well-formed tree. -/
theorem T_strip_needs_coh :
    wf tree = true ∧ uidsLt 10 tree = true ∧
    ¬ ((T (vExpr 1 (.replaceBy kBad)) tree 10).map (fun p => p.1.map strip) =
       (Rw (vExpr 1 (.replaceBy kBad)).action tree).map (fun r => r.map strip)) := by
  refine ⟨wf_tree, uidsLt_tree, fun h => ?_⟩
  have h2 := congrArg kidVals h
  revert h2; decide +kernel
/-- the hypothesis that fails there is `SelfOK` of `Leaf#1` -/
example : ¬ SelfOK (vExpr 1 (.replaceBy kBad)) (leaf 1) := fun h => by
  have := congrArg (fun n => n.hd.props.map fun p => match p.canon with | .int i => i | _ => 0)
    (h kBad rfl rfl)
  revert this; decide

def treeBad : Node := tup 0 [opt 10 [leaf2 3]]
/-- **the fresh counter is necessary**: `Opt#10(c=Leaf2#3)` under the root, counter `10`: the rebuilt
`Opt` gets identity `10` — "the same object" as the child it replaces; the root sees no change and
returns the input tree, the rewrite has dropped `Leaf2#3`.  (No `replaceBy` at all: `Coh` holds.) -/
theorem T_strip_needs_fresh :
    wf treeBad = true ∧ uidsLt 10 treeBad = false ∧ uidsLt 11 treeBad = true ∧
    ¬ ((T (vRemove 3) treeBad 10).map (fun p => p.1.map strip) =
       (Rw (vRemove 3).action treeBad).map (fun r => r.map strip)) := by
  refine ⟨by decide +kernel, by decide +kernel, by decide +kernel, fun h => ?_⟩
  have h2 := congrArg kidCounts h
  revert h2; decide +kernel
example : Coh (vRemove 3) treeBad := coh_of_all _ _ (by
  have : subs treeBad = [treeBad, opt 10 [leaf2 3], leaf2 3] := rfl
  rw [this]; intro x hx
  simp only [List.mem_cons, List.not_mem_nil, or_false] at hx
  rcases hx with rfl | rfl | rfl
  · exact selfOK_generic rfl
  · exact selfOK_generic rfl
  · exact selfOK_remove rfl)
-- with a fresh counter the same tree is fine
example : kidCounts ((T (vRemove 3) treeBad 11).map (fun p => p.1.map strip)) = some [0] := by decide

end Ex

end C09
end PyOak
