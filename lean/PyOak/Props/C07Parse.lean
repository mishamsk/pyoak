/-
C07 / C17 — the text → elements step of the (new) xpath: `parseXPath`.

A *written path* is a non-empty list of steps (`Step`); it is rendered to tokens (`renderToks`)
and the tokens to characters with arbitrary white space between tokens and after the last one
(`renderChars`).  In the order of the file:
 `parseSteps_render` : the step parser reads the raw elements back;
 `xwalk_spec`        : the transformer's reversed walk yields `elemsOf` (a step is `anywhere`
                       iff a `//` precedes it, `[]` is "no index", a missing class is `ASTNode`,
                       all decimal digits of an index are significant);
 `xlex_render`       : the lexer reads the tokens back (white space is irrelevant, maximal
                       munch of names is harmless as soon as a name is separated from a
                       following name / digit by at least one white-space character);
 `parseXPath_render` / `parseXPath_render_rel` : the composition, for absolute and relative
                       texts.
-/
import PyOak.Model.XPath
import PyOak.Spec.Content
import PyOak.Lemmas.Framing
import PyOak.Props.C20
import PyOak.Props.C17
namespace PyOak
namespace C07P

open C20 (PStep digitsVal_natStr parseStepBody_render StepEnd pathOfRaw)

/-! ## abstract syntax of a written path -/

/-- one written step: preceded by `//` (`anywhere`) or by `/`, then optionally `@field`,
optionally `[]` (`some none`) / `[n]` (`some (some n)`, `n` in decimal), optionally a class -/
structure Step where
  anywhere : Bool
  field : Option Str
  idx : Option (Option Nat)
  cls : Option Str
  deriving DecidableEq, Repr

/-- a name the lexer reads as one `CNAME`: a letter or `_`, then letters, `_`, digits.
(Strictly stronger than `IdentLike`, which would allow a leading digit: see the example at the
end of the file.) -/
def CNameLike (s : Str) : Prop :=
  ∃ c r, s = c :: r ∧ isNameStart c = true ∧ ∀ x ∈ r, isNameChar x = true

instance (s : Str) : Decidable (CNameLike s) :=
  match s with
  | [] => isFalse (by rintro ⟨c, r, h, _⟩; cases h)
  | c :: r =>
    if h : isNameStart c = true ∧ ∀ x ∈ r, isNameChar x = true then isTrue ⟨c, r, rfl, h.1, h.2⟩
    else isFalse (by
      rintro ⟨c', r', h', h1, h2⟩
      cases h'
      exact h ⟨h1, h2⟩)

theorem CNameLike.identLike {s : Str} (h : CNameLike s) : IdentLike s := by
  obtain ⟨c, r, rfl, h1, h2⟩ := h
  refine ⟨by simp, ?_⟩
  intro x hx
  rcases List.mem_cons.mp hx with rfl | hx
  · exact C17.nameStart_nameChar x h1
  · exact h2 x hx

/-- a step that writes something after its slash(es) (an empty one would be read as half a `//`) -/
def Step.NonEmpty (s : Step) : Prop := s.field.isSome ∨ s.idx.isSome ∨ s.cls.isSome

instance (s : Step) : Decidable s.NonEmpty := by unfold Step.NonEmpty; infer_instance

/-- well-formed written path: non-empty, every step writes something, the last one has a class,
names are `CNAME`s, classes are node classes -/
structure PathOK (known : Str → Bool) (path : List Step) : Prop where
  ne : path ≠ []
  nonEmpty : ∀ s ∈ path, s.NonEmpty
  last : ∀ s, path.getLast? = some s → s.cls.isSome
  fields : ∀ s ∈ path, ∀ f, s.field = some f → CNameLike f
  classes : ∀ s ∈ path, ∀ c, s.cls = some c → CNameLike c ∧ known c = true

/-- the part after the slash(es), as a `PStep` of the shared token-level development -/
def Step.pstep (s : Step) : PStep := ⟨s.field, s.idx, s.cls⟩

/-- the empty element between the two slashes of `//` -/
def emptyP : PStep := ⟨none, none, none⟩

/-- the `element`s a step is made of: the empty one of a `//` if any, then the step itself -/
def Step.psteps (s : Step) : List PStep := (if s.anywhere then [emptyP] else []) ++ [s.pstep]

/-- tokens of a step: `/` (`//` if `anywhere`), then `@ field`, `[ digits ]`, class -/
def Step.toks (s : Step) : List XTok :=
  (if s.anywhere then [.slash, .slash] else [.slash]) ++ s.pstep.body

def renderToks (path : List Step) : List XTok := path.flatMap Step.toks

theorem Step.toks_eq (s : Step) : s.toks = s.psteps.flatMap PStep.toks := by
  cases h : s.anywhere <;> simp [Step.toks, Step.psteps, h, PStep.toks, emptyP, PStep.body]

theorem renderToks_eq (path : List Step) :
    renderToks path = (path.flatMap Step.psteps).flatMap PStep.toks := by
  simp only [renderToks, List.flatMap_assoc]
  congr 1
  funext s
  exact s.toks_eq

/-! ## token level: the step parser reads the raw elements back -/

/-- the transformer's `element` result for a written element (new default class `ASTNode`) -/
def rawOf (s : PStep) : RawEl :=
  match s.fld, s.idx, s.cls with
  | none, none, none => none
  | _, _, _ => some (s.fld, s.idx.getD none, s.cls.getD astNodeName)

theorem parseSteps_last (known : Str → Bool) (s : PStep) (hk : ∀ c, s.cls = some c → known c = true) (f : Nat) :
    parseSteps known (f + 1) s.toks = if s.cls.isSome then some [rawOf s] else none := by
  rw [PStep.toks, parseSteps, ← List.append_nil s.body, parseStepBody_render known s [] hk (Or.inl rfl)]
  rfl

theorem parseSteps_cons (known : Str → Bool) (s : PStep) (hk : ∀ c, s.cls = some c → known c = true)
    (r : List XTok) (f : Nat) :
    parseSteps known (f + 1) (s.toks ++ .slash :: r) = (parseSteps known f (.slash :: r)).map (rawOf s :: ·) := by
  rw [PStep.toks, List.cons_append, parseSteps, parseStepBody_render known s _ hk (Or.inr ⟨r, rfl⟩)]
  rfl

/-- token-level parse/render for the new parser, over `PStep`s -/
theorem parseSteps_psteps (known : Str → Bool) (steps : List PStep) (last : PStep) (c : Str)
    (hlast : last.cls = some c)
    (hk : ∀ s ∈ steps ++ [last], ∀ c, s.cls = some c → known c = true)
    (fuel : Nat) (hf : steps.length < fuel) :
    parseSteps known fuel (steps.flatMap PStep.toks ++ last.toks) =
      some (steps.map rawOf ++ [rawOf last]) := by
  obtain ⟨f, rfl⟩ : ∃ f, fuel = f + 1 := ⟨fuel - 1, by omega⟩
  induction steps generalizing f with
  | nil => rw [List.flatMap_nil, List.nil_append, parseSteps_last known last (hk last (by simp)), hlast]; rfl
  | cons s more ih =>
    obtain ⟨r, hr⟩ := C20.toks_head more last
    obtain ⟨f', rfl⟩ : ∃ f', f = f' + 1 := ⟨f - 1, by simp at hf; omega⟩
    rw [List.flatMap_cons, List.append_assoc, hr, parseSteps_cons known s (hk s (by simp)), ← hr,
      ih (fun t ht => hk t (List.mem_cons_of_mem _ ht)) f' (by simp at hf; omega)]
    rfl

/-- the raw elements of a written path, in text order -/
def rawsOf (path : List Step) : List RawEl := (path.flatMap Step.psteps).map rawOf

theorem getLast?_flatMap_psteps (path : List Step) (s : Step) (h : path.getLast? = some s) :
    ∃ init, path.flatMap Step.psteps = init ++ [s.pstep] := by
  obtain ⟨pre, rfl⟩ : ∃ pre, path = pre ++ [s] := by
    rcases Framing.eq_nil_or_snoc path with rfl | ⟨pre, b, rfl⟩
    · simp at h
    · simp at h; subst h; exact ⟨pre, rfl⟩
  refine ⟨pre.flatMap Step.psteps ++ (if s.anywhere then [emptyP] else []), ?_⟩
  simp [Step.psteps]

/-- the step parser applied to the tokens of a written path returns its raw elements -/
theorem parseSteps_render (known : Str → Bool) (path : List Step) (hp : PathOK known path)
    (fuel : Nat) (hf : (path.flatMap Step.psteps).length ≤ fuel) :
    parseSteps known fuel (renderToks path) = some (rawsOf path) := by
  obtain ⟨s, hs⟩ : ∃ s, path.getLast? = some s := by
    cases h : path.getLast? with
    | none => exact absurd (List.getLast?_eq_none_iff.mp h) hp.ne
    | some s => exact ⟨s, rfl⟩
  obtain ⟨init, hinit⟩ := getLast?_flatMap_psteps path s hs
  have hsmem : s ∈ path := List.mem_of_getLast? hs
  obtain ⟨c, hc⟩ := Option.isSome_iff_exists.mp (hp.last s hs)
  have hk : ∀ t ∈ init ++ [s.pstep], ∀ c, t.cls = some c → known c = true := by
    intro t ht c hc
    rw [← hinit] at ht
    simp only [List.mem_flatMap] at ht
    obtain ⟨st, hst, ht⟩ := ht
    simp only [Step.psteps, List.mem_append, List.mem_singleton] at ht
    rcases ht with ht | rfl
    · split at ht
      · simp only [List.mem_singleton] at ht; subst ht; cases hc
      · cases ht
    · exact (hp.classes st hst c hc).2
  have := parseSteps_psteps known init s.pstep c hc hk fuel (by
    rw [hinit] at hf; simp at hf; omega)
  rw [renderToks_eq, rawsOf, hinit]
  simpa using this

/-! ## the transformer's reversed walk -/

/-- the elements a written path denotes, in text order: class defaulting to `ASTNode`, `[]` = no
index, `anywhere` iff the step is preceded by `//` -/
def elemOf (s : Step) : XElem := ⟨s.cls.getD astNodeName, s.field, s.idx.getD none, s.anywhere⟩

def elemsOf (path : List Step) : List XElem := path.map elemOf

theorem rawOf_emptyP : rawOf emptyP = none := rfl

theorem rawOf_nonEmpty (s : Step) (h : s.NonEmpty) :
    rawOf s.pstep = some (s.field, s.idx.getD none, s.cls.getD astNodeName) := by
  obtain ⟨a, f, i, c⟩ := s
  rcases f with _ | f <;> rcases i with _ | i <;> rcases c with _ | c <;>
    first | rfl | (simp [Step.NonEmpty] at h)

/-- the documented reading (`pathOfRaw`: an element is `anywhere` iff an empty element precedes
it) of the raw elements of a written path is `elemsOf` -/
theorem pathOfRaw_rawsOf_false (path : List Step) (hne : ∀ s ∈ path, s.NonEmpty) :
    pathOfRaw (rawsOf path) false = elemsOf path := by
  induction path with
  | nil => simp [rawsOf, pathOfRaw, elemsOf]
  | cons s r ih =>
    have hs := rawOf_nonEmpty s (hne s (by simp))
    have hr := ih (fun t ht => hne t (by simp [ht]))
    simp only [rawsOf, List.flatMap_cons, List.map_append] at hr ⊢
    cases ha : s.anywhere
    · simp [Step.psteps, ha, hs, pathOfRaw, hr, elemsOf, elemOf]
    · simp [Step.psteps, ha, rawOf_emptyP, hs, pathOfRaw, hr, elemsOf, elemOf]

/-- the reversed walk on any raw list whose last element is a real one computes `pathOfRaw` -/
theorem xwalk_pathOfRaw (init : List RawEl) (r0 : Option Str × Option Nat × Str) :
    xwalk (init ++ [some r0]).reverse [] = some (pathOfRaw (init ++ [some r0]) false).reverse := by
  have h1 := C20.lwalk_agrees r0 init.reverse
  have h2 := C20.legacy_transformer_reads_path (init ++ [some r0])
  simp only [List.reverse_append, List.reverse_cons, List.reverse_nil, List.nil_append,
    List.cons_append] at h1 h2 ⊢
  rw [h1, ← h2, List.reverse_reverse]

/-- the transformer's reversed walk over the raw elements of a written path yields
`_elements_reversed = (elemsOf path).reverse` -/
theorem xwalk_spec (path : List Step) (hne : path ≠ []) (hall : ∀ s ∈ path, s.NonEmpty) :
    xwalk (rawsOf path).reverse [] = some (elemsOf path).reverse := by
  obtain ⟨s, hs⟩ : ∃ s, path.getLast? = some s := by
    cases h : path.getLast? with
    | none => exact absurd (List.getLast?_eq_none_iff.mp h) hne
    | some s => exact ⟨s, rfl⟩
  obtain ⟨init, hinit⟩ := getLast?_flatMap_psteps path s hs
  have hraw : rawsOf path = init.map rawOf ++ [some (s.field, s.idx.getD none, s.cls.getD astNodeName)] := by
    rw [rawsOf, hinit, List.map_append, List.map_singleton,
      rawOf_nonEmpty s (hall s (List.mem_of_getLast? hs))]
  have := xwalk_pathOfRaw (init.map rawOf) (s.field, s.idx.getD none, s.cls.getD astNodeName)
  rw [← hraw, pathOfRaw_rawsOf_false path hall] at this
  exact this

/-- "all index digits significant": `[12]` is index 12 -/
theorem digits_significant (n : Nat) : digitsVal (natStr n) = n := digitsVal_natStr n

/-! ## character level: rendering with white space, and the lexer -/

def tokChars : XTok → Str
  | .slash => ['/']
  | .at => ['@']
  | .lsqb => ['[']
  | .rsqb => [']']
  | .cname s => s
  | .digit c => [c]

/-- the tokens, each followed by the white-space string `ws i` (`i` = position of the token) -/
def renderChars : List XTok → (Nat → Str) → Str
  | [], _ => []
  | t :: r, ws => tokChars t ++ ws 0 ++ renderChars r (fun i => ws (i + 1))

/-- two adjacent tokens the lexer would fuse (maximal munch of `CNAME`) when nothing separates them -/
def fuses : XTok → XTok → Bool
  | .cname _, .cname _ => true
  | .cname _, .digit _ => true
  | _, _ => false

/-- the separators are white space, and non-empty between a name and a following name / digit -/
def SepOK : List XTok → (Nat → Str) → Prop
  | [], _ => True
  | [_], ws => ∀ c ∈ ws 0, isWS c = true
  | t :: u :: r, ws =>
    (∀ c ∈ ws 0, isWS c = true) ∧ (fuses t u = true → ws 0 ≠ []) ∧ SepOK (u :: r) (fun i => ws (i + 1))

instance decSepOK : ∀ (toks : List XTok) (ws : Nat → Str), Decidable (SepOK toks ws)
  | [], _ => isTrue trivial
  | [_], ws => inferInstanceAs (Decidable (∀ c ∈ ws 0, isWS c = true))
  | t :: u :: r, ws =>
    have := decSepOK (u :: r) (fun i => ws (i + 1))
    inferInstanceAs (Decidable ((∀ c ∈ ws 0, isWS c = true) ∧ (fuses t u = true → ws 0 ≠ []) ∧
      SepOK (u :: r) (fun i => ws (i + 1))))

/-- tokens the lexer can produce -/
def TokOK : XTok → Prop
  | .cname s => CNameLike s
  | .digit c => isDigitC c = true
  | _ => True

theorem sepOK_ws (t : XTok) (r : List XTok) (ws : Nat → Str) (hs : SepOK (t :: r) ws) :
    ∀ c ∈ ws 0, isWS c = true := by
  cases r with
  | nil => exact hs
  | cons u r' => exact hs.1

theorem sepOK_tail (t : XTok) (r : List XTok) (ws : Nat → Str) (hs : SepOK (t :: r) ws) :
    SepOK r (fun i => ws (i + 1)) := by
  cases r with
  | nil => trivial
  | cons u r' => exact hs.2.2

/-- the tokens paired with the white space that follows each: the rendering as C17 takes it -/
def spaced : List XTok → (Nat → Str) → List (XTok × Str)
  | [], _ => []
  | t :: r, ws => (t, ws 0) :: spaced r (fun i => ws (i + 1))

theorem renderChars_eq : ∀ (toks : List XTok) (ws : Nat → Str), renderChars toks ws = C17.renderToks (spaced toks ws)
  | [], _ => rfl
  | t :: r, ws => by
    rw [renderChars, spaced, C17.renderToks, List.append_assoc, renderChars_eq r]
    cases t <;> rfl

theorem spaced_fst : ∀ (toks : List XTok) (ws : Nat → Str), (spaced toks ws).map (·.1) = toks
  | [], _ => rfl
  | t :: r, _ => congrArg (t :: ·) (spaced_fst r _)

theorem spacedOK : ∀ (toks : List XTok) (ws : Nat → Str), (∀ t ∈ toks, TokOK t) → SepOK toks ws →
    C17.SpacedOK (spaced toks ws)
  | [], _, _, _ => trivial
  | t :: r, ws, hok, hs => by
    refine ⟨by have := hok t List.mem_cons_self; cases t <;> exact this, sepOK_ws _ _ _ hs, ?_,
      spacedOK r _ (fun u hu => hok u (List.mem_cons_of_mem _ hu)) (sepOK_tail _ _ _ hs)⟩
    cases t with
    | cname s =>
      -- where nothing separates the name from the next token, that token is neither a name nor a digit
      cases r with
      | nil => exact Or.inr rfl
      | cons u r' =>
        cases u with
        | cname s' => exact Or.inl (hs.2.1 rfl)
        | digit d => exact Or.inl (hs.2.1 rfl)
        | _ => exact Or.inr rfl
    | _ => trivial

/-- lexing the rendering gives the tokens back: white space between tokens (and after the
last one) is irrelevant, provided a name is separated from a following name or digit. -/
theorem xlex_render (toks : List XTok) (ws : Nat → Str) (hok : ∀ t ∈ toks, TokOK t)
    (hs : SepOK toks ws) (fuel : Nat) (hf : (renderChars toks ws).length ≤ fuel) :
    xlex fuel (renderChars toks ws) = some toks := by
  rw [renderChars_eq] at hf ⊢
  rw [C17.xlex_render_le _ (spacedOK toks ws hok hs) fuel hf, spaced_fst]

/-! ## the composition: `parseXPath` on the rendering of a written path -/

theorem isDigitC_of_isDigit {c : Char} (h : c.isDigit = true) : isDigitC c = true := by
  rw [C17.isDigitC_iff]
  simpa [Char.isDigit, UInt32.le_iff_toNat_le] using h

theorem body_tokOK (s : PStep) (hf : ∀ f, s.fld = some f → CNameLike f)
    (hc : ∀ c, s.cls = some c → CNameLike c) : ∀ t ∈ s.body, TokOK t := by
  obtain ⟨fld, idx, cls⟩ := s
  intro t ht
  simp only [PStep.body, List.mem_append] at ht
  rcases ht with (ht | ht) | ht
  · cases fld with
    | none => cases ht
    | some f =>
      simp only [List.mem_cons, List.not_mem_nil, or_false] at ht
      rcases ht with rfl | rfl
      · trivial
      · exact hf f rfl
  · rcases idx with _ | _ | n
    · cases ht
    · simp only [List.mem_cons, List.not_mem_nil, or_false] at ht
      rcases ht with rfl | rfl <;> trivial
    · simp only [List.mem_cons, List.mem_append, List.mem_map, List.not_mem_nil, or_false] at ht
      rcases ht with rfl | ⟨c, hc, rfl⟩ | rfl
      · trivial
      · exact isDigitC_of_isDigit (Framing.natStr_digit n c hc)
      · trivial
  · cases cls with
    | none => cases ht
    | some c =>
      simp only [List.mem_cons, List.not_mem_nil, or_false] at ht
      subst ht
      exact hc c rfl

theorem renderToks_tokOK (known : Str → Bool) (path : List Step) (hp : PathOK known path) :
    ∀ t ∈ renderToks path, TokOK t := by
  intro t ht
  simp only [renderToks, List.mem_flatMap] at ht
  obtain ⟨s, hs, ht⟩ := ht
  simp only [Step.toks, List.mem_append] at ht
  rcases ht with ht | ht
  · split at ht <;> simp at ht <;> subst ht <;> trivial
  · exact body_tokOK s.pstep (hp.fields s hs) (fun c hc => (hp.classes s hs c hc).1) t ht

theorem psteps_length_le (ps : List PStep) : ps.length ≤ (ps.flatMap PStep.toks).length := by
  induction ps with
  | nil => simp
  | cons s r ih =>
    simp only [List.flatMap_cons, List.length_append, List.length_cons, PStep.toks]
    omega

/-- **absolute paths.**  The text of a written path — its tokens with arbitrary white space
between them and at the end — is accepted by `ASTXpath(text)` and yields exactly the elements the
path denotes (`_elements_reversed`, self first). -/
theorem parseXPath_render (known : Str → Bool) (path : List Step) (hp : PathOK known path)
    (ws : Nat → Str) (hs : SepOK (renderToks path) ws) :
    parseXPath known (renderChars (renderToks path) ws) = some (elemsOf path).reverse := by
  obtain ⟨s, r, rfl⟩ : ∃ s r, path = s :: r := by
    cases path with
    | nil => exact absurd rfl hp.ne
    | cons s r => exact ⟨s, r, rfl⟩
  obtain ⟨tl, htl⟩ : ∃ tl, renderChars (renderToks (s :: r)) ws = '/' :: tl := by
    cases h : s.anywhere <;> simp [renderToks, Step.toks, h, renderChars, tokChars]
  have hlex := xlex_render (renderToks (s :: r)) ws (renderToks_tokOK known _ hp) hs
    ((renderChars (renderToks (s :: r)) ws).length + 1) (Nat.le_succ _)
  have hparse := parseSteps_render known (s :: r) hp ((renderToks (s :: r)).length + 1) (by
    rw [renderToks_eq]
    exact Nat.le_succ_of_le (psteps_length_le _))
  have hwalk := xwalk_spec (s :: r) hp.ne hp.nonEmpty
  unfold parseXPath
  rw [htl] at hlex ⊢
  simp only [hlex, hparse, hwalk]

/-! ### relative texts -/

/-- the tokens of a path written without its leading slash(es) -/
def renderRelToks : List Step → List XTok
  | [] => []
  | s :: r => s.pstep.body ++ renderToks r

/-- the path `ASTXpath.__init__` reads a relative text as: the first step is `anywhere` -/
def relPath : List Step → List Step
  | [] => []
  | s :: r => { s with anywhere := true } :: r

/-- the white-space function of `"//" ++ text` -/
def shiftWs (ws : Nat → Str) : Nat → Str
  | 0 => []
  | 1 => []
  | i + 2 => ws i

theorem sepOK_slash (toks : List XTok) (ws : Nat → Str) (h0 : ws 0 = [])
    (h : SepOK toks (fun i => ws (i + 1))) : SepOK (.slash :: toks) ws := by
  cases toks with
  | nil => simp [SepOK, h0]
  | cons u r => exact ⟨by simp [h0], by simp [fuses], h⟩

theorem pathOK_rel (known : Str → Bool) (s : Step) (r : List Step) (hp : PathOK known (s :: r)) :
    PathOK known (relPath (s :: r)) := by
  refine ⟨by simp [relPath], ?_, ?_, ?_, ?_⟩
  · intro t ht
    simp only [relPath, List.mem_cons] at ht
    rcases ht with rfl | ht
    · exact hp.nonEmpty s (by simp)
    · exact hp.nonEmpty t (by simp [ht])
  · intro t ht
    cases r with
    | nil =>
      simp only [relPath, List.getLast?_singleton, Option.some.injEq] at ht
      subst ht
      exact hp.last s rfl
    | cons u r' =>
      simp only [relPath, List.getLast?_cons_cons] at ht
      exact hp.last t (by simpa [List.getLast?_cons_cons] using ht)
  · intro t ht
    simp only [relPath, List.mem_cons] at ht
    rcases ht with rfl | ht
    · exact hp.fields s (by simp)
    · exact hp.fields t (by simp [ht])
  · intro t ht
    simp only [relPath, List.mem_cons] at ht
    rcases ht with rfl | ht
    · exact hp.classes s (by simp)
    · exact hp.classes t (by simp [ht])

theorem rel_not_slash (known : Str → Bool) (s : Step) (r : List Step) (hp : PathOK known (s :: r))
    (ws : Nat → Str) : ∀ tl, renderChars (renderRelToks (s :: r)) ws ≠ '/' :: tl := by
  intro tl h
  have hne := hp.nonEmpty s List.mem_cons_self
  obtain ⟨a, f, i, c⟩ := s
  -- the first character written is `@`, `[` or the first of the class name
  rcases f with _ | f
  · rcases i with _ | _ | n
    · rcases c with _ | c
      · simp [Step.NonEmpty] at hne
      · obtain ⟨x, y, rfl, hx, _⟩ := (hp.classes _ List.mem_cons_self c rfl).1
        obtain rfl : x = '/' := (List.cons.inj h).1
        exact absurd hx (by decide)
    · exact absurd (List.cons.inj h).1 (by decide)
    · exact absurd (List.cons.inj h).1 (by decide)
  · exact absurd (List.cons.inj h).1 (by decide)

/-- **relative paths.**  A text that does not start with a slash is read as the same path
with the first step `anywhere` (`__init__` prepends `//`). -/
theorem parseXPath_render_rel (known : Str → Bool) (path : List Step) (hp : PathOK known path)
    (ws : Nat → Str) (hs : SepOK (renderRelToks path) ws) :
    parseXPath known (renderChars (renderRelToks path) ws) = some (elemsOf (relPath path)).reverse := by
  obtain ⟨s, r, rfl⟩ : ∃ s r, path = s :: r := by
    cases path with
    | nil => exact absurd rfl hp.ne
    | cons s r => exact ⟨s, r, rfl⟩
  rw [C17.parseXPath_rel known _ (rel_not_slash known s r hp ws)]
  have htoks : renderToks (relPath (s :: r)) = .slash :: .slash :: renderRelToks (s :: r) := by
    simp [renderToks, relPath, Step.toks, renderRelToks, Step.pstep]
  have hchars : '/' :: '/' :: renderChars (renderRelToks (s :: r)) ws =
      renderChars (renderToks (relPath (s :: r))) (shiftWs ws) := by
    rw [htoks]
    simp [renderChars, tokChars, shiftWs]
  rw [hchars]
  apply parseXPath_render known _ (pathOK_rel known s r hp)
  rw [htoks]
  exact sepOK_slash _ _ rfl (sepOK_slash _ _ rfl hs)

/-! ## non-vacuity -/

private def known : Str → Bool := fun c => c == ['R'] || c == ['M'] || c == ['L']

/-- `/R//M/@x[12]L` -/
private def pth : List Step :=
  [⟨false, none, none, some ['R']⟩, ⟨true, none, none, some ['M']⟩,
   ⟨false, some ['x'], some (some 12), some ['L']⟩]

private def ws1 : Nat → Str := fun i => if i == 8 then [' '] else if i == 10 then ['\t', ' '] else []

private theorem pth_ok : PathOK known pth := by
  refine ⟨by decide, by decide, ?_, by decide, by decide⟩
  intro s hs
  simp [pth] at hs
  subst hs
  rfl

private theorem sep_ok : SepOK (renderToks pth) ws1 := by decide +kernel

-- the hypotheses of the main theorems are satisfiable: the theorems apply to this path
example : parseXPath known (renderChars (renderToks pth) ws1) = some (elemsOf pth).reverse :=
  parseXPath_render known pth pth_ok ws1 sep_ok
example : parseXPath known (renderChars (renderRelToks pth) (fun _ => [' '])) =
    some (elemsOf (relPath pth)).reverse :=
  parseXPath_render_rel known pth pth_ok _ (by decide)

example : SepOK (renderToks pth) ws1 := sep_ok
example : String.ofList (renderChars (renderToks pth) ws1) = "/R//M/@x[ 12\t ]L" := by decide +kernel
example : renderToks pth =
    [.slash, .cname ['R'], .slash, .slash, .cname ['M'], .slash, .at, .cname ['x'], .lsqb,
     .digit '1', .digit '2', .rsqb, .cname ['L']] := by decide +kernel
example : elemsOf pth = [⟨['R'], none, none, false⟩, ⟨['M'], none, none, true⟩,
    ⟨['L'], some ['x'], some 12, false⟩] := by decide
example : parseXPath known "/R//M/@x[ 12\t ]L".toList = some (elemsOf pth).reverse := by decide +kernel
-- relative: `M/@x[12]L` is `//M/@x[12]L`
example : String.ofList (renderChars (renderRelToks pth.tail) (fun _ => [])) = "M/@x[12]L" := by decide +kernel
example : parseXPath known "M/@x[12]L".toList = some (elemsOf (relPath pth.tail)).reverse := by decide +kernel
example : (elemsOf (relPath pth.tail)).map (·.anywhere) = [true, false] := by decide
-- `[]` is "no index", a missing class is `ASTNode`
example : parseXPath known "/[]/L".toList =
    some [⟨['L'], none, none, false⟩, ⟨astNodeName, none, none, false⟩] := by decide +kernel
-- the separator side condition is necessary: `@x L` without the blank fuses field and class
example : ¬ SepOK [.at, .cname ['x'], .cname ['L']] (fun _ => []) := by decide
example : xlex 10 (renderChars [.at, .cname ['x'], .cname ['L']] (fun _ => [])) =
    some [.at, .cname ['x', 'L']] := by decide
-- `IdentLike` alone is not enough for a name: a leading digit is lexed as a digit token
example : IdentLike ['1', 'a'] ∧ ¬ CNameLike ['1', 'a'] ∧
    xlex 10 (renderChars [.cname ['1', 'a']] (fun _ => [])) = some [.digit '1', .cname ['a']] := by
  refine ⟨⟨by decide, by decide⟩, by decide, by decide⟩
-- an empty step is not a step: `/R//L` written with an empty middle step reads as `//`
example : ¬ (⟨false, none, none, none⟩ : Step).NonEmpty := by decide
-- rejected texts
example : parseXPath known "/R/".toList = none ∧ parseXPath known "/@a".toList = none ∧
    parseXPath known "/Nope".toList = none ∧ parseXPath known "/R[1]".toList = none := by decide +kernel

end C07P
end PyOak

#print axioms PyOak.C07P.xlex_render
#print axioms PyOak.C07P.parseSteps_render
#print axioms PyOak.C07P.xwalk_spec
#print axioms PyOak.C07P.digits_significant
#print axioms PyOak.C07P.parseXPath_render
#print axioms PyOak.C07P.parseXPath_render_rel
