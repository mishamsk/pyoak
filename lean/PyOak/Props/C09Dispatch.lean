/-
C09 — dispatch in terms of the node's own class (`dispatch_own`), no fuel error / the only error is
the visitor's own raise (`T_err`, `transform_no_fuel`), and what the pure model can say about the
raise clause (`raise_propagates`, `raise_no_result`).
-/
import PyOak.Props.C09
import PyOak.Spec.Dispatch
namespace PyOak
namespace C09

theorem ownMro_iff (h : Head) : h.ownMro = true ↔ ∃ a t, h.mro = h.cls :: a :: t := by
  unfold Head.ownMro
  split
  · rename_i c a t hm
    constructor
    · intro hc; simp at hc; exact ⟨a, t, by rw [hm, hc]⟩
    · rintro ⟨a', t', e⟩; rw [hm] at e; simp at e; simp [e.1]
  · rename_i hno
    constructor
    · intro hc; cases hc
    · rintro ⟨a, t, e⟩; exact absurd e (hno _ _ _)

/-- **dispatch_own** — the full decision table of `visit()` / `accept`, stated for the node's OWN
class: under `ownMro` (the class is the head of its MRO) the method called is
* `visit_<cls>` when the visitor has it — strict or not;
* otherwise, non-strict: the method of the NEAREST proper base class (in MRO order, `object`
  excluded) that has one;
* otherwise none, i.e. `generic_visit`. -/
theorem dispatch_own (v : Visitor) (h : Head) (hm : h.ownMro = true) :
    v.method h = ownMethod v.strict v.getattr h.cls h.bases := by
  obtain ⟨a, t, e⟩ := (ownMro_iff h).mp hm
  unfold ownMethod Head.bases
  cases hs : v.strict with
  | true =>
    rw [dispatch_strict v h hs]
    cases v.getattr h.cls <;> simp
  | false =>
    rw [dispatch_eq_nearest v h hs, e]
    simp only [List.dropLast_cons_cons, List.tail_cons, nearest]
    cases v.getattr h.cls <;> simp

/-- the same, one level up: what `visitor.visit(node)` ends up doing -/
theorem action_own (v : Visitor) (h : Head) (hm : h.ownMro = true) :
    v.action h = match ownMethod v.strict v.getattr h.cls h.bases with
      | some r => r.act h.uid
      | none => .generic := by
  unfold Visitor.action; rw [dispatch_own v h hm]
  cases ownMethod v.strict v.getattr h.cls h.bases <;> rfl

theorem dispatch_own_has (v : Visitor) (h : Head) (hm : h.ownMro = true) (r : Rule)
    (hr : v.getattr h.cls = some r) : v.method h = some r := by
  rw [dispatch_own v h hm]; simp [ownMethod, hr]

theorem dispatch_own_strict_none (v : Visitor) (h : Head) (hm : h.ownMro = true)
    (hs : v.strict = true) (hr : v.getattr h.cls = none) : v.method h = none := by
  rw [dispatch_own v h hm]; simp [ownMethod, hr, hs]

theorem dispatch_own_base (v : Visitor) (h : Head) (hm : h.ownMro = true)
    (hs : v.strict = false) (hr : v.getattr h.cls = none) (r : Rule) :
    v.method h = some r ↔
      ∃ pre b post, h.bases = pre ++ b :: post ∧ v.getattr b = some r ∧ ∀ d ∈ pre, v.getattr d = none := by
  rw [dispatch_own v h hm]; simp only [ownMethod, hr, hs, Bool.false_eq_true, if_false]
  exact nearest_some_iff _ _ _

theorem dispatch_own_generic (v : Visitor) (h : Head) (hm : h.ownMro = true)
    (hs : v.strict = false) :
    v.method h = none ↔ v.getattr h.cls = none ∧ ∀ b ∈ h.bases, v.getattr b = none := by
  rw [dispatch_own v h hm]; simp only [ownMethod, hs, Bool.false_eq_true, if_false]
  cases hr : v.getattr h.cls with
  | some r => simp
  | none => simp [nearest_none_iff]

/-! ### errors: never fuel, only the visitor's own raise -/

mutual
theorem T_err (v : Visitor) : ∀ (n : Node) (c : Nat) (e : Err), T v n c = .error e → e = .raised
  | .mk h ks, c, e, ht => by
    unfold T at ht
    split at ht
    · simp at ht                       -- keep
    · simp at ht                       -- replaceBy
    · simp at ht                       -- remove
    · simp at ht; exact ht.symm        -- raise
    · unfold rebuilt at ht             -- generic
      split at ht
      · rename_i e' hk; simp at ht; subst ht; exact TKids_err v ks c _ hk
      · split at ht <;> simp at ht
    · unfold finishRewrite at ht       -- rewriteProp
      split at ht
      · rename_i e' hk
        simp at ht; subst ht
        unfold rebuilt at hk
        split at hk
        · rename_i e'' hk2; simp at hk; subst hk; exact TKids_err v ks c _ hk2
        · split at hk <;> simp at hk
      · simp at ht; exact ht.symm
      · split at ht
        · simp at ht
        · simp at ht; exact ht.symm
termination_by structural n => n
theorem TKids_err (v : Visitor) : ∀ (ks : List Kid) (c : Nat) (e : Err), TKids v ks c = .error e → e = .raised
  | [], c, e, ht => by simp [TKids] at ht
  | k :: r, c, e, ht => by
    unfold TKids at ht
    split at ht
    · rename_i e' hk; simp at ht; subst ht; exact TKid_err v k c _ hk
    · split at ht
      · rename_i e' hk; simp at ht; subst ht; exact TKids_err v r _ _ hk
      · simp at ht
termination_by structural ks => ks
theorem TKid_err (v : Visitor) : ∀ (k : Kid) (c : Nat) (e : Err), TKid v k c = .error e → e = .raised
  | .mk name coll ns, c, e, ht => by
    unfold TKid at ht
    split at ht
    · rename_i e' hk; simp at ht; subst ht; exact TNodes_err v ns c _ hk
    · simp at ht
termination_by structural k => k
theorem TNodes_err (v : Visitor) : ∀ (ns : List Node) (c : Nat) (e : Err), TNodes v ns c = .error e → e = .raised
  | [], c, e, ht => by simp [TNodes] at ht
  | x :: r, c, e, ht => by
    unfold TNodes at ht
    split at ht
    · rename_i e' hk; simp at ht; subst ht; exact T_err v x c _ hk
    · split at ht
      · rename_i e' hk; simp at ht; subst ht; exact TNodes_err v r _ _ hk
      · simp at ht
termination_by structural ns => ns
end

/-- **transform_no_fuel**: the fuel the model hands to its recursion (the size of the tree) is always
enough — what `Model/Visitor.lean` promises about `Err.fuel`. -/
theorem transform_no_fuel (v : Visitor) (n : Node) (c : Nat) (hw : wf n = true) :
    transform v n c ≠ .error .fuel := by
  rw [transform_eq_spec v n c hw]; intro h; have := T_err v n c _ h; cases this

theorem transform_err (v : Visitor) (n : Node) (c : Nat) (hw : wf n = true) (e : Err)
    (h : transform v n c = .error e) : e = .raised := by
  rw [transform_eq_spec v n c hw] at h; exact T_err v n c e h

/-- `Visited v a d`: the transformation started at `a` calls `visit(d)` unless an exception stops it
before: `d` is `a` or is reached through nodes whose method calls `generic_visit` (actions `generic`
and `rewriteProp`): the reflexive closure of `BelowRw` of Props/C09Fresh; `Below` of Props/C09
passes through `generic` only) -/
inductive Visited (v : Visitor) : Node → Node → Prop where
  | self (a : Node) : Visited v a a
  | generic {a x d : Node} : v.action a.hd = .generic → x ∈ childrenOf a → Visited v x d → Visited v a d
  | rewrite {a x d : Node} {p : PropV} :
      v.action a.hd = .rewriteProp p → x ∈ childrenOf a → Visited v x d → Visited v a d

theorem TNodes_error_of_mem (v : Visitor) (ns : List Node) (x : Node) (hx : x ∈ ns)
    (hT : ∀ c, T v x c = .error .raised) : ∀ c, TNodes v ns c = .error .raised := by
  induction ns with
  | nil => simp at hx
  | cons y r ih =>
    intro c
    unfold TNodes
    simp only [List.mem_cons] at hx
    cases hy : T v y c with
    | error e => simp [T_err v y c e hy]
    | ok p =>
      rcases hx with rfl | hx
      · rw [hT c] at hy; cases hy
      · simp [ih hx p.2]

theorem TKids_error_of_mem (v : Visitor) (ks : List Kid) (x : Node) (hx : x ∈ ks.flatMap Kid.nodes)
    (hT : ∀ c, T v x c = .error .raised) : ∀ c, TKids v ks c = .error .raised := by
  induction ks with
  | nil => simp at hx
  | cons k r ih =>
    intro c
    unfold TKids
    simp only [List.flatMap_cons, List.mem_append] at hx
    cases hk : TKid v k c with
    | error e => simp [TKid_err v k c e hk]
    | ok p =>
      obtain ⟨k', chg, c1⟩ := p
      rcases hx with hx | hx
      · cases k with
        | mk name coll ns =>
          unfold TKid at hk
          rw [TNodes_error_of_mem v ns x hx hT c] at hk
          simp at hk
      · simp [ih hx c1]

/-- **raise_propagates**: when the method called for some visited node raises, the whole
`transform` raises — whatever was rewritten before (earlier siblings, deeper levels) is discarded,
no partial result is returned, and ancestors' `rewriteProp` / `generic` methods do not swallow it. -/
theorem raise_propagates (v : Visitor) (a d : Node) (hv : Visited v a d)
    (hd : v.action d.hd = .raise) : ∀ c, T v a c = .error .raised := by
  induction hv with
  | self a =>
    intro c; cases a with
    | mk h ks => simp only [Node.hd_mk] at hd; simp [T, hd]
  | @generic a x d ha hx _ ih =>
    intro c
    cases a with
    | mk h ks =>
      simp only [Node.hd_mk] at ha
      have := TKids_error_of_mem v ks x hx (ih hd) c
      unfold T; simp [ha, this, rebuilt]
  | @rewrite a x d p ha hx _ ih =>
    intro c
    cases a with
    | mk h ks =>
      simp only [Node.hd_mk] at ha
      have := TKids_error_of_mem v ks x hx (ih hd) c
      unfold T; simp [ha, this, rebuilt, finishRewrite]

theorem transform_raise_propagates (v : Visitor) (n d : Node) (c : Nat) (hw : wf n = true)
    (hv : Visited v n d) (hd : v.action d.hd = .raise) : transform v n c = .error .raised := by
  rw [transform_eq_spec v n c hw]; exact raise_propagates v n d hv hd c

/-- **raise_no_result**: a call that raises returns nothing — neither a (partial) tree nor a counter.
`VRes` is a sum type, so this holds by typing; it is all the pure model can say about "the input
tree is never modified when a visitor method raises", whose real-code side is the harness's
snapshot check after every call. -/
theorem raise_no_result (v : Visitor) (n : Node) (c : Nat) (e : Err) (h : transform v n c = .error e) :
    ∀ p, transform v n c ≠ .ok p := by
  intro p hp; rw [h] at hp; cases hp

namespace Ex

example : (leaf2 3).hd.ownMro = true := by decide
example : ownMroTree tree = true := by decide
-- own class `Leaf2` has no method, non-strict: nearest base `Leaf`
example : ∃ r, (vRemove 3).method (leaf2 3).hd = some r :=
  ⟨_, (dispatch_own_base (vRemove 3) (leaf2 3).hd (by decide) rfl (by decide) _).mpr
        ⟨[], sLeaf, [sExpr, sAST], by decide, rfl, by simp⟩⟩
-- own class `Leaf` has one: called, strict and non-strict
example : ∃ r, (vRemove 1 true).method (leaf 1).hd = some r :=
  ⟨_, dispatch_own_has (vRemove 1 true) (leaf 1).hd (by decide) _ rfl⟩
example : ∃ r, (vRemove 1 false).method (leaf 1).hd = some r :=
  ⟨_, dispatch_own_has (vRemove 1 false) (leaf 1).hd (by decide) _ rfl⟩
-- strict, own class without method: generic, although a base class has one
example : (vRemove 3 true).method (leaf2 3).hd = none :=
  dispatch_own_strict_none _ _ (by decide) rfl (by decide)
-- `ownMro` is needed: a head whose `cls` is not the head of its MRO dispatches elsewhere
example : isRemove ((vRemove 3).action (hd 3 sTup [sLeaf, sObj])) = true ∧
    (vRemove 3).getattr sTup = none ∧ (hd 3 sTup [sLeaf, sObj]).bases = [] := by decide

-- raise_propagates: `Leaf2#3` (two levels down, after `Leaf#1` was visited) raises
theorem visited_tree : Visited vRaise tree (leaf2 3) :=
  .generic (x := opt 2 [leaf2 3]) rfl (by simp [childrenOf, tree, tup, Kid.nodes])
    (.generic (x := leaf2 3) rfl (by simp [childrenOf, opt, Kid.nodes]) (.self _))
example : Visited vRaise tree (leaf2 3) := visited_tree
example : transform vRaise tree 10 = .error .raised :=
  transform_raise_propagates vRaise tree (leaf2 3) 10 wf_tree visited_tree rfl
end Ex

end C09
end PyOak
