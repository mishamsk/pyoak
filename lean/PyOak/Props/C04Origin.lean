/-
C04, origin half: origins of every kind, sources and positions survive the serialization round trip;
the `No*` singletons come back as the singletons; index-based source serialization round-trips once the
separately serialized sources have been loaded (into an EMPTY registry, in registration order).

All statements are about the executable model PyOak/Model/OriginCodec.lean.
-/
import PyOak.Model.OriginCodec
namespace PyOak.C04O
open PyOak PyOak.OC PyOak.OriginAlg PyOak.Gen

theorem stripL_eq_map (ms : List Source) : Source.stripL ms = ms.map Source.strip := by
  induction ms with
  | nil => rfl
  | cons x r ih => simp [Source.stripL, ih]

mutual
theorem strip_idem : ∀ s : Source, s.strip.strip = s.strip
  | .noSource => rfl
  | .plain .. => rfl
  | .memory .. => rfl
  | .file .. => rfl
  | .zipped .. => rfl
  | .set ms => by simp [Source.strip, stripL_idem ms]
theorem stripL_idem : ∀ ms : List Source, Source.stripL (Source.stripL ms) = Source.stripL ms
  | [] => rfl
  | x :: r => by simp [Source.stripL, strip_idem x, stripL_idem r]
end

theorem beq_iff (a b : Source) : (a == b) = true ↔ a.strip = b.strip := by
  show Source.eqv a b = true ↔ _
  simp [Source.eqv]

-- Python `==` on sources is an equivalence
theorem beq_refl (a : Source) : (a == a) = true := (beq_iff a a).2 rfl
theorem beq_symm (a b : Source) : (a == b) = (b == a) := by
  rw [Bool.eq_iff_iff, beq_iff, beq_iff]; exact eq_comm
theorem beq_trans (a b c : Source) (h1 : (a == b) = true) (h2 : (b == c) = true) : (a == c) = true := by
  rw [beq_iff] at *; exact h1.trans h2
theorem beq_strip (a : Source) : (a.strip == a) = true := (beq_iff _ _).2 (strip_idem a)
theorem beq_congr_right (r a b : Source) (h : a.strip = b.strip) : (r == a) = (r == b) := by
  rw [Bool.eq_iff_iff, beq_iff, beq_iff, h]

theorem isNo_strip (s : Source) : s.strip.isNo = s.isNo := by cases s <;> rfl
theorem isNo_congr (a b : Source) (h : a.strip = b.strip) : a.isNo = b.isNo := by
  rw [← isNo_strip a, ← isNo_strip b, h]

theorem locate_congr (reg : SrcReg) (a b : Source) (h : a.strip = b.strip) : locate reg a = locate reg b := by
  induction reg with
  | nil => rfl
  | cons r rs ih => simp [locate, beq_congr_right r a b h, ih]

theorem locate_some (reg : SrcReg) (s : Source) (i : Nat) (r : Source) (h : locate reg s = some (i, r)) :
    reg[i]? = some r ∧ (r == s) = true ∧ r ∈ reg := by
  induction reg generalizing i with
  | nil => simp [locate] at h
  | cons x xs ih =>
    simp only [locate] at h
    split at h
    · rename_i hx
      simp at h; obtain ⟨rfl, rfl⟩ := h
      simp [hx]
    · cases hl : locate xs s with
      | none => simp [hl] at h
      | some p =>
        obtain ⟨j, q⟩ := p
        simp [hl] at h; obtain ⟨rfl, rfl⟩ := h
        obtain ⟨h1, h2, h3⟩ := ih j hl
        simp [h1, h2, h3]

theorem locate_none_iff (reg : SrcReg) (s : Source) : locate reg s = none ↔ ∀ r ∈ reg, (r == s) = false := by
  induction reg with
  | nil => simp [locate]
  | cons x xs ih =>
    simp only [locate]
    split
    · rename_i hx; simp [hx]
    · rename_i hx; simp [ih, hx]

theorem locate_append_none (reg : SrcReg) (s x : Source) (h : locate reg s = none) :
    locate (reg ++ [x]) s = if x == s then some (reg.length, x) else none := by
  induction reg with
  | nil => simp [locate]
  | cons y ys ih =>
    simp only [locate] at h
    split at h
    · simp at h
    · rename_i hy
      simp at h
      simp only [List.cons_append, locate, hy, Bool.false_eq_true, if_false, ih h]
      split <;> simp

theorem locate_append_some (reg : SrcReg) (s x : Source) (p : Nat × Source) (h : locate reg s = some p) :
    locate (reg ++ [x]) s = some p := by
  induction reg generalizing p with
  | nil => simp [locate] at h
  | cons y ys ih =>
    simp only [locate] at h
    simp only [List.cons_append, locate]
    split
    · rename_i hy; simpa [hy] using h
    · rename_i hy
      simp only [hy, Bool.false_eq_true, if_false] at h
      cases hl : locate ys s with
      | none => simp [hl] at h
      | some q => simp [hl] at h; simp [ih q hl, h]

theorem finish_eq (reg : SrcReg) (s : Source) (hs : s.isNo = false) :
    finish reg s = match locate reg s with
      | some (_, r) => (reg, r)
      | none => (reg ++ [s], s) := by
  unfold finish register lookup
  cases h : locate reg s with
  | some p => simp [hs, h]
  | none => simp [hs, locate_append_none reg s s h, beq_refl]

mutual
/-- what decoding the full form of `s` amounts to on objects: members first, then the object itself is
constructed without `_raw`, registered if no equal source is, and the registered equal instance returned -/
def intern (reg : SrcReg) : Source → SrcReg × Source
  | .noSource => (reg, .noSource)
  | .set ms =>
    let p := internL reg ms
    finish p.1 (.set p.2)
  | s => finish reg s.strip
def internL (reg : SrcReg) : List Source → SrcReg × List Source
  | [] => (reg, [])
  | x :: r =>
    let p := intern reg x
    let q := internL p.1 r
    (q.1, p.2 :: q.2)
end

@[simp] theorem nested_ok {α : Type} (a : α) : nested (.ok a : Except OC.Err α) = .ok a := rfl

mutual
/-- constructible sources: a `MemoryTextSource` never has the placeholder uri `"UNSET"` (its
`__post_init__` replaces it) -/
def srcWF : Source → Bool
  | .memory u _ => u != unsetUri
  | .set ms => srcWFL ms
  | _ => true
def srcWFL : List Source → Bool
  | [] => true
  | x :: r => srcWF x && srcWFL r
end

/-- `Source._deserialize` on the dicts `encSourceFull` writes: in a `SourceSet` dict the `sources` field is
found behind the fields written before it, its members are decoded in order and then the set is registered;
the dict of any other constructible source decodes to the interned instance.
One statement: the key and class-name strings are `String.toList` of literals, which the elaborator
evaluates once per declaration. -/
theorem decSource_enc (reg : SrcReg) :
    (∀ (c u t : J) (xs : List J),
      decSourcesIn reg [(kType, c), (kUri, u), (kStype, t), (kSources, .list xs)] = nested (decSourceL reg xs))
    ∧ (∀ (u : J) (xs : List J),
      decSource reg (typed cSourceSet [(kUri, u), (kStype, .str cSourceSet), (kSources, .list xs)])
        = (do let (reg1, ms) ← nested (decSourceL reg xs); pure (finish reg1 (.set ms))))
    ∧ (∀ s : Source, srcWF s = true → (∀ ms, s ≠ .set ms) →
      decSource reg (encSourceFull s) = .ok (intern reg s)) := by
  refine ⟨fun _ _ _ _ => rfl, fun _ _ => rfl, fun s hwf hs => ?_⟩
  cases s with
  | noSource => rfl
  | plain t _ _ _ => cases t <;> rfl
  | memory u r =>
    have hu : u ≠ unsetUri := by simpa [srcWF] using hwf
    have : decSource reg (encSourceFull (.memory u r))
        = if u = unsetUri then .error .unmodelled else pure (finish reg (.memory u .none)) := rfl
    rw [this, if_neg hu]; rfl
  | file t _ _ => cases t <;> rfl
  | zipped _ _ _ => rfl
  | set ms => exact absurd rfl (hs ms)

theorem decSourcesIn_enc (reg : SrcReg) (c u t : J) (xs : List J) :
    decSourcesIn reg [(kType, c), (kUri, u), (kStype, t), (kSources, .list xs)] = nested (decSourceL reg xs) :=
  (decSource_enc reg).1 c u t xs

theorem decSource_set (reg : SrcReg) (u : J) (xs : List J) :
    decSource reg (typed cSourceSet [(kUri, u), (kStype, .str cSourceSet), (kSources, .list xs)])
      = (do let (reg1, ms) ← nested (decSourceL reg xs); pure (finish reg1 (.set ms))) :=
  (decSource_enc reg).2.1 u xs

mutual
theorem dec_encFull : ∀ (s : Source) (reg : SrcReg), srcWF s = true →
    decSource reg (encSourceFull s) = .ok (intern reg s)
  | .set ms, reg, h => by
    have ih := decL_encFull ms reg (by simpa [srcWF] using h)
    simp only [encSourceFull, decSource_set, ih, intern]
    rfl
  | .noSource, reg, h | .plain .., reg, h | .memory .., reg, h | .file .., reg, h | .zipped .., reg, h =>
    (decSource_enc reg).2.2 _ h nofun
theorem decL_encFull : ∀ (ms : List Source) (reg : SrcReg), srcWFL ms = true →
    decSourceL reg (encSourceFullL ms) = .ok (internL reg ms)
  | [], _, _ => rfl
  | x :: r, reg, h => by
    have h' : srcWF x = true ∧ srcWFL r = true := by simpa [srcWFL] using h
    simp only [encSourceFullL, decSourceL, dec_encFull x reg h'.1, internL]
    simp [bind, Except.bind, decL_encFull r _ h'.2, pure, Except.pure]
end

theorem finish_snd_strip (reg : SrcReg) (s : Source) (hs : s.isNo = false) : (finish reg s).2.strip = s.strip := by
  rw [finish_eq reg s hs]
  cases h : locate reg s with
  | none => rfl
  | some p =>
    obtain ⟨i, r⟩ := p
    exact (beq_iff _ _).1 (locate_some reg s i r h).2.1

theorem finish_of_located (reg : SrcReg) (s : Source) (hs : s.isNo = false) (i : Nat) (r : Source)
    (h : locate reg s = some (i, r)) : finish reg s = (reg, r) := by
  rw [finish_eq reg s hs, h]

theorem finish_of_fresh (reg : SrcReg) (s : Source) (hs : s.isNo = false) (h : locate reg s = none) :
    finish reg s = (reg ++ [s], s) := by
  rw [finish_eq reg s hs, h]

mutual
theorem intern_strip : ∀ (s : Source) (reg : SrcReg), (intern reg s).2.strip = s.strip
  | .noSource, _ => rfl
  | .plain .., _ | .memory .., _ | .file .., _ | .zipped .., _ => by
    simp only [intern]; rw [finish_snd_strip _ _ rfl, strip_idem]
  | .set ms, reg => by
    simp only [intern]; rw [finish_snd_strip _ _ rfl]
    simp only [Source.strip, internL_strip ms reg]
theorem internL_strip : ∀ (ms : List Source) (reg : SrcReg), Source.stripL (internL reg ms).2 = Source.stripL ms
  | [], _ => rfl
  | x :: r, reg => by simp only [internL, Source.stripL, intern_strip x reg, internL_strip r]
end

/-- the instance a registry hands out for `s`: the singleton for `NoSource`, else the registered source
`==` to `s` -/
def canonS (reg : SrcReg) (s : Source) : Source :=
  if s.isNo then .noSource else (lookup reg s).getD s

mutual
/-- `s` and everything it contains is registered (or is `NoSource`) -/
def closed (reg : SrcReg) : Source → Bool
  | .noSource => true
  | .set ms => (locate reg (.set ms)).isSome && closedL reg ms
  | s => (locate reg s).isSome
def closedL (reg : SrcReg) : List Source → Bool
  | [] => true
  | x :: r => closed reg x && closedL reg r
end

theorem closed_located (reg : SrcReg) (s : Source) (hs : s.isNo = false) (h : closed reg s = true) :
    (locate reg s).isSome = true := by
  cases s <;> simp_all [closed, Source.isNo]

theorem canonS_strip (reg : SrcReg) (s : Source) : (canonS reg s).strip = s.strip := by
  unfold canonS lookup
  cases hs : s.isNo with
  | true => cases s <;> simp_all [Source.isNo]
  | false =>
    cases h : locate reg s with
    | none => simp
    | some p => obtain ⟨i, r⟩ := p; simpa using (beq_iff _ _).1 (locate_some reg s i r h).2.1

theorem canonS_of_located (reg : SrcReg) (s : Source) (hs : s.isNo = false) (i : Nat) (r : Source)
    (h : locate reg s = some (i, r)) : canonS reg s = r := by
  simp [canonS, lookup, hs, h]

theorem canonS_congr (reg : SrcReg) (a b : Source) (h : a.strip = b.strip) (hl : (locate reg a).isSome = true) :
    canonS reg a = canonS reg b := by
  unfold canonS lookup
  rw [← locate_congr reg a b h, ← isNo_congr a b h]
  cases hn : a.isNo with
  | true => rfl
  | false =>
    cases hloc : locate reg a with
    | none => simp [hloc] at hl
    | some p => simp

theorem stripL_map_canonS (reg : SrcReg) (ms : List Source) : Source.stripL (ms.map (canonS reg)) = Source.stripL ms := by
  induction ms with
  | nil => rfl
  | cons x r ih => simp [Source.stripL, canonS_strip, ih]

theorem intern_leaf_closed (reg : SrcReg) (s : Source) (hs : s.isNo = false) (hl : (locate reg s).isSome = true) :
    finish reg s.strip = (reg, canonS reg s) := by
  have hc := locate_congr reg s.strip s (strip_idem s)
  obtain ⟨⟨i, r⟩, h⟩ := Option.isSome_iff_exists.1 hl
  rw [finish_of_located reg s.strip (by rw [isNo_strip]; exact hs) i r (by rw [hc, h]),
    canonS_of_located reg s hs i r h]

mutual
theorem intern_closed : ∀ (s : Source) (reg : SrcReg), closed reg s = true → intern reg s = (reg, canonS reg s)
  | .noSource, _, _ => rfl
  | .plain .., reg, h | .memory .., reg, h | .file .., reg, h | .zipped .., reg, h =>
    intern_leaf_closed reg _ rfl (by simpa [closed] using h)
  | .set ms, reg, h => by
    have h' : (locate reg (.set ms)).isSome = true ∧ closedL reg ms = true := by simpa [closed] using h
    have hst : (Source.set (ms.map (canonS reg))).strip = (Source.set ms).strip := by
      simp only [Source.strip, stripL_map_canonS]
    simp only [intern, internL_closed ms reg h'.2]
    obtain ⟨⟨i, r⟩, hl⟩ := Option.isSome_iff_exists.1 h'.1
    rw [finish_of_located reg _ rfl i r (by rw [locate_congr reg _ _ hst, hl]),
      canonS_of_located reg _ rfl i r hl]
theorem internL_closed : ∀ (ms : List Source) (reg : SrcReg), closedL reg ms = true →
    internL reg ms = (reg, ms.map (canonS reg))
  | [], _, _ => rfl
  | x :: r, reg, h => by
    have h' : closed reg x = true ∧ closedL reg r = true := by simpa [closedL] using h
    simp only [internL, intern_closed x reg h'.1, internL_closed r reg h'.2, List.map]
end

theorem encSource_full (reg : SrcReg) (s : Source) : encSource false reg s = .ok (encSourceFull s) := by
  cases s <;> rfl

/-- **Full-form round trip of a source.**  Decoding the full serialization of `s` in any registry succeeds;
the result is `==` to `s` and is the instance the registry holds (`intern`); when `s` and everything in it
is registered the registry is unchanged and the *registered* instance comes back; a leaf source that is not
registered is registered (without `_raw`) under the next index. -/
theorem source_roundtrip (reg : SrcReg) (s : Source) (hwf : srcWF s = true) :
    (encSource false reg s >>= decSource reg) = .ok (intern reg s)
    ∧ ((intern reg s).2 == s) = true
    ∧ (closed reg s = true → intern reg s = (reg, canonS reg s) ∧ (s.isNo = false → canonS reg s ∈ reg))
    ∧ ((∀ ms, s ≠ .set ms) → s.isNo = false → locate reg s = none →
        intern reg s = (reg ++ [s.strip], s.strip)) := by
  refine ⟨?_, ?_, ?_, ?_⟩
  · rw [encSource_full]; exact dec_encFull s reg hwf
  · exact (beq_iff _ _).2 (intern_strip s reg)
  · intro hc
    refine ⟨intern_closed s reg hc, fun hs => ?_⟩
    have hl := closed_located reg s hs hc
    obtain ⟨⟨i, r⟩, h⟩ := Option.isSome_iff_exists.1 hl
    rw [canonS_of_located reg s hs i r h]; exact (locate_some reg s i r h).2.2
  · intro hset hs hl
    have hl' : locate reg s.strip = none := by rw [locate_congr reg s.strip s (strip_idem s)]; exact hl
    cases s with
    | noSource => cases hs
    | set ms' => exact absurd rfl (hset ms')
    | _ => exact finish_of_fresh reg _ rfl hl'

theorem decSource_idx (reg : SrcReg) (i : Nat) :
    decSource reg (.map [(kIdx, .int i)]) = match reg[i]? with
      | some r => .ok (reg, r)
      | none => .error .value := by
  have : decSource reg (.map [(kIdx, .int i)]) = match byIdx reg i with
      | some r => .ok (reg, r)
      | none => .error .value := rfl
  rw [this]
  have : byIdx reg (i : Int) = reg[i]? := by
    unfold byIdx
    rw [if_neg (by omega)]; simp
  rw [this]

theorem source_index_same_registry (reg : SrcReg) (s : Source) (hs : s.isNo = false) (i : Nat) (r : Source)
    (h : locate reg s = some (i, r)) :
    encSource true reg s = .ok (.map [(kIdx, .int i)])
    ∧ decSource reg (.map [(kIdx, .int i)]) = .ok (reg, r) ∧ (r == s) = true := by
  refine ⟨?_, ?_, (locate_some reg s i r h).2.1⟩
  · simp [encSource, hs, indexOf, h]
  · rw [decSource_idx, (locate_some reg s i r h).1]

theorem strip_beq_left (r s : Source) : (r.strip == s) = (r == s) := by
  rw [Bool.eq_iff_iff, beq_iff, beq_iff, strip_idem]

theorem locate_map_strip (reg : SrcReg) (s : Source) :
    locate (reg.map Source.strip) s = (locate reg s).map fun p => (p.1, p.2.strip) := by
  induction reg with
  | nil => rfl
  | cons x xs ih =>
    simp only [List.map, locate, strip_beq_left, ih]
    split
    · rfl
    · cases locate xs s <;> rfl

mutual
theorem closed_map_strip : ∀ (s : Source) (reg : SrcReg), closed (reg.map Source.strip) s = closed reg s
  | .noSource, _ => rfl
  | .plain .., reg | .memory .., reg | .file .., reg | .zipped .., reg => by simp [closed, locate_map_strip]
  | .set ms, reg => by simp [closed, locate_map_strip, closedL_map_strip ms reg]
theorem closedL_map_strip : ∀ (ms : List Source) (reg : SrcReg),
    closedL (reg.map Source.strip) ms = closedL reg ms
  | [], _ => rfl
  | x :: r, reg => by simp [closedL, closed_map_strip x reg, closedL_map_strip r reg]
end

theorem canonS_stripped (reg : SrcReg) (s : Source) (h : closed (reg.map Source.strip) s = true) :
    canonS (reg.map Source.strip) s = s.strip := by
  cases hs : s.isNo with
  | true => cases s <;> simp_all [Source.isNo, canonS, Source.strip]
  | false =>
    have hl := closed_located _ s hs h
    obtain ⟨⟨i, r⟩, hloc⟩ := Option.isSome_iff_exists.1 hl
    rw [canonS_of_located _ s hs i r hloc]
    obtain ⟨_, h2, h3⟩ := locate_some _ s i r hloc
    obtain ⟨r0, _, rfl⟩ := List.mem_map.1 h3
    rw [← (beq_iff _ _).1 h2, strip_idem]

theorem closedL_all (reg : SrcReg) (ms : List Source) (h : closedL reg ms = true) : ∀ m ∈ ms, closed reg m = true := by
  induction ms with
  | nil => simp
  | cons x r ih =>
    have h' : closed reg x = true ∧ closedL reg r = true := by simpa [closedL] using h
    intro m hm
    rcases List.mem_cons.1 hm with rfl | hm
    · exact h'.1
    · exact ih h'.2 m hm

theorem map_canonS_stripped (reg : SrcReg) (ms : List Source) (h : closedL (reg.map Source.strip) ms = true) :
    ms.map (canonS (reg.map Source.strip)) = Source.stripL ms := by
  rw [stripL_eq_map]
  exact List.map_congr_left fun m hm => canonS_stripped reg m (closedL_all _ ms h m hm)

/-- the members of a `SourceSet` are registered (with everything they contain) -/
def membersClosed (reg : SrcReg) : Source → Bool
  | .set ms => closedL reg ms
  | _ => true

theorem intern_fresh (reg : SrcReg) (s : Source) (hs : s.isNo = false) (hl : locate reg s = none)
    (hm : membersClosed reg s = true) :
    (intern (reg.map Source.strip) s).1 = (reg ++ [s]).map Source.strip := by
  have hl' : locate (reg.map Source.strip) s.strip = none := by
    rw [locate_congr _ s.strip s (strip_idem s), locate_map_strip, hl]; rfl
  have leaf : (finish (reg.map Source.strip) s.strip).1 = (reg ++ [s]).map Source.strip := by
    rw [finish_of_fresh _ _ (by rw [isNo_strip]; exact hs) hl']; simp
  cases s with
  | noSource => cases hs
  | set ms =>
    have hc : closedL (reg.map Source.strip) ms = true := by rw [closedL_map_strip]; exact hm
    simp only [intern, internL_closed ms _ hc, map_canonS_stripped reg ms hc]
    exact leaf
  | _ => exact leaf

/-- a registry the library can have produced without `clear_registry` in between, as a check on a list
`pre ++ suf`: no `NoSource`, no two `==` sources, every `SourceSet` registered after everything it contains -/
def regOK (pre : SrcReg) : List Source → Bool
  | [] => true
  | x :: post =>
    !x.isNo && (locate pre x).isNone && membersClosed pre x && srcWF x && regOK (pre ++ [x]) post

theorem load_eq_intern : ∀ (l : List Source) (reg : SrcReg), srcWFL l = true →
    loadSerializedSources reg (allAsDict l) = .ok (l.foldl (fun r s => (intern r s).1) reg)
  | [], _, _ => rfl
  | x :: r, reg, h => by
    have h' : srcWF x = true ∧ srcWFL r = true := by simpa [srcWFL] using h
    simp only [allAsDict, List.map, loadSerializedSources, dec_encFull x reg h'.1]
    exact load_eq_intern r _ h'.2

theorem load_all (suf pre : SrcReg) (h : regOK pre suf = true) :
    loadSerializedSources (pre.map Source.strip) (allAsDict suf) = .ok ((pre ++ suf).map Source.strip) := by
  have key : srcWFL suf = true ∧
      suf.foldl (fun r s => (intern r s).1) (pre.map Source.strip) = (pre ++ suf).map Source.strip := by
    induction suf generalizing pre with
    | nil => simp [srcWFL]
    | cons x post ih =>
      simp only [regOK, Bool.and_eq_true, Bool.not_eq_true', Option.isNone_iff_eq_none] at h
      obtain ⟨⟨⟨⟨h1, h2⟩, h3⟩, h4⟩, h5⟩ := h
      simpa [srcWFL, h4, intern_fresh pre x h1 h2 h3] using ih (pre ++ [x]) h5
  rw [load_eq_intern suf _ key.1, key.2]

/-- **Index-based round trip, part 1**: the separately serialized sources (`Source.all_as_dict()`, in
registration order), loaded into the EMPTY registry, rebuild the registry: the same sources (as new,
`_raw`-less instances) at the same indexes. -/
theorem load_roundtrip (reg : SrcReg) (h : regOK [] reg = true) :
    loadSerializedSources clearRegistry (allAsDict reg) = .ok (reg.map Source.strip) := by
  simpa [clearRegistry] using load_all reg [] h

/-- **Index-based round trip, part 2**: with the sources loaded (`reg'`), the index form written against
the original registry decodes to the source `==` to the original; the registry is not changed. -/
theorem source_index_roundtrip (reg : SrcReg) (h : regOK [] reg = true) (s : Source) (hs : s.isNo = false)
    (hreg : (locate reg s).isSome = true) :
    ∃ reg' j s', loadSerializedSources clearRegistry (allAsDict reg) = .ok reg'
      ∧ reg'.length = reg.length ∧ (∀ i (hi : i < reg.length), ∃ r', reg'[i]? = some r' ∧ (r' == reg[i]) = true)
      ∧ encSource true reg s = .ok j ∧ decSource reg' j = .ok (reg', s') ∧ (s' == s) = true := by
  obtain ⟨⟨i, r⟩, hl⟩ := Option.isSome_iff_exists.1 hreg
  obtain ⟨e1, _, e3⟩ := source_index_same_registry reg s hs i r hl
  refine ⟨reg.map Source.strip, _, r.strip, load_roundtrip reg h, by simp, ?_, e1, ?_, ?_⟩
  · intro k hk
    exact ⟨reg[k].strip, by simp [hk], beq_strip _⟩
  · rw [decSource_idx]; simp [(locate_some reg s i r hl).1]
  · rw [strip_beq_left]; exact e3

mutual
/-- constructible positions: every code range was accepted by `CodePoint` / `CodeRange.__post_init__` -/
def posWF : PosV → Bool
  | .code r => r.start.valid && r.end_.valid && r.valid
  | .set ps => posWFL ps
  | _ => true
def posWFL : List PosV → Bool
  | [] => true
  | x :: r => posWF x && posWFL r
end

/-- `Position._deserialize` (called on any class `dflt`) on the dicts `encPosition` writes: the members of a
`PositionSet` dict are decoded in order; the dict of any other constructible position decodes to it.
One statement, as `decSource_enc`. -/
theorem decPosition_enc (dflt : Str) :
    (∀ xs : List J, decPosition dflt (typed cPositionSet [(kPositions, .list xs)])
        = (do let ps ← nested (decPositionL xs); pure (PosV.set ps)))
    ∧ (∀ p : PosV, posWF p = true → (∀ ps, p ≠ .set ps) → decPosition dflt (encPosition p) = .ok p) := by
  refine ⟨fun _ => rfl, fun p hwf hp => ?_⟩
  cases p with
  | noPos => rfl
  | entire => rfl
  | xml _ => rfl
  | code r =>
    have h : (r.start.valid = true ∧ r.end_.valid = true) ∧ r.valid = true := by simpa [posWF] using hwf
    have hpt : ∀ q : CodePoint, decPoint (encPoint q) = if q.valid then .ok q else .error .value := fun _ => rfl
    have : decPosition dflt (encPosition (.code r)) = (do
        let s ← nested (decPoint (encPoint r.start))
        let e ← nested (decPoint (encPoint r.end_))
        let r' : CodeRange := { start := s, end_ := e }
        if r'.valid then pure (PosV.code r') else .error .value) := rfl
    rw [this, hpt, hpt, if_pos h.1.1, if_pos h.1.2]
    show (if CodeRange.valid { start := r.start, end_ := r.end_ } = true then _ else _) = _
    rw [if_pos h.2]; rfl
  | set ps => exact absurd rfl (hp ps)

theorem decPosition_set (dflt : Str) (xs : List J) :
    decPosition dflt (typed cPositionSet [(kPositions, .list xs)])
      = (do let ps ← nested (decPositionL xs); pure (PosV.set ps)) :=
  (decPosition_enc dflt).1 xs

mutual
theorem dec_encPosition : ∀ (p : PosV) (dflt : Str), posWF p = true → decPosition dflt (encPosition p) = .ok p
  | .set ps, dflt, h => by
    simp only [encPosition, decPosition_set, dec_encPositionL ps (by simpa [posWF] using h)]
    rfl
  | .noPos, dflt, h | .entire, dflt, h | .xml _, dflt, h | .code _, dflt, h => (decPosition_enc dflt).2 _ h nofun
theorem dec_encPositionL : ∀ (ps : List PosV), posWFL ps = true → decPositionL (encPositionL ps) = .ok ps
  | [], _ => rfl
  | x :: r, h => by
    have h' : posWF x = true ∧ posWFL r = true := by simpa [posWFL] using h
    simp only [encPositionL, decPositionL, dec_encPosition x cPosition h'.1, dec_encPositionL r h'.2]
    rfl
end

/-- **Positions round-trip** (whatever class the field is annotated with); this is `dec_encPosition` -/
theorem position_roundtrip (dflt : Str) (p : PosV) (h : posWF p = true) :
    decPosition dflt (encPosition p) = .ok p := dec_encPosition p dflt h

theorem bind_ok {ε α β : Type} {x : Except ε α} {f : α → Except ε β} {y : β} (h : (x >>= f) = .ok y) :
    ∃ a, x = .ok a ∧ f a = .ok y := by
  cases x with
  | error e => simp [bind, Except.bind] at h
  | ok a => exact ⟨a, rfl, h⟩

theorem source_closed_roundtrip (opt : Bool) (reg : SrcReg) (s : Source) (hc : closed reg s = true) :
    ∃ j, encSource opt reg s = .ok j ∧ (srcWF s = true → decSource reg j = .ok (reg, canonS reg s)) := by
  cases opt with
  | false =>
    exact ⟨_, encSource_full reg s, fun hwf => by rw [dec_encFull s reg hwf, intern_closed s reg hc]⟩
  | true =>
    cases hs : s.isNo with
    | true =>
      have : s = .noSource := by cases s <;> simp_all [Source.isNo]
      subst this; exact ⟨.map [], rfl, fun _ => rfl⟩
    | false =>
      have hl := closed_located reg s hs hc
      obtain ⟨⟨i, r⟩, h⟩ := Option.isSome_iff_exists.1 hl
      obtain ⟨e1, e2, _⟩ := source_index_same_registry reg s hs i r h
      exact ⟨_, e1, fun _ => by rw [e2, canonS_of_located reg s hs i r h]⟩

mutual
/-- the origin with every source replaced by the instance the registry holds; the derived fields of a
`MultiOrigin` recomputed from the members as `__post_init__` does -/
def canonO (reg : SrcReg) : Org → Org
  | .none => .none
  | .code g s r => .code g (canonS reg s) r
  | .other k s p => .other k (canonS reg s) p
  | .multi _ _ os =>
    .multi (deriveSrc ((canonOL reg os).map Org.source)) (.set ((canonOL reg os).map Org.position)) (canonOL reg os)
def canonOL (reg : SrcReg) : List Org → List Org
  | [] => []
  | x :: r => canonO reg x :: canonOL reg r
end

mutual
/-- constructible origins -/
def orgWF : Org → Bool
  | .none => true
  | .code g s r => srcWF s && posWF (.code r) && (!g || decide (r = EMPTY_CODE_RANGE))
  | .other _ s p => srcWF s && posWF p
  | .multi s p os =>
    decide (2 ≤ os.length) && decide (s = deriveSrc (os.map Org.source)) && decide (p = .set (os.map Org.position))
      && orgWFL os
def orgWFL : List Org → Bool
  | [] => true
  | x :: r => orgWF x && orgWFL r
end

mutual
/-- every source the origin mentions — the derived `SourceSet` of a `MultiOrigin` included — is registered
together with everything it contains (true of every origin constructed since the last `clear_registry`) -/
def orgClosed (reg : SrcReg) : Org → Bool
  | .none => true
  | .code _ s _ => closed reg s
  | .other _ s _ => closed reg s
  | .multi s _ os => closed reg s && orgClosedL reg os
def orgClosedL (reg : SrcReg) : List Org → Bool
  | [] => true
  | x :: r => orgClosed reg x && orgClosedL reg r
end

mutual
/-- forget every `_raw`: what `==` on origins looks at -/
def stripO : Org → Org
  | .none => .none
  | .code g s r => .code g s.strip r
  | .other k s p => .other k s.strip p
  | .multi s p os => .multi s.strip p (stripOL os)
def stripOL : List Org → List Org
  | [] => []
  | x :: r => stripO x :: stripOL r
end

/-- Python `a == b` on origins (dataclass equality: same class, `source`, `position`, members `==`) -/
def eqvO (a b : Org) : Bool := decide (stripO a = stripO b)

theorem canonOL_eq_map (reg : SrcReg) (os : List Org) : canonOL reg os = os.map (canonO reg) := by
  induction os with
  | nil => rfl
  | cons x r ih => simp [canonOL, ih]

theorem canonOL_length (reg : SrcReg) (os : List Org) : (canonOL reg os).length = os.length := by
  simp [canonOL_eq_map]

theorem stripOL_eq_map (os : List Org) : stripOL os = os.map stripO := by
  induction os with
  | nil => rfl
  | cons x r ih => simp [stripOL, ih]

theorem source_strip (o : Org) : (stripO o).source = o.source.strip := by cases o <;> rfl
theorem position_strip (o : Org) : (stripO o).position = o.position := by cases o <;> rfl

theorem all_beq_strip (rest : List Source) (s0 : Source) :
    (rest.map Source.strip).all (fun s => s == s0.strip) = rest.all (fun s => s == s0) := by
  induction rest with
  | nil => rfl
  | cons x r ih =>
    have : (x.strip == s0.strip) = (x == s0) := by
      rw [Bool.eq_iff_iff, beq_iff, beq_iff, strip_idem, strip_idem]
    simp [List.all_cons, this, ih]

theorem deriveSrc_strip (ss : List Source) : (deriveSrc ss).strip = deriveSrc (ss.map Source.strip) := by
  cases ss with
  | nil => rfl
  | cons s0 rest =>
    simp only [deriveSrc, List.map, all_beq_strip]
    split
    · rfl
    · simp [Source.strip, Source.stripL, stripL_eq_map]

theorem derivesSet_strip (ss : List Source) : derivesSet (ss.map Source.strip) = derivesSet ss := by
  cases ss with
  | nil => rfl
  | cons s0 rest => simp only [derivesSet, List.map, all_beq_strip]

theorem deriveSrc_of_derivesSet (ss : List Source) (h : derivesSet ss = true) : deriveSrc ss = .set ss := by
  cases ss with
  | nil => simp [derivesSet] at h
  | cons s0 rest =>
    simp only [derivesSet, Bool.not_eq_true'] at h
    simp [deriveSrc, h]

theorem map_source_strip (os : List Org) : (os.map stripO).map Org.source = (os.map Org.source).map Source.strip := by
  simp only [List.map_map]; exact List.map_congr_left fun o _ => source_strip o

theorem map_position_strip (os : List Org) : (os.map stripO).map Org.position = os.map Org.position := by
  simp only [List.map_map]; exact List.map_congr_left fun o _ => position_strip o

theorem fields_of_stripOL {os os' : List Org} (h : stripOL os' = stripOL os) :
    (os'.map Org.source).map Source.strip = (os.map Org.source).map Source.strip
    ∧ os'.map Org.position = os.map Org.position := by
  rw [stripOL_eq_map, stripOL_eq_map] at h
  exact ⟨by rw [← map_source_strip, h, map_source_strip], by rw [← map_position_strip, h, map_position_strip]⟩

theorem multi_strip_congr (os os' : List Org) (h : stripOL os' = stripOL os) :
    stripO (.multi (deriveSrc (os'.map Org.source)) (.set (os'.map Org.position)) os')
      = stripO (.multi (deriveSrc (os.map Org.source)) (.set (os.map Org.position)) os) := by
  simp only [stripO, deriveSrc_strip, fields_of_stripOL h, h]

mutual
/-- the canonical origin is `==` the original (the derived fields are recomputed equal) -/
theorem canonO_strip : ∀ (o : Org) (reg : SrcReg), orgWF o = true → stripO (canonO reg o) = stripO o
  | .none, _, _ => rfl
  | .code g s r, reg, _ => by simp [canonO, stripO, canonS_strip]
  | .other k s p, reg, _ => by simp [canonO, stripO, canonS_strip]
  | .multi s p os, reg, h => by
    simp only [orgWF, Bool.and_eq_true, decide_eq_true_eq] at h
    obtain ⟨⟨⟨_, hs⟩, hp⟩, hwf⟩ := h
    rw [canonO, multi_strip_congr os _ (canonOL_strip os reg hwf), ← hs, ← hp]
theorem canonOL_strip : ∀ (os : List Org) (reg : SrcReg), orgWFL os = true →
    stripOL (canonOL reg os) = stripOL os
  | [], _, _ => rfl
  | x :: r, reg, h => by
    have h' : orgWF x = true ∧ orgWFL r = true := by simpa [orgWFL] using h
    simp only [canonOL, stripOL, canonO_strip x reg h'.1, canonOL_strip r reg h'.2]
end

/-- `Origin._deserialize` on the dicts `encOrigin` writes, given what the `source` entry decodes to: a
`MultiOrigin` dict has its members decoded in order and the origin rebuilt from them (`source` and `position`
are not read); a single-source origin comes back with the decoded source and its own position (that of a
`GeneratedCodeOrigin` is not read either).  One statement, as `decSource_enc`. -/
theorem decOrigin_enc (reg : SrcReg) :
    (∀ (sj pj : J) (js : List J),
      decOrigin reg (typed cMulti [(kSource, sj), (kPosition, pj), (kOrigins, .list js)])
        = (do let (reg1, os) ← nested (decOriginL reg js); mkMultiC reg1 os))
    ∧ (∀ (g : Bool) (s : Source) (r : CodeRange) (sj : J) (reg1 : SrcReg) (s' : Source),
      orgWF (.code g s r) = true → decSource reg sj = .ok (reg1, s') →
      decOrigin reg (typed (Org.cls (.code g s r)) [(kSource, sj), (kPosition, encPosition (.code r))])
        = .ok (reg1, .code g s' r))
    ∧ (∀ (k : OKind) (s : Source) (p : PosV) (sj : J) (reg1 : SrcReg) (s' : Source),
      orgWF (.other k s p) = true → decSource reg sj = .ok (reg1, s') →
      decOrigin reg (typed (Org.cls (.other k s p)) [(kSource, sj), (kPosition, encPosition p)])
        = .ok (reg1, .other k s' p)) := by
  have srcPos : ∀ (dflt : Str) (c sj pj : J) (reg1 : SrcReg) (s' : Source) (p : PosV),
      decSource reg sj = .ok (reg1, s') → decPosition dflt pj = .ok p →
      decSrcPos reg dflt [(kType, c), (kSource, sj), (kPosition, pj)] = .ok (reg1, s', p) := by
    intro dflt c sj pj reg1 s' p h1 h2
    have : decSrcPos reg dflt [(kType, c), (kSource, sj), (kPosition, pj)] = (do
        let (reg1, s) ← nested (decSource reg sj)
        let p ← nested (decPosition dflt pj)
        pure (reg1, s, p)) := rfl
    rw [this, h1, h2]; rfl
  refine ⟨fun _ _ _ => rfl, ?_, ?_⟩
  · intro g s r sj reg1 s' hwf h1
    simp only [orgWF, Bool.and_eq_true, Bool.or_eq_true, Bool.not_eq_true', decide_eq_true_eq] at hwf
    obtain ⟨⟨_, hp⟩, hg⟩ := hwf
    cases g with
    | false =>
      have : decOrigin reg (typed cCodeOrigin [(kSource, sj), (kPosition, encPosition (.code r))]) = (do
          let (reg1, s, p) ← decSrcPos reg cCodeRange
            [(kType, .str cCodeOrigin), (kSource, sj), (kPosition, encPosition (.code r))]
          match p with
          | .code r => pure (reg1, Org.code false s r)
          | _ => .error .unmodelled) := rfl
      show decOrigin reg (typed cCodeOrigin _) = _
      rw [this, srcPos _ _ _ _ _ _ _ h1 (dec_encPosition _ _ hp)]; rfl
    | true =>
      have hr : r = EMPTY_CODE_RANGE := by simpa using hg
      have : decOrigin reg (typed cGenerated [(kSource, sj), (kPosition, encPosition (.code r))]) = (do
          let (reg1, s) ← nested (decSource reg sj)
          pure (reg1, Org.code true s EMPTY_CODE_RANGE)) := rfl
      show decOrigin reg (typed cGenerated _) = _
      rw [this, h1, hr]; rfl
  · intro k s p sj reg1 s' hwf h1
    simp only [orgWF, Bool.and_eq_true] at hwf
    have : ∃ dflt c, decOrigin reg (typed (Org.cls (.other k s p)) [(kSource, sj), (kPosition, encPosition p)]) = (do
        let (reg1, s, p) ← decSrcPos reg dflt [(kType, c), (kSource, sj), (kPosition, encPosition p)]
        pure (reg1, Org.other k s p)) := by
      cases k
      · exact ⟨cXMLPath, .str cXMLOrigin, rfl⟩
      · exact ⟨cPosition, .str cOrigin, rfl⟩
    obtain ⟨dflt, c, this⟩ := this
    rw [this, srcPos _ _ _ _ _ _ _ h1 (dec_encPosition _ _ hwf.2)]; rfl

theorem register_located (reg : SrcReg) (s : Source) (h : (locate reg s).isSome = true) : register reg s = reg := by
  simp [register, h]

theorem mkMultiC_canon (reg : SrcReg) (s : Source) (p : PosV) (os : List Org)
    (hwf : orgWF (.multi s p os) = true) (hc : closed reg s = true) :
    mkMultiC reg (canonOL reg os) = .ok (reg, canonO reg (.multi s p os)) := by
  simp only [orgWF, Bool.and_eq_true, decide_eq_true_eq] at hwf
  obtain ⟨⟨⟨hlen, hs⟩, _⟩, hwfl⟩ := hwf
  have e1 := (fields_of_stripOL (canonOL_strip os reg hwfl)).1
  have hreg : (if derivesSet ((canonOL reg os).map Org.source)
      then register reg (.set ((canonOL reg os).map Org.source)) else reg) = reg := by
    split
    · rename_i hd
      rw [← derivesSet_strip, e1, derivesSet_strip] at hd
      have hset : s = .set (os.map Org.source) := by rw [hs, deriveSrc_of_derivesSet _ hd]
      have hl : (locate reg s).isSome = true := closed_located reg s (by rw [hset]; rfl) hc
      apply register_located
      rw [locate_congr reg _ s]; exact hl
      rw [hset]; simp only [Source.strip, stripL_eq_map, e1]
    · rfl
  unfold mkMultiC
  rw [if_neg (by rw [canonOL_length]; omega)]
  simp only [hreg, canonO]

mutual
theorem origin_rt : ∀ (o : Org) (opt : Bool) (reg : SrcReg), orgWF o = true → orgClosed reg o = true →
    ∃ j, encOrigin opt reg o = .ok j ∧ decOrigin reg j = .ok (reg, canonO reg o)
  | .none, _, _, _, _ => ⟨.map [], rfl, rfl⟩
  | .code g s r, opt, reg, hwf, hc => by
    have hs : srcWF s = true := by simp only [orgWF, Bool.and_eq_true] at hwf; exact hwf.1.1
    obtain ⟨sj, e1, e2⟩ := source_closed_roundtrip opt reg s (by simpa [orgClosed] using hc)
    exact ⟨_, by simp only [encOrigin, e1]; rfl, (decOrigin_enc reg).2.1 g s r sj reg _ hwf (e2 hs)⟩
  | .other k s p, opt, reg, hwf, hc => by
    have hs : srcWF s = true := by simp only [orgWF, Bool.and_eq_true] at hwf; exact hwf.1
    obtain ⟨sj, e1, e2⟩ := source_closed_roundtrip opt reg s (by simpa [orgClosed] using hc)
    exact ⟨_, by simp only [encOrigin, e1]; rfl, (decOrigin_enc reg).2.2 k s p sj reg _ hwf (e2 hs)⟩
  | .multi s p os, opt, reg, hwf, hc => by
    have hc' : closed reg s = true ∧ orgClosedL reg os = true := by simpa [orgClosed] using hc
    have hwfl : orgWFL os = true := by
      simp only [orgWF, Bool.and_eq_true] at hwf; exact hwf.2
    obtain ⟨sj, e1, _⟩ := source_closed_roundtrip opt reg s hc'.1
    obtain ⟨js, e2, e3⟩ := originL_rt os opt reg hwfl hc'.2
    refine ⟨_, by simp only [encOrigin, e1, e2]; rfl, ?_⟩
    rw [(decOrigin_enc reg).1, e3]
    exact mkMultiC_canon reg s p os hwf hc'.1
theorem originL_rt : ∀ (os : List Org) (opt : Bool) (reg : SrcReg), orgWFL os = true → orgClosedL reg os = true →
    ∃ js, encOriginL opt reg os = .ok js ∧ decOriginL reg js = .ok (reg, canonOL reg os)
  | [], _, _, _, _ => ⟨[], rfl, rfl⟩
  | x :: r, opt, reg, hwf, hc => by
    have hwf' : orgWF x = true ∧ orgWFL r = true := by simpa [orgWFL] using hwf
    have hc' : orgClosed reg x = true ∧ orgClosedL reg r = true := by simpa [orgClosedL] using hc
    obtain ⟨j, e1, e2⟩ := origin_rt x opt reg hwf'.1 hc'.1
    obtain ⟨js, e3, e4⟩ := originL_rt r opt reg hwf'.2 hc'.2
    exact ⟨j :: js, by simp only [encOriginL, e1, e3]; rfl, by
      simp only [decOriginL, e2, canonOL]
      show (decOriginL reg js >>= fun q => pure (q.1, canonO reg x :: q.2)) = _
      rw [e4]; rfl⟩
end

/-- **Origins of every kind round-trip**, in the full form (`opt = false`) and in the index form
(`opt = true`): for a constructible origin whose sources are registered, `as_dict` succeeds and `as_obj` of
the result, in the same registry, leaves the registry unchanged and returns the origin with every source
replaced by the registered instance and — for a `MultiOrigin`, whose `source` / `position` are not read
back — the derived fields recomputed; that origin is `==` the original. -/
theorem origin_roundtrip (opt : Bool) (reg : SrcReg) (o : Org) (hwf : orgWF o = true)
    (hc : orgClosed reg o = true) :
    ∃ j, encOrigin opt reg o = .ok j ∧ decOrigin reg j = .ok (reg, canonO reg o)
      ∧ eqvO (canonO reg o) o = true := by
  obtain ⟨j, e1, e2⟩ := origin_rt o opt reg hwf hc
  exact ⟨j, e1, e2, by simp [eqvO, canonO_strip o reg hwf]⟩

theorem mkMultiC_ok (reg : SrcReg) (os : List Org) (h : 2 ≤ os.length) :
    ∃ reg', mkMultiC reg os
      = .ok (reg', .multi (deriveSrc (os.map Org.source)) (.set (os.map Org.position)) os) := by
  unfold mkMultiC
  rw [if_neg (by omega)]
  exact ⟨_, rfl⟩

mutual
theorem origin_full_rt : ∀ (o : Org) (reg0 : SrcReg), orgWF o = true →
    ∃ j, encOrigin false reg0 o = .ok j ∧
      ∀ reg, ∃ reg' o', decOrigin reg j = .ok (reg', o') ∧ stripO o' = stripO o
  | .none, _, _ => ⟨.map [], rfl, fun reg => ⟨reg, .none, rfl, rfl⟩⟩
  | .code g s r, reg0, hwf => by
    have hs : srcWF s = true := by simp only [orgWF, Bool.and_eq_true] at hwf; exact hwf.1.1
    refine ⟨_, by simp only [encOrigin, encSource_full]; rfl, fun reg => ⟨_, _,
      (decOrigin_enc reg).2.1 g s r _ _ _ hwf (dec_encFull s reg hs), ?_⟩⟩
    simp only [stripO, intern_strip]
  | .other k s p, reg0, hwf => by
    have hs : srcWF s = true := by simp only [orgWF, Bool.and_eq_true] at hwf; exact hwf.1
    refine ⟨_, by simp only [encOrigin, encSource_full]; rfl, fun reg => ⟨_, _,
      (decOrigin_enc reg).2.2 k s p _ _ _ hwf (dec_encFull s reg hs), ?_⟩⟩
    simp only [stripO, intern_strip]
  | .multi s p os, reg0, hwf => by
    simp only [orgWF, Bool.and_eq_true, decide_eq_true_eq] at hwf
    obtain ⟨⟨⟨hlen, hs⟩, hp⟩, hwfl⟩ := hwf
    have e1 := encSource_full reg0 s
    obtain ⟨js, e2, e3⟩ := originL_full_rt os reg0 hwfl
    refine ⟨_, by simp only [encOrigin, e1, e2]; rfl, fun reg => ?_⟩
    obtain ⟨reg1, os', e4, e5⟩ := e3 reg
    have hlen' : 2 ≤ os'.length := by
      have : (stripOL os').length = (stripOL os).length := by rw [e5]
      simp only [stripOL_eq_map, List.length_map] at this
      omega
    obtain ⟨reg2, e6⟩ := mkMultiC_ok reg1 os' hlen'
    refine ⟨reg2, _, by rw [(decOrigin_enc reg).1, e4]; exact e6, ?_⟩
    rw [multi_strip_congr os os' e5, ← hs, ← hp]
theorem originL_full_rt : ∀ (os : List Org) (reg0 : SrcReg), orgWFL os = true →
    ∃ js, encOriginL false reg0 os = .ok js ∧
      ∀ reg, ∃ reg' os', decOriginL reg js = .ok (reg', os') ∧ stripOL os' = stripOL os
  | [], _, _ => ⟨[], rfl, fun reg => ⟨reg, [], rfl, rfl⟩⟩
  | x :: r, reg0, hwf => by
    have hwf' : orgWF x = true ∧ orgWFL r = true := by simpa [orgWFL] using hwf
    obtain ⟨j, e1, e2⟩ := origin_full_rt x reg0 hwf'.1
    obtain ⟨js, e3, e4⟩ := originL_full_rt r reg0 hwf'.2
    refine ⟨j :: js, by simp only [encOriginL, e1, e3]; rfl, fun reg => ?_⟩
    obtain ⟨reg1, x', e5, e6⟩ := e2 reg
    obtain ⟨reg2, r', e7, e8⟩ := e4 reg1
    refine ⟨reg2, x' :: r', ?_, by simp only [stripOL, e6, e8]⟩
    simp only [decOriginL, e5]
    show (decOriginL reg1 js >>= fun q => pure (q.1, x' :: q.2)) = _
    rw [e7]; rfl
end

/-- **Full-form round trip in any registry**: the full serialization of a constructible origin (written
against any registry `reg0`) decodes in any registry `reg` — the empty registry of a fresh process
included — to an origin `==` the original (sources not yet registered are registered on the way). -/
theorem origin_roundtrip_any_registry (reg0 reg : SrcReg) (o : Org) (hwf : orgWF o = true) :
    ∃ j reg' o', encOrigin false reg0 o = .ok j ∧ decOrigin reg j = .ok (reg', o') ∧ eqvO o' o = true := by
  obtain ⟨j, e1, e2⟩ := origin_full_rt o reg0 hwf
  obtain ⟨reg', o', e3, e4⟩ := e2 reg
  exact ⟨j, reg', o', e1, e3, by simp [eqvO, e4]⟩

/-- **`NoOrigin` / `NoSource` / `NoPosition` serialize to `{}` (whatever the options and the registry) and
`{}` — as well as any dict tagged with their class name — comes back as the very singleton**; inside an
origin, a `NoSource` source and a `NoPosition` position come back as the singletons too. -/
theorem singletons_roundtrip (opt : Bool) (reg : SrcReg) (dflt : Str) (rest : List (Str × J)) :
    encOrigin opt reg .none = .ok (.map []) ∧ decOrigin reg (.map []) = .ok (reg, .none)
    ∧ encSource opt reg .noSource = .ok (.map []) ∧ decSource reg (.map []) = .ok (reg, .noSource)
    ∧ encPosition .noPos = .map [] ∧ decPosition dflt (.map []) = .ok .noPos
    ∧ decOrigin reg (.map ((kType, .str cNoOrigin) :: rest)) = .ok (reg, .none)
    ∧ decSource reg (.map ((kType, .str cNoSource) :: rest)) = .ok (reg, .noSource)
    ∧ decPosition dflt (.map ((kType, .str cNoPosition) :: rest)) = .ok .noPos
    ∧ canonS reg .noSource = .noSource
    ∧ (∀ k, canonO reg (.other k .noSource .noPos) = .other k .noSource .noPos) :=
  ⟨rfl, rfl, rfl, rfl, rfl, rfl, rfl, rfl, rfl, rfl, fun _ => rfl⟩

theorem indexOf_map_strip (reg : SrcReg) (s : Source) : indexOf (reg.map Source.strip) s = indexOf reg s := by
  unfold indexOf; rw [locate_map_strip]; cases locate reg s <;> rfl

theorem encSource_true_map_strip (reg : SrcReg) (s : Source) :
    encSource true (reg.map Source.strip) s = encSource true reg s := by
  unfold encSource; rw [indexOf_map_strip]

mutual
theorem encOrigin_true_map_strip : ∀ (o : Org) (reg : SrcReg),
    encOrigin true (reg.map Source.strip) o = encOrigin true reg o
  | .none, _ => rfl
  | .code .., reg | .other .., reg => by simp only [encOrigin, encSource_true_map_strip]
  | .multi _ _ os, reg => by simp only [encOrigin, encSource_true_map_strip, encOriginL_true_map_strip os reg]
theorem encOriginL_true_map_strip : ∀ (os : List Org) (reg : SrcReg),
    encOriginL true (reg.map Source.strip) os = encOriginL true reg os
  | [], _ => rfl
  | x :: r, reg => by simp only [encOriginL, encOrigin_true_map_strip x reg, encOriginL_true_map_strip r reg]
end

mutual
theorem orgClosed_map_strip : ∀ (o : Org) (reg : SrcReg), orgClosed (reg.map Source.strip) o = orgClosed reg o
  | .none, _ => rfl
  | .code .., reg | .other .., reg => by simp only [orgClosed, closed_map_strip]
  | .multi _ _ os, reg => by simp only [orgClosed, closed_map_strip, orgClosedL_map_strip os reg]
theorem orgClosedL_map_strip : ∀ (os : List Org) (reg : SrcReg),
    orgClosedL (reg.map Source.strip) os = orgClosedL reg os
  | [], _ => rfl
  | x :: r, reg => by simp only [orgClosedL, orgClosed_map_strip x reg, orgClosedL_map_strip r reg]
end

/-- **Index-based serialization of an origin round-trips once the separately serialized sources have been
loaded.**  Preconditions, all needed: the sources are loaded into the EMPTY registry, as the complete list
`Source.all_as_dict()` in registration order, of a registry in which every `SourceSet` comes after what it
contains (`regOK`). -/
theorem origin_index_roundtrip (reg : SrcReg) (hreg : regOK [] reg = true) (o : Org) (hwf : orgWF o = true)
    (hc : orgClosed reg o = true) :
    ∃ j reg' o', encOrigin true reg o = .ok j
      ∧ loadSerializedSources clearRegistry (allAsDict reg) = .ok reg'
      ∧ decOrigin reg' j = .ok (reg', o') ∧ eqvO o' o = true := by
  have hc' : orgClosed (reg.map Source.strip) o = true := by rw [orgClosed_map_strip]; exact hc
  obtain ⟨j, e1, e2, e3⟩ := origin_roundtrip true (reg.map Source.strip) o hwf hc'
  rw [encOrigin_true_map_strip] at e1
  exact ⟨j, _, _, e1, load_roundtrip reg hreg, e2, e3⟩

/-! ## the preconditions are needed (counterexamples), and the statements are not vacuous -/

section Examples
def sA : Source := .memory "m1".toList (.text "abc".toList)
def sA' : Source := .memory "m1".toList .none                    -- `==` sA, another instance
def sB : Source := .file false "a/b.txt".toList .none
def sC : Source := .zipped "z.zip".toList "in/x.xml".toList .none
def sD : Source := .plain true "u".toList "t".toList (.text "raw".toList)
def sBC : Source := .set [sB, sC]
def rg : CodeRange := ⟨⟨1, 1, 1⟩, ⟨5, 2, 0⟩⟩
def oMulti : Org :=
  .multi sBC (.set [.code rg, .set [.xml "/a/b".toList, .noPos, .entire]])
    [.code false sB rg, .other .xml sC (.set [.xml "/a/b".toList, .noPos, .entire])]
def oSame : Org :=
  .multi sA (.set [.code rg, .code EMPTY_CODE_RANGE]) [.code false sA rg, .code true sA' EMPTY_CODE_RANGE]

/-- loading into a NON-empty registry shifts the indexes: index 0 written against `[sB, sC]` decodes to the
unrelated source that was already there -/
theorem load_needs_empty_registry :
    encSource true [sB, sC] sB = .ok (.map [(kIdx, .int 0)])
    ∧ loadSerializedSources [sD] (allAsDict [sB, sC]) = .ok [sD, sB, sC]
    ∧ decSource [sD, sB, sC] (.map [(kIdx, .int 0)]) = .ok ([sD, sB, sC], sD)
    ∧ (sD == sB) = false :=
  ⟨by decide +kernel, (load_eq_intern _ _ (by decide +kernel)).trans (by decide +kernel), decSource_idx _ 0,
    by decide +kernel⟩

/-- a registry in which a `SourceSet` precedes one of its members (possible after `clear_registry` while the
member object is still alive) does NOT rebuild: loading re-registers the member before the set, so the
indexes of the set and the member are swapped -/
theorem load_needs_order :
    regOK [] [sB, sBC, sC] = false
    ∧ loadSerializedSources clearRegistry (allAsDict [sB, sBC, sC]) = .ok [sB, sC, sBC]
    ∧ encSource true [sB, sBC, sC] sBC = .ok (.map [(kIdx, .int 1)])
    ∧ decSource [sB, sC, sBC] (.map [(kIdx, .int 1)]) = .ok ([sB, sC, sBC], sC)
    ∧ (sC == sBC) = false :=
  ⟨by decide, (load_eq_intern _ _ (by decide)).trans (by decide), by decide,
    decSource_idx _ 1, by decide⟩

/-- without loading, an index does not decode -/
theorem index_needs_load : decSource clearRegistry (.map [(kIdx, .int 0)]) = .error .value :=
  decSource_idx _ 0

/-- an unregistered source has no index form (`KeyError` in the real code) -/
theorem index_needs_registered : encSource true [sB] sC = .error .key := by decide

-- non-vacuity: a registry satisfying `regOK`, origins satisfying the hypotheses, and the concrete outcomes.
-- Where a round-trip theorem gives the outcome it is used, and only its side conditions are evaluated.
private theorem regOK_ex : regOK [] [sA, sB, sC, sBC, sD] = true := by decide +kernel
private theorem oMulti_ok : orgWF oMulti = true ∧ orgClosed [sA, sB, sC, sBC, sD] oMulti = true := by
  decide +kernel
private theorem oSame_ok : orgWF oSame = true ∧ orgClosed [sA, sB, sC, sBC, sD] oSame = true := by
  decide +kernel

private theorem roundtrip_of_canon {opt : Bool} {reg : SrcReg} {o o' : Org} (hwf : orgWF o = true)
    (hc : orgClosed reg o = true) (h : canonO reg o = o') :
    (encOrigin opt reg o >>= decOrigin reg) = .ok (reg, o') := by
  obtain ⟨j, e1, e2, _⟩ := origin_roundtrip opt reg o hwf hc
  rw [e1, ← h]; exact e2

private theorem canon_oMulti : canonO [sA, sB, sC, sBC, sD] oMulti = oMulti := by decide +kernel

example : regOK [] [sA, sB, sC, sBC, sD] = true := regOK_ex
example : orgWF oMulti = true ∧ orgClosed [sA, sB, sC, sBC, sD] oMulti = true := oMulti_ok
example : orgWF oSame = true ∧ orgClosed [sA, sB, sC, sBC, sD] oSame = true := oSame_ok
example : loadSerializedSources clearRegistry (allAsDict [sA, sB, sC, sBC, sD])
    = .ok [sA', sB, sC, sBC, .plain true "u".toList "t".toList .none] := load_roundtrip _ regOK_ex
example : (encOrigin true [sA, sB, sC, sBC, sD] oMulti >>= decOrigin [sA, sB, sC, sBC, sD])
    = .ok ([sA, sB, sC, sBC, sD], oMulti) := roundtrip_of_canon oMulti_ok.1 oMulti_ok.2 canon_oMulti
example : (encOrigin false [sA, sB, sC, sBC, sD] oMulti >>= decOrigin [sA, sB, sC, sBC, sD])
    = .ok ([sA, sB, sC, sBC, sD], oMulti) := roundtrip_of_canon oMulti_ok.1 oMulti_ok.2 canon_oMulti
-- the `==` member `sA'` comes back as the registered instance `sA` (with its `_raw`)
example : (encOrigin false [sA, sB] oSame >>= decOrigin [sA, sB])
    = .ok ([sA, sB], .multi sA (.set [.code rg, .code EMPTY_CODE_RANGE])
        [.code false sA rg, .code true sA EMPTY_CODE_RANGE]) :=
  roundtrip_of_canon oSame_ok.1 (by decide +kernel) (by decide +kernel)
-- decoding the full form into the empty registry registers the sources and the derived set
example : (encOrigin false [] oMulti >>= decOrigin []) = .ok ([sB, sC, sBC], oMulti) := by decide +kernel
example : encOrigin true [sA, sB, sC, sBC, sD] oMulti = .ok (typed cMulti
    [(kSource, .map [(kIdx, .int 3)]),
     (kPosition, encPosition (.set [.code rg, .set [.xml "/a/b".toList, .noPos, .entire]])),
     (kOrigins, .list [
        typed cCodeOrigin [(kSource, .map [(kIdx, .int 1)]), (kPosition, encPosition (.code rg))],
        typed cXMLOrigin [(kSource, .map [(kIdx, .int 2)]),
          (kPosition, typed cPositionSet [(kPositions, .list [typed cXMLPath [(kXpath, .str "/a/b".toList)], .map [],
            typed cEntire []])])]])]) := rfl
example : decSource [sA] (encSourceFull sA') = .ok ([sA], sA) :=
  (dec_encFull sA' [sA] rfl).trans (by decide)
example : decSource [] (encSourceFull sA) = .ok ([sA'], sA') := dec_encFull sA [] rfl
end Examples

end PyOak.C04O

#print axioms PyOak.C04O.source_roundtrip
#print axioms PyOak.C04O.source_index_same_registry
#print axioms PyOak.C04O.load_roundtrip
#print axioms PyOak.C04O.source_index_roundtrip
#print axioms PyOak.C04O.position_roundtrip
#print axioms PyOak.C04O.origin_roundtrip
#print axioms PyOak.C04O.origin_roundtrip_any_registry
#print axioms PyOak.C04O.origin_index_roundtrip
#print axioms PyOak.C04O.singletons_roundtrip
#print axioms PyOak.C04O.load_needs_empty_registry
#print axioms PyOak.C04O.load_needs_order
#print axioms PyOak.C04O.index_needs_load
#print axioms PyOak.C04O.index_needs_registered
#print axioms PyOak.C04O.beq_refl
#print axioms PyOak.C04O.beq_symm
#print axioms PyOak.C04O.beq_trans
