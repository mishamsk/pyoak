/-
C11, "each dataclass field lands in exactly one class": the annotation model (`Annot`, C11) against the
accessor model (`Acc`, C12).

* `addField_cons_ne`, `addField_cons_eq`, `dictSet_map`   one write into the field dict: `Annot.addField` (replace
  EVERY entry of that name) and `Acc.dictSet` (replace the FIRST entry) agree on a dict with distinct names —
  and only there: `addField_dictSet_differ`
* `resolve_eq_effective`   the two models of `dataclasses.fields` are EQUAL on every chain (both start from the
  empty dict, and distinctness of names is an invariant): `Acc.resolve (levels mapped by g) = (Annot.effective
  levels).map g` for every name-preserving `g`.  Each model has its own "last declaration wins"
  (`lookup_effective` in Props/C11Class.lean, `Acc.C12.fields_most_derived` in Props/C12Fields.lean): the one here
  speaks of the annotation, which an `Acc.FDecl` does not hold, so it is not obtained from the other through this
  equation
* `classDecl_fields`       `dataclasses.fields` of the accessor-model class of a chain, `ASTNode`'s own fields included
* `fkind_*`                the stored kind against the verdict / the shape
* `field_lands_in_exactly_one`   for an accepted class: the field names of the accessor model are those of the
  outcome `vs` of the annotation model; the child-field table holds exactly the fields with verdict `.child`, the
  property table exactly those with verdict `.prop`, in dataclass order; every field is in one of the two tables
  and none is in both (disjoint + exhaustive)
* `field_lands_in_exactly_one_of_passed`   the same for a class whose definition-time check passes
-/
import PyOak.Model.AnnotAcc
import PyOak.Props.C11Class
import PyOak.Props.C12Fields
import PyOak.Lemmas.Framing
namespace PyOak
namespace C11
open Annot Annot.Ty

theorem addField_cons_ne (a f : Field) (r : List Field) (h : a.name ≠ f.name) :
    addField (a :: r) f = a :: addField r f := by
  have hb : (a.name == f.name) = false := by simpa using h
  unfold addField
  simp only [List.any_cons, hb, Bool.false_or]
  split
  · simp [h]
  · rfl

theorem addField_cons_eq (a f : Field) (r : List Field) (h : a.name = f.name)
    (hnd : ∀ x ∈ r, x.name ≠ a.name) : addField (a :: r) f = f :: r := by
  unfold addField
  simp only [List.any_cons, h, beq_self_eq_true, Bool.true_or, if_true, List.map_cons]
  congr 1
  refine (List.map_congr_left fun x hx => ?_).trans (List.map_id r)
  exact if_neg fun e => hnd x hx ((beq_iff_eq.1 e).trans h.symm)

/-- one write into the field dict: the two step functions agree when the names in the dict are distinct -/
theorem dictSet_map (g : Field → Acc.FDecl) (hg : ∀ f, (g f).name = f.name) (acc : List Field) (f : Field)
    (hnd : (acc.map (·.name)).Nodup) :
    Acc.dictSet (acc.map g) (g f) = (addField acc f).map g := by
  induction acc with
  | nil => simp [Acc.dictSet, addField]
  | cons a r ih =>
    simp only [List.map_cons, List.nodup_cons, List.mem_map, not_exists, not_and] at hnd
    simp only [List.map_cons, Acc.dictSet, hg]
    by_cases h : a.name = f.name
    · rw [if_pos h, addField_cons_eq a f r h (fun x hx e => hnd.1 x hx e)]
      rfl
    · rw [if_neg h, addField_cons_ne a f r h, ih hnd.2]
      rfl

/-- … and differ on a dict that holds a name twice (which `dataclasses` never builds) -/
theorem addField_dictSet_differ :
    ∃ (acc : List Field) (f : Field),
      (addField acc f).map (toDecl stdAttrs) ≠ Acc.dictSet (acc.map (toDecl stdAttrs)) (toDecl stdAttrs f) :=
  ⟨[⟨['x'], .atom .int⟩, ⟨['x'], .node 0⟩], ⟨['x'], .atom .str⟩, by decide⟩

theorem foldl_dictSet_map (g : Field → Acc.FDecl) (hg : ∀ f, (g f).name = f.name) (lvl acc : List Field)
    (hnd : (acc.map (·.name)).Nodup) :
    (lvl.map g).foldl Acc.dictSet (acc.map g) = (lvl.foldl addField acc).map g := by
  induction lvl generalizing acc with
  | nil => rfl
  | cons f r ih =>
    simp only [List.map_cons, List.foldl_cons]
    rw [dictSet_map g hg acc f hnd, ih _ (addField_nodup acc f hnd)]

/-- `Acc.resolve` and `Annot.effective` are the same function of the declarations: the two models of
`dataclasses.fields` coincide on every chain, for every reading `g` of a field that keeps its name -/
theorem resolve_eq_effective (g : Field → Acc.FDecl) (hg : ∀ f, (g f).name = f.name) (ls : List Level) :
    Acc.resolve (ls.map fun lvl => lvl.map g) = (effective ls).map g := by
  rw [Acc.resolve, ← List.foldl_flatten, ← List.map_flatten, effective_eq_foldl]
  exact foldl_dictSet_map g hg ls.flatten [] List.nodup_nil

/-- `dataclasses.fields(cls)` in the accessor model = the effective fields of the annotation model (the level of
`ASTNode` first), read through `toDecl` -/
theorem classDecl_fields (attrs : Field → Bool × Bool × Bool)
    (hbase : baseLevel.map (toDecl attrs) = Acc.baseFields) (ls : List Level) :
    (classDecl attrs ls).fields = (effective (baseLevel :: ls)).map (toDecl attrs) := by
  rw [← resolve_eq_effective (toDecl attrs) fun _ => rfl]
  simp only [Acc.ClassDecl.fields, classDecl, List.map_cons, hbase]

theorem stdAttrs_base : baseLevel.map (toDecl stdAttrs) = Acc.baseFields := by decide

theorem fkind_none_iff (t : Ty) : fkind t = Option.none ↔ classify t = .reject := by
  unfold fkind; cases classify t <;> simp

theorem fkind_prop_iff (t : Ty) : fkind t = some .prop ↔ classify t = .prop := by
  unfold fkind; cases classify t <;> simp
  -- left: a child, whose stored kind is `childTuple` or `childOne`, never `prop`
  split <;> simp

theorem fkind_child_iff (t : Ty) :
    (fkind t = some .childOne ∨ fkind t = some .childTuple) ↔ classify t = .child := by
  unfold fkind; cases classify t <;> simp

/-- a child field is stored as a tuple field (`is_collection`) exactly when its annotation is a tuple, possibly
behind NewTypes — then the generated accessors iterate it; otherwise they test it against None -/
theorem fkind_tuple_iff (t : Ty) : fkind t = some .childTuple ↔ (ChildShape t ∧ IsTuple t) := by
  -- a child-shaped annotation that unwraps to a container unwraps to a tuple
  have key : ChildShape t → (t.unwrap.isTupleType = true ↔ IsTuple t) := fun hc => by
    have hu := (childShape_unwrap t).2 hc
    unfold IsTuple
    cases h : t.unwrap <;> rw [h] at hu <;> simp [isTupleType]
    exact (childShape_coll.1 hu).1
  rw [← classify_child_iff]
  unfold fkind
  cases hc : classify t <;> simp
  exact key ((classify_child_iff t).1 hc)

theorem filter_map_names (E : List Field) (attrs : Field → Bool × Bool × Bool) (p : Acc.FDecl → Bool)
    (v : Verdict) (h : ∀ f ∈ E, p (toDecl attrs f) = (classify f.ty == v)) :
    (((E.map (toDecl attrs)).filter p).map Acc.FDecl.name) =
      ((E.map fun f => (f.name, classify f.ty)).filter (·.2 == v)).map (·.1) := by
  rw [List.filter_map, List.filter_map, List.map_map, List.map_map]
  exact congrArg (List.map _) (List.filter_congr h)

theorem mem_table_iff {vs : List (Str × Verdict)} (hnd : (vs.map (·.1)).Nodup) {p : Str × Verdict}
    (hp : p ∈ vs) (v : Verdict) : p.1 ∈ (vs.filter (·.2 == v)).map (·.1) ↔ p.2 = v := by
  constructor
  · intro h
    obtain ⟨q, hq, e⟩ := List.mem_map.1 h
    obtain ⟨hq, hv⟩ := List.mem_filter.1 hq
    rw [← Framing.eq_of_nodup_map (·.1) vs hnd q hq p hp e]
    exact beq_iff_eq.1 hv
  · exact fun h => List.mem_map.2 ⟨p, List.mem_filter.2 ⟨hp, beq_iff_eq.2 h⟩, rfl⟩

theorem toDecl_accepted (attrs : Field → Bool × Bool × Bool) (f : Field)
    (h : classify f.ty = .child ∨ classify f.ty = .prop) :
    fkind f.ty = some (toDecl attrs f).kind ∧ (toDecl attrs f).isChild = (classify f.ty == .child) ∧
    (toDecl attrs f).isProp = (classify f.ty == .prop) := by
  rcases h with hc | hc <;> simp [toDecl, fkind, Acc.FDecl.isChild, Acc.FDecl.isProp, hc]
  -- left: a child is in the child table whichever of the two child kinds it has
  split <;> simp

/-- "each dataclass field lands in exactly one class": for a class that the annotation model accepts with
outcome `vs`, the accessor model (built from the same declarations) has
* the same fields in the same order,
* as child-field table exactly the fields `vs` gives the verdict `.child`, in that order,
* as property table exactly the fields `vs` gives the verdict `.prop`, in that order,
* for every field the kind `fkind` computes from its annotation,
and every field is in one of the two tables, none in both -/
theorem field_lands_in_exactly_one (attrs : Field → Bool × Bool × Bool)
    (hbase : baseLevel.map (toDecl attrs) = Acc.baseFields) (ls : List Level) (vs : List (Str × Verdict))
    (h : classOutcome (baseLevel :: ls) = some vs) :
    (classDecl attrs ls).fields.map Acc.FDecl.name = vs.map (·.1) ∧
    (classDecl attrs ls).childFields.map Acc.FDecl.name = (vs.filter (·.2 == .child)).map (·.1) ∧
    (classDecl attrs ls).props.map Acc.FDecl.name = (vs.filter (·.2 == .prop)).map (·.1) ∧
    (∀ f ∈ effective (baseLevel :: ls), fkind f.ty = some (toDecl attrs f).kind) ∧
    (∀ n ∈ (classDecl attrs ls).fields.map Acc.FDecl.name,
      (n ∈ (classDecl attrs ls).childFields.map Acc.FDecl.name ∨
        n ∈ (classDecl attrs ls).props.map Acc.FDecl.name) ∧
      ¬ (n ∈ (classDecl attrs ls).childFields.map Acc.FDecl.name ∧
        n ∈ (classDecl attrs ls).props.map Acc.FDecl.name)) := by
  have hvs := (classOutcome_some _ vs h).1
  have hcp := (classOutcome_some _ vs h).2
  have hnd := (fields_partition _ vs h).2
  have hacc : ∀ f ∈ effective (baseLevel :: ls), classify f.ty = .child ∨ classify f.ty = .prop := by
    intro f hf
    exact hcp (f.name, classify f.ty) (by rw [hvs]; exact List.mem_map.2 ⟨f, hf, rfl⟩)
  have hdecl := fun f hf => toDecl_accepted attrs f (hacc f hf)
  have hfields := classDecl_fields attrs hbase ls
  have h1 : (classDecl attrs ls).fields.map Acc.FDecl.name = vs.map (·.1) := by
    rw [hfields, hvs, List.map_map, List.map_map]; rfl
  have h2 : (classDecl attrs ls).childFields.map Acc.FDecl.name = (vs.filter (·.2 == .child)).map (·.1) := by
    rw [Acc.C12.childFields_eq, hfields, hvs]
    exact filter_map_names _ attrs _ _ fun f hf => (hdecl f hf).2.1
  have h3 : (classDecl attrs ls).props.map Acc.FDecl.name = (vs.filter (·.2 == .prop)).map (·.1) := by
    rw [Acc.C12.props_eq, hfields, hvs]
    exact filter_map_names _ attrs _ _ fun f hf => (hdecl f hf).2.2
  refine ⟨h1, h2, h3, fun f hf => (hdecl f hf).1, ?_⟩
  intro n hn
  rw [h1] at hn
  obtain ⟨p, hp, rfl⟩ := List.mem_map.1 hn
  rw [h2, h3, mem_table_iff hnd hp, mem_table_iff hnd hp]
  exact ⟨hcp p hp, fun ⟨a, b⟩ => by rw [a] at b; cases b⟩

/-- the same, without the clause on `fkind`, for a class whose definition-time check passes -/
theorem field_lands_in_exactly_one_of_passed (attrs : Field → Bool × Bool × Bool)
    (hbase : baseLevel.map (toDecl attrs) = Acc.baseFields) (ls : List Level)
    (h : defCheck (baseLevel :: ls) = .passed) :
    ∃ vs, classOutcome (baseLevel :: ls) = some vs ∧
    (classDecl attrs ls).fields.map Acc.FDecl.name = vs.map (·.1) ∧
    (classDecl attrs ls).childFields.map Acc.FDecl.name = (vs.filter (·.2 == .child)).map (·.1) ∧
    (classDecl attrs ls).props.map Acc.FDecl.name = (vs.filter (·.2 == .prop)).map (·.1) ∧
    (∀ n ∈ (classDecl attrs ls).fields.map Acc.FDecl.name,
      (n ∈ (classDecl attrs ls).childFields.map Acc.FDecl.name ∨
        n ∈ (classDecl attrs ls).props.map Acc.FDecl.name) ∧
      ¬ (n ∈ (classDecl attrs ls).childFields.map Acc.FDecl.name ∧
        n ∈ (classDecl attrs ls).props.map Acc.FDecl.name)) := by
  have hv := defCheck_passed_accepts _ h
  rw [← classOutcome_eq] at hv
  obtain ⟨a, b, c, _, e⟩ := field_lands_in_exactly_one attrs hbase ls _ hv
  exact ⟨_, hv, a, b, c, e⟩

example : classOutcome (baseLevel :: [[⟨['k'], .vtuple (.node 0)⟩, ⟨['v'], .atom .int⟩],
      [⟨['v'], .union (.node 1) [.none]⟩]]) =
    some [(Acc.nmId, .prop), (Acc.nmContentId, .prop), (Acc.nmOrigin, .prop), (['k'], .child), (['v'], .child)] := by
  decide +kernel
example : ((classDecl stdAttrs [[⟨['k'], .vtuple (.node 0)⟩, ⟨['v'], .atom .int⟩],
      [⟨['v'], .union (.node 1) [.none]⟩]]).childFields.map fun d => (d.name, d.kind)) =
    [(['k'], .childTuple), (['v'], .childOne)] := by decide
example : defCheck (baseLevel :: [[⟨['k'], .vtuple (.node 0)⟩, ⟨['v'], .atom .int⟩]]) = .passed := by decide
example : fkind (.newtype (.coll .tuple [.node 0, .node 1])) = some .childTuple ∧
    fkind (.union (.node 0) [.none]) = some .childOne ∧ fkind (.coll .list []) = Option.none := by decide

end C11
end PyOak
