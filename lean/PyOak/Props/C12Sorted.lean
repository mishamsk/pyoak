/- C12: the order used under `sort_keys=True` is *the* name order; the sorted variant is the unsorted variant
   sorted by field name; `to_properties_dict`. -/
import PyOak.Props.C12Acc
namespace PyOak
namespace Acc
namespace C12

/-- the order used under `sort_keys=True` is *the* name order of the fields -/
theorem ordered_isNameOrder (ds : List FDecl) : IsNameOrder (ordered true ds) ds :=
  ⟨sortByName_perm FDecl.name ds, sortByName_pairwise FDecl.name ds⟩

/-- … and name order is unique when the names are pairwise distinct (as the fields of a class are) -/
theorem nameOrder_unique (out₁ out₂ ds : List FDecl) (hn : (ds.map FDecl.name).Nodup)
    (h₁ : IsNameOrder out₁ ds) (h₂ : IsNameOrder out₂ ds) : out₁ = out₂ := by
  apply keyOrder_unique FDecl.name out₁ out₂ (h₁.1.trans h₂.1.symm) h₁.2 h₂.2
  exact (List.Perm.nodup_iff (h₁.1.map FDecl.name)).mpr hn

theorem nodup_filter_names (ds : List FDecl) (p : FDecl → Bool) (hn : (ds.map FDecl.name).Nodup) :
    ((ds.filter p).map FDecl.name).Nodup :=
  List.Pairwise.sublist (List.Sublist.map _ List.filter_sublist) hn

/-- filtering commutes with sorting by (pairwise distinct) names -/
theorem filter_sortByName (ds : List FDecl) (p : FDecl → Bool) (hn : (ds.map FDecl.name).Nodup) :
    (sortByName FDecl.name ds).filter p = sortByName FDecl.name (ds.filter p) := by
  apply keyOrder_unique FDecl.name
  · exact ((sortByName_perm FDecl.name ds).filter p).trans (sortByName_perm FDecl.name _).symm
  · exact List.Pairwise.sublist List.filter_sublist (sortByName_pairwise FDecl.name ds)
  · exact sortByName_pairwise FDecl.name _
  · apply nodup_filter_names
    exact (List.Perm.nodup_iff ((sortByName_perm FDecl.name ds).map FDecl.name)).mpr hn

theorem props_names_nodup (c : ClassDecl) : ((c.fields.filter FDecl.isProp).map FDecl.name).Nodup :=
  nodup_filter_names _ _ (fields_names_nodup c)

/-- **sorted variant = the unsorted variant sorted by field name** (fields) -/
theorem property_fields_sorted (c : ClassDecl) (fl : Flags) :
    specPropertyFields c fl true = sortByName FDecl.name (specPropertyFields c fl false) := by
  simp only [specPropertyFields, ordered, if_true, Bool.false_eq_true, if_false]
  exact filter_sortByName _ _ (props_names_nodup c)

/-- **`get_properties(sort_keys=True)` = `sorted(get_properties(), key=field name)`** -/
theorem get_properties_sorted (c : ClassDecl) (i : Inst) (fl : Flags) :
    getProperties c i fl true = sortByName (fun p => p.2.name) (getProperties c i fl false) := by
  rw [get_properties_eq_spec, get_properties_eq_spec]
  unfold specProperties
  rw [property_fields_sorted, Framing.sortByName_map _ _ _ fun _ => rfl]

/-- the fields yielded under `sort_keys=True` are the name order of the static result -/
theorem get_properties_sorted_fields (c : ClassDecl) (i : Inst) (fl : Flags) :
    IsNameOrder ((getProperties c i fl true).map (·.2)) (getPropertyFields c fl) := by
  rw [get_properties_eq_spec, get_property_fields_eq_spec]
  simp only [specProperties, List.map_map, Function.comp_def, List.map_id']
  rw [property_fields_sorted]
  exact ordered_isNameOrder _

/-- sorted and unsorted `get_child_nodes_with_field` enumerate the same positions -/
theorem child_nodes_sorted_perm (c : ClassDecl) (i : Inst) :
    (getChildNodesWithField c i true).Perm (getChildNodesWithField c i false) := by
  rw [get_child_nodes_with_field_eq_spec, get_child_nodes_with_field_eq_spec]
  unfold specChildNodesWithField
  exact List.Perm.flatMap_right _ (sortByName_perm FDecl.name _)

/-! ## `to_properties_dict` -/

theorem dictPut_fresh (acc : List (Str × FVal)) (k : Str) (v : FVal) (h : ∀ e ∈ acc, e.1 ≠ k) :
    dictPut acc k v = acc ++ [(k, v)] := by
  induction acc with
  | nil => rfl
  | cons e t ih => rw [dictPut, if_neg (h e (by simp)), ih fun x hx => h x (by simp [hx])]; rfl

theorem foldl_dictPut {α : Type} (kf : α → Str) (vf : α → FVal) (l : List α) (acc : List (Str × FVal))
    (hn : (l.map kf).Nodup) (hd : ∀ x ∈ l, ∀ e ∈ acc, e.1 ≠ kf x) :
    l.foldl (fun d x => dictPut d (kf x) (vf x)) acc = acc ++ l.map fun x => (kf x, vf x) := by
  induction l generalizing acc with
  | nil => simp
  | cons x r ih =>
    rw [List.map_cons, List.nodup_cons] at hn
    rw [List.foldl_cons, dictPut_fresh _ _ _ (hd x (by simp)), ih _ hn.2]
    · simp
    · intro y hy e he
      rcases List.mem_append.mp he with he | he
      · exact hd y (by simp [hy]) e he
      · cases List.mem_singleton.mp he
        exact fun eq => hn.1 (List.mem_map.mpr ⟨y, hy, eq.symm⟩)

/-- **`to_properties_dict`** maps the name of every user property (defaults: no `id`, `content_id`,
`origin`; non-comparable and non-init properties included) to its value, in declaration order -/
theorem to_properties_dict_eq_spec (c : ClassDecl) (i : Inst) :
    toPropertiesDict c i = specPropertiesDict c i := by
  unfold toPropertiesDict specPropertiesDict
  rw [get_properties_eq_spec, specProperties, List.foldl_map]
  refine (foldl_dictPut FDecl.name (fun d => i.get d.name) _ [] ?_ (fun _ _ _ => nofun)).trans (List.nil_append _)
  exact nodup_filter_names _ _ (nodup_filter_names _ _ (fields_names_nodup c))

end C12
end Acc
end PyOak
