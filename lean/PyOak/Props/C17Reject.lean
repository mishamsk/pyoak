/-
C17, the REJECTION half (cf. AUDIT.md, C17 §4).

Interpreter level (`PM.compile`, = `PatternDefInterpreter().visit(parsed)`):
 * `accepts_iff_wf`       — `(∃ m, compile K p = .ok m) ↔ p.WF K []`: the well-formedness predicate of the
                            acceptance theorem is EXACT (not too strong): every ill-formed tree is rejected;
 * `wf_iff_clauses`       — `WF` (which threads the seen-set like the compiler) is equivalent to the four
                            clauses of the property text, stated independently:
                            every class name exists and is a node class ∧ every regex compiles ∧ the capture
                            names are pairwise distinct (`p.caps.Nodup`) ∧ every variable follows a capture of
                            its name (`p.VB []`);
   `accepts_iff_clauses`  — the two combined;
 * `compile_err_cause`    — WHICH error: `unknownClass` ⇒ some class name of the text is unknown,
                            `notNodeClass` ⇒ some class name is a non-node class, `dupCapture` ⇒ the capture
                            names are not pairwise distinct, `unboundVar` ⇒ some variable does not follow its
                            capture, `badRegex` ⇒ some regex of the text does not compile, and
                            `runtime` (the interpreter's `RuntimeError` ⇒ "Unexpected error", F8) NEVER;
   `compile_no_runtime`   — `compile K p ≠ .error .runtime` for EVERY syntax tree.
Text level (`PM.compilePattern`, = `validate_pattern` / `NodeMatcher.from_pattern`):
 * `pattern_rendering_accepted_iff` — for every derivation of the grammar and every white-space
                            interleaving: accepted ↔ the tree is well-formed;
 * `pattern_rejects_illformed` — every rendering of an ill-formed derivation is rejected with the definition
                            error of the interpreter (`.interp e`, `e ≠ .runtime`, `e` that of `compile`);
 * `compilePattern_no_runtime` — for ARBITRARY text the result is never `.error (.interp .runtime)`;
   `compilePattern_trichotomy` — arbitrary text: accepted, or syntax error, or parsed to an ill-formed tree
                            and rejected by the interpreter.
XPath:
 * `parseXPath_nonempty`  — for ARBITRARY text: an accepted xpath has at least one element ("usable":
                            `elements[0]` in `_match_node_xpath` is safe);
 * `xwalk_no_indexError`  — the `IndexError` branch of the transformer walk is unreachable for every text
                            the parser accepts (so `none` of `parseXPath` = lexer / parser / class rejection);
 * `xpath_unknown_class_rejected` — a written path naming a class that is not a node class is rejected,
                            whatever the white space.
-/
import PyOak.Props.C17Pattern
namespace PyOak
namespace PM

/-! ### the clauses of the property text, each on its own -/

def ClassSpec.classNames : ClassSpec → List Str
  | .any => []
  | .names f r => f :: r

mutual
def Pat.classNames : Pat → List Str
  | .mk cls fields => cls.classNames ++ fields.classNames
def Fields.classNames : Fields → List Str
  | .nil => []
  | .cons _ spec _ rest => spec.classNames ++ rest.classNames
def FSpec.classNames : FSpec → List Str
  | .any => []
  | .val v => v.classNames
  | .seq items _ => items.classNames
def Items.classNames : Items → List Str
  | .nil => []
  | .cons v _ rest => v.classNames ++ rest.classNames
def PVal.classNames : PVal → List Str
  | .tree p => p.classNames
  | _ => []
end

mutual
def Pat.regexes : Pat → List Str
  | .mk _ fields => fields.regexes
def Fields.regexes : Fields → List Str
  | .nil => []
  | .cons _ spec _ rest => spec.regexes ++ rest.regexes
def FSpec.regexes : FSpec → List Str
  | .any => []
  | .val v => v.regexes
  | .seq items _ => items.regexes
def Items.regexes : Items → List Str
  | .nil => []
  | .cons v _ rest => v.regexes ++ rest.regexes
def PVal.regexes : PVal → List Str
  | .tree p => p.regexes
  | .re s => [s]
  | _ => []
end

/-! `X.VB seen` ("variables bound"): every `$x` in `X` is preceded, in text order, by a capture `-> x`
(or `x ∈ seen`: captured before `X`).  Only the variable clause; no class, regex or freshness test. -/
mutual
def Pat.VB : Pat → List Str → Prop
  | .mk _ fields, seen => fields.VB seen
def Fields.VB : Fields → List Str → Prop
  | .nil, _ => True
  | .cons _ spec cap rest, seen => spec.VB seen ∧ rest.VB (capOpt cap ++ (spec.caps.reverse ++ seen))
def FSpec.VB : FSpec → List Str → Prop
  | .any, _ => True
  | .val v, seen => v.VB seen
  | .seq items _, seen => items.VB seen
def Items.VB : Items → List Str → Prop
  | .nil, _ => True
  | .cons v cap rest, seen => v.VB seen ∧ rest.VB (capOpt cap ++ (v.caps.reverse ++ seen))
def PVal.VB : PVal → List Str → Prop
  | .tree p, seen => p.VB seen
  | .var x, seen => x ∈ seen
  | _, _ => True
end

/-- what an interpreter error says about the text: `cn` the class names, `rx` the regexes, `cs` the
capture names (newest first) in front of the names seen before, `vb` the variable clause -/
def Cause (K : CEnv) (cn rx cs : List Str) (vb : Prop) : CErr → Prop
  | .unknownClass => ∃ c ∈ cn, K.cls c = .unknown
  | .notNodeClass => ∃ c ∈ cn, K.cls c = .notNode
  | .dupCapture => ¬ cs.Nodup
  | .unboundVar => ¬ vb
  | .badRegex => ∃ s ∈ rx, K.rxOk s = false
  | .runtime => False

theorem Cause.mono {K : CEnv} {cn rx cs cn' rx' cs' : List Str} {vb vb' : Prop} {e : CErr}
    (h : Cause K cn rx cs vb e) (h1 : ∀ c ∈ cn, c ∈ cn') (h2 : ∀ s ∈ rx, s ∈ rx')
    (h3 : cs'.Nodup → cs.Nodup) (h4 : vb' → vb) : Cause K cn' rx' cs' vb' e := by
  cases e with
  | unknownClass => obtain ⟨c, hc, hk⟩ := h; exact ⟨c, h1 c hc, hk⟩
  | notNodeClass => obtain ⟨c, hc, hk⟩ := h; exact ⟨c, h1 c hc, hk⟩
  | dupCapture => exact fun hn => h (h3 hn)
  | unboundVar => exact fun hv => h (h4 hv)
  | badRegex => obtain ⟨s, hs, hk⟩ := h; exact ⟨s, h2 s hs, hk⟩
  | runtime => exact h

end PM

namespace C17
open PM

/-! ## accepted ⇒ well-formed (the converse of `accepts_wellformed`) -/

theorem resolveNames_node (K : CEnv) : ∀ (l ts : List Str), resolveNames K l = .ok ts → ∀ c ∈ l, K.cls c = .node := by
  intro l
  induction l with
  | nil => intro ts _ c hc; cases hc
  | cons a r ih =>
    intro ts h c hc
    simp only [resolveNames] at h
    split at h <;> try contradiction
    rename_i hk
    split at h <;> try contradiction
    rename_i ts' hts
    cases hc with
    | head => exact hk
    | tail _ hc => exact ih ts' hts c hc

theorem classes_ok (K : CEnv) (cls : ClassSpec) (ts : List Str) (h : resolveClasses K cls = .ok ts) : ClassesOK K cls := by
  cases cls with
  | any => trivial
  | names f r => exact resolveNames_node K _ ts h

theorem applyCap_fresh (m : Matcher) (cap : Option Str) (seen : List Str) (m' : Matcher) (seen' : List Str)
    (h : applyCap m cap seen = .ok (m', seen')) : CapFresh cap seen := by
  rcases C08.applyCap_ok h with ⟨rfl, -⟩ | ⟨c, rfl, hc, -⟩
  · exact nofun
  · exact fun c' e => Option.some.inj e ▸ hc

theorem finishSeq_fresh (ms : Matchers) (tail : Option (Option Str)) (seen : List Str) (m : Matcher) (seen' : List Str)
    (h : finishSeq ms tail seen = .ok (m, seen')) :
    (match tail with | some t => CapFresh t seen | none => True) := by
  cases tail with
  | none => trivial
  | some t =>
    cases t with
    | none => intro c hc; cases hc
    | some c =>
      intro c' hc'
      injection hc' with hc'
      subst hc'
      simp only [finishSeq, checkCap, List.contains_iff_mem] at h
      intro hm
      simp [hm] at h

mutual
theorem pat_wf (K : CEnv) : ∀ (p : Pat) (seen : List Str) (m : Matcher) (seen' : List Str),
    compilePat K p seen = .ok (m, seen') → p.WF K seen
  | .mk cls fields, seen, m, seen', h => by
    obtain ⟨ts, content, hts, hf, -⟩ := C08.compilePat_ok h
    exact ⟨classes_ok K cls ts hts, fields_wf K fields seen content seen' hf⟩
theorem fields_wf (K : CEnv) : ∀ (fs : Fields) (seen : List Str) (c : Content) (seen' : List Str),
    compileFields K fs seen = .ok (c, seen') → fs.WF K seen
  | .nil, _, _, _, _ => trivial
  | .cons name spec cap rest, seen, c, seen', h => by
    obtain ⟨m, seen1, m', seen2, c2, hs, hcap, hrest, -⟩ := C08.compileFields_cons_ok h
    obtain ⟨rfl, -⟩ := C08.fspec_seen K spec seen m seen1 hs
    obtain ⟨rfl, -⟩ := C08.applyCap_seen m cap _ m' seen2 hcap
    exact ⟨fspec_wf K spec seen m _ hs, applyCap_fresh m cap _ m' _ hcap, fields_wf K rest _ c2 seen' hrest⟩
theorem fspec_wf (K : CEnv) : ∀ (spec : FSpec) (seen : List Str) (m : Matcher) (seen' : List Str),
    compileFSpec K spec seen = .ok (m, seen') → spec.WF K seen
  | .any, _, _, _, _ => trivial
  | .val pv, seen, m, seen', h => val_wf K pv seen m seen' h
  | .seq items tail, seen, m, seen', h => by
    obtain ⟨ms, seen1, hi, hfin⟩ := C08.compileFSpec_seq_ok h
    obtain ⟨rfl, -⟩ := C08.items_seen K items seen ms seen1 hi
    refine ⟨items_wf K items seen ms _ hi, ?_⟩
    have := finishSeq_fresh ms tail _ m seen' hfin
    cases tail with
    | none => trivial
    | some t => exact this
theorem items_wf (K : CEnv) : ∀ (items : Items) (seen : List Str) (ms : Matchers) (seen' : List Str),
    compileItems K items seen = .ok (ms, seen') → items.WF K seen
  | .nil, _, _, _, _ => trivial
  | .cons pv cap rest, seen, ms, seen', h => by
    obtain ⟨m, seen1, m', seen2, ms2, hv, hcap, hrest, -⟩ := C08.compileItems_cons_ok h
    obtain ⟨rfl, -⟩ := C08.val_seen K pv seen m seen1 hv
    obtain ⟨rfl, -⟩ := C08.applyCap_seen m cap _ m' seen2 hcap
    exact ⟨val_wf K pv seen m _ hv, applyCap_fresh m cap _ m' _ hcap, items_wf K rest _ ms2 seen' hrest⟩
theorem val_wf (K : CEnv) : ∀ (pv : PVal) (seen : List Str) (m : Matcher) (seen' : List Str),
    compileVal K pv seen = .ok (m, seen') → pv.WF K seen
  | .tree p, seen, m, seen', h => pat_wf K p seen m seen' h
  | .var x, seen, m, seen', h => (C08.compileVal_var_ok h).1
  | .none, _, _, _, _ => trivial
  | .re s, seen, m, seen', h => by
    simp only [compileVal] at h
    split at h
    · assumption
    · cases h
end

theorem compilePat_ok_iff_wf (K : CEnv) (p : Pat) (seen : List Str) :
    (∃ m seen', compilePat K p seen = .ok (m, seen')) ↔ p.WF K seen :=
  ⟨fun ⟨m, seen', h⟩ => pat_wf K p seen m seen' h, pat_accept K p seen⟩

/-- **accepted ⇔ well-formed**: `WF` is exact; every ill-formed syntax tree is rejected -/
theorem accepts_iff_wf (K : CEnv) (p : Pat) : (∃ m, compile K p = .ok m) ↔ p.WF K [] := by
  constructor
  · rintro ⟨m, h⟩
    simp only [compile] at h
    split at h
    · cases h
    rename_i m' seen' hc
    exact pat_wf K p [] m' seen' hc
  · exact accepts_wellformed K p

theorem rejects_illformed (K : CEnv) (p : Pat) (h : ¬ p.WF K []) : ∃ e, compile K p = .error e := by
  cases hc : compile K p with
  | error e => exact ⟨e, rfl⟩
  | ok m => exact absurd ((accepts_iff_wf K p).1 ⟨m, hc⟩) h

/-! ## which error: the cause of each rejection; no "Unexpected error" -/

theorem resolveNames_err (K : CEnv) : ∀ (l : List Str) (e : CErr), resolveNames K l = .error e →
    (e = .unknownClass ∧ ∃ c ∈ l, K.cls c = .unknown) ∨ (e = .notNodeClass ∧ ∃ c ∈ l, K.cls c = .notNode) := by
  intro l
  induction l with
  | nil => intro e h; cases h
  | cons a r ih =>
    intro e h
    simp only [resolveNames] at h
    split at h
    · rename_i hk; injection h with h; exact Or.inl ⟨h.symm, a, by simp, hk⟩
    · rename_i hk; injection h with h; exact Or.inr ⟨h.symm, a, by simp, hk⟩
    · split at h
      · rename_i e' he
        injection h with h
        subst h
        rcases ih e' he with ⟨h1, c, hc, hk⟩ | ⟨h1, c, hc, hk⟩
        · exact Or.inl ⟨h1, c, by simp [hc], hk⟩
        · exact Or.inr ⟨h1, c, by simp [hc], hk⟩
      · cases h

theorem resolveClasses_err (K : CEnv) (cls : ClassSpec) (e : CErr) (h : resolveClasses K cls = .error e)
    (rx cs : List Str) (vb : Prop) : Cause K cls.classNames rx cs vb e := by
  cases cls with
  | any => cases h
  | names f r =>
    rcases resolveNames_err K (f :: r) e h with ⟨rfl, hc⟩ | ⟨rfl, hc⟩
    · exact hc
    · exact hc

/-- `applyCap` on a matcher the interpreter built fails only for a capture name already seen -/
theorem applyCap_err (m : Matcher) (cap : Option Str) (seen : List Str) (e : CErr) (hok : SeqOk m)
    (h : applyCap m cap seen = .error e) : e = .dupCapture ∧ ∃ c, cap = some c ∧ c ∈ seen := by
  cases cap with
  | none => cases h
  | some c =>
    obtain ⟨m', hset, -⟩ := C08.setName_spec m c hok
    by_cases hc : c ∈ seen
    · simp [applyCap, checkCap, hc] at h
      exact ⟨h.symm, c, rfl, hc⟩
    · simp [applyCap, checkCap, hc, hset] at h

/-- `finishSeq` on the matchers the interpreter built fails only for a tail capture name already seen -/
theorem finishSeq_err (ms : Matchers) (tail : Option (Option Str)) (seen : List Str) (e : CErr) (hno : NoAny ms)
    (h : finishSeq ms tail seen = .error e) : e = .dupCapture ∧ ∃ c, tail = some (some c) ∧ c ∈ seen := by
  cases tail with
  | none =>
    cases ms with
    | nil => cases h
    | cons m r => simp only [finishSeq, C08.mkSeq_noAny none m r hno] at h; cases h
  | some t =>
    cases t with
    | none => simp only [finishSeq, C08.mkSeq_snoc] at h; cases h
    | some c =>
      by_cases hc : c ∈ seen
      · simp [finishSeq, checkCap, hc] at h
        exact ⟨h.symm, c, rfl, hc⟩
      · simp [finishSeq, checkCap, hc, C08.mkSeq_snoc] at h

private theorem nodup_suffix {a b : List Str} (h : (a ++ b).Nodup) : b.Nodup :=
  (List.nodup_append.mp h).2.1

private theorem not_nodup_dup (c : Str) (a s : List Str) (hc : c ∈ s) : ¬ (a ++ (c :: s)).Nodup := by
  intro h
  have := nodup_suffix h
  exact (List.nodup_cons.mp this).1 hc

/-- one round of `compileFields` / `compileItems` fails in the element, at the capture, or in the rest -/
theorem cause_step {K : CEnv} {cnA rxA cnR rxR a b seen : List Str} {cap : Option Str} {vbA vbR : Prop} {e : CErr}
    (h : Cause K cnA rxA (a.reverse ++ seen) vbA e
      ∨ (e = .dupCapture ∧ ∃ c, cap = some c ∧ c ∈ a.reverse ++ seen)
      ∨ Cause K cnR rxR (b.reverse ++ (capOpt cap ++ (a.reverse ++ seen))) vbR e) :
    Cause K (cnA ++ cnR) (rxA ++ rxR) ((a ++ capOpt cap ++ b).reverse ++ seen) (vbA ∧ vbR) e := by
  have hcaps : (a ++ capOpt cap ++ b).reverse ++ seen = b.reverse ++ (capOpt cap ++ (a.reverse ++ seen)) := by
    simp only [List.reverse_append, C08.capOpt_reverse, List.append_assoc]
  rw [hcaps]
  rcases h with h | ⟨rfl, c, rfl, hc⟩ | h
  · exact h.mono (fun _ => List.mem_append_left _) (fun _ => List.mem_append_left _)
      (fun hn => nodup_suffix (nodup_suffix hn)) And.left
  · exact not_nodup_dup c _ _ hc
  · exact h.mono (fun _ => List.mem_append_right _) (fun _ => List.mem_append_right _) id And.right

mutual
theorem pat_err (K : CEnv) : ∀ (p : Pat) (seen : List Str) (e : CErr),
    compilePat K p seen = .error e → Cause K p.classNames p.regexes (p.caps.reverse ++ seen) (p.VB seen) e
  | .mk cls fields, seen, e, h => by
    simp only [compilePat] at h
    split at h
    · rename_i e' he
      injection h with h; subst h
      exact (resolveClasses_err K cls e' he _ _ _).mono (fun _ => List.mem_append_left _) (fun _ h => h) id id
    rename_i ts hts
    split at h
    · rename_i e' he
      injection h with h; subst h
      exact (fields_err K fields seen e' he).mono (fun _ => List.mem_append_right _) (fun _ h => h) id id
    · cases h
theorem fields_err (K : CEnv) : ∀ (fs : Fields) (seen : List Str) (e : CErr),
    compileFields K fs seen = .error e → Cause K fs.classNames fs.regexes (fs.caps.reverse ++ seen) (fs.VB seen) e
  | .nil, _, _, h => by cases h
  | .cons name spec cap rest, seen, e, h => by
    simp only [compileFields] at h
    split at h
    · rename_i e' he
      cases h
      exact cause_step (.inl (fspec_err K spec seen _ he))
    rename_i m seen1 hs
    obtain ⟨rfl, -⟩ := C08.fspec_seen K spec seen m seen1 hs
    split at h
    · rename_i e' he
      cases h
      exact cause_step (.inr (.inl (applyCap_err m cap _ _ (C08.fspec_ok K dummySem spec seen m _ hs).2.1 he)))
    rename_i m' seen2 hcap
    obtain ⟨rfl, -⟩ := C08.applyCap_seen m cap _ m' seen2 hcap
    split at h
    · rename_i e' he
      cases h
      exact cause_step (.inr (.inr (fields_err K rest _ _ he)))
    · cases h
theorem fspec_err (K : CEnv) : ∀ (spec : FSpec) (seen : List Str) (e : CErr),
    compileFSpec K spec seen = .error e →
      Cause K spec.classNames spec.regexes (spec.caps.reverse ++ seen) (spec.VB seen) e
  | .any, _, _, h => by cases h
  | .val pv, seen, e, h => val_err K pv seen e h
  | .seq items tail, seen, e, h => by
    simp only [compileFSpec] at h
    split at h
    · rename_i e' he
      injection h with h; subst h
      refine (items_err K items seen e' he).mono (fun _ h => h) (fun _ h => h) ?_ id
      simp only [FSpec.caps, List.reverse_append, List.append_assoc]
      exact nodup_suffix
    rename_i ms seen1 hi
    have e1 := (C08.items_seen K items seen ms seen1 hi).1
    obtain ⟨-, hno, -⟩ := C08.items_ok K dummySem items seen ms seen1 hi
    obtain ⟨rfl, c, rfl, hc⟩ := finishSeq_err ms tail seen1 e hno h
    show ¬ _
    intro hn
    have hn' : (c :: (items.caps.reverse ++ seen)).Nodup := by
      simpa [FSpec.caps, capOpt, List.reverse_append] using hn
    exact (List.nodup_cons.mp hn').1 (e1 ▸ hc)
theorem items_err (K : CEnv) : ∀ (items : Items) (seen : List Str) (e : CErr),
    compileItems K items seen = .error e →
      Cause K items.classNames items.regexes (items.caps.reverse ++ seen) (items.VB seen) e
  | .nil, _, _, h => by cases h
  | .cons pv cap rest, seen, e, h => by
    simp only [compileItems] at h
    split at h
    · rename_i e' he
      cases h
      exact cause_step (.inl (val_err K pv seen _ he))
    rename_i m seen1 hv
    obtain ⟨rfl, -⟩ := C08.val_seen K pv seen m seen1 hv
    split at h
    · rename_i e' he
      cases h
      exact cause_step (.inr (.inl (applyCap_err m cap _ _
        (C08.valueKind_seqOk m (C08.val_ok K dummySem pv seen m _ hv).2.1) he)))
    rename_i m' seen2 hcap
    obtain ⟨rfl, -⟩ := C08.applyCap_seen m cap _ m' seen2 hcap
    split at h
    · rename_i e' he
      cases h
      exact cause_step (.inr (.inr (items_err K rest _ _ he)))
    · cases h
theorem val_err (K : CEnv) : ∀ (pv : PVal) (seen : List Str) (e : CErr),
    compileVal K pv seen = .error e → Cause K pv.classNames pv.regexes (pv.caps.reverse ++ seen) (pv.VB seen) e
  | .tree p, seen, e, h => pat_err K p seen e h
  | .var x, seen, e, h => by
    simp only [compileVal] at h
    split at h
    · cases h
    · rename_i hx
      injection h with h; subst h
      exact fun hv => hx (by simpa [PVal.VB] using hv)
  | .none, _, _, h => by cases h
  | .re s, seen, e, h => by
    simp only [compileVal] at h
    split at h
    · cases h
    · rename_i hx
      injection h with h; subst h
      exact ⟨s, by simp [PVal.regexes], by simpa using hx⟩
end

/-- **the cause of each rejection**, for every syntax tree: the interpreter's error names a clause of
the property text that the tree violates; the `RuntimeError` path ("Unexpected error") is never taken
(the `match` is `Cause` written out) -/
theorem compile_err_cause (K : CEnv) (p : Pat) (e : CErr) (h : compile K p = .error e) :
    match e with
    | .unknownClass => ∃ c ∈ p.classNames, K.cls c = .unknown
    | .notNodeClass => ∃ c ∈ p.classNames, K.cls c = .notNode
    | .dupCapture => ¬ p.caps.Nodup
    | .unboundVar => ¬ p.VB []
    | .badRegex => ∃ s ∈ p.regexes, K.rxOk s = false
    | .runtime => False := by
  simp only [compile] at h
  split at h
  · rename_i e' he
    injection h with h; subst h
    have := pat_err K p [] e' he
    cases e' with
    | dupCapture =>
      intro hn
      apply this
      simpa using (List.reverse_perm p.caps).nodup_iff.mpr hn
    | _ => exact this
  · cases h

/-- **no "Unexpected error"**: the interpreter's `RuntimeError` exits (`SequenceMatcher` without matchers,
F8) are unreachable for EVERY syntax tree, well-formed or not -/
theorem compile_no_runtime (K : CEnv) (p : Pat) : compile K p ≠ .error .runtime :=
  fun h => compile_err_cause K p .runtime h

/-! ## `WF` = the four clauses of the property text -/

mutual
theorem pat_wf_clauses (K : CEnv) : ∀ (p : Pat) (seen : List Str), p.WF K seen →
    (∀ c ∈ p.classNames, K.cls c = .node) ∧ (∀ s ∈ p.regexes, K.rxOk s = true) ∧ p.VB seen
  | .mk cls fields, seen, h => by
    obtain ⟨h1, h2, h3⟩ := fields_wf_clauses K fields seen h.2
    refine ⟨List.forall_mem_append.mpr ⟨?_, h1⟩, h2, h3⟩
    cases cls with
    | any => exact nofun
    | names f r => exact h.1
theorem fields_wf_clauses (K : CEnv) : ∀ (fs : Fields) (seen : List Str), fs.WF K seen →
    (∀ c ∈ fs.classNames, K.cls c = .node) ∧ (∀ s ∈ fs.regexes, K.rxOk s = true) ∧ fs.VB seen
  | .nil, _, _ => ⟨nofun, nofun, trivial⟩
  | .cons name spec cap rest, seen, h => by
    obtain ⟨a1, a2, a3⟩ := fspec_wf_clauses K spec seen h.1
    obtain ⟨b1, b2, b3⟩ := fields_wf_clauses K rest _ h.2.2
    exact ⟨List.forall_mem_append.mpr ⟨a1, b1⟩, List.forall_mem_append.mpr ⟨a2, b2⟩, a3, b3⟩
theorem fspec_wf_clauses (K : CEnv) : ∀ (spec : FSpec) (seen : List Str), spec.WF K seen →
    (∀ c ∈ spec.classNames, K.cls c = .node) ∧ (∀ s ∈ spec.regexes, K.rxOk s = true) ∧ spec.VB seen
  | .any, _, _ => ⟨nofun, nofun, trivial⟩
  | .val pv, seen, h => val_wf_clauses K pv seen h
  | .seq items tail, seen, h => items_wf_clauses K items seen h.1
theorem items_wf_clauses (K : CEnv) : ∀ (items : Items) (seen : List Str), items.WF K seen →
    (∀ c ∈ items.classNames, K.cls c = .node) ∧ (∀ s ∈ items.regexes, K.rxOk s = true) ∧ items.VB seen
  | .nil, _, _ => ⟨nofun, nofun, trivial⟩
  | .cons pv cap rest, seen, h => by
    obtain ⟨a1, a2, a3⟩ := val_wf_clauses K pv seen h.1
    obtain ⟨b1, b2, b3⟩ := items_wf_clauses K rest _ h.2.2
    exact ⟨List.forall_mem_append.mpr ⟨a1, b1⟩, List.forall_mem_append.mpr ⟨a2, b2⟩, a3, b3⟩
theorem val_wf_clauses (K : CEnv) : ∀ (pv : PVal) (seen : List Str), pv.WF K seen →
    (∀ c ∈ pv.classNames, K.cls c = .node) ∧ (∀ s ∈ pv.regexes, K.rxOk s = true) ∧ pv.VB seen
  | .tree p, seen, h => pat_wf_clauses K p seen h
  | .var x, seen, h => ⟨nofun, nofun, h⟩
  | .none, _, _ => ⟨nofun, nofun, trivial⟩
  | .re s, _, h => ⟨nofun, fun s' hs' => by rw [List.mem_singleton.mp hs']; exact h, trivial⟩
end

/-- **`WF` says what the property text says**: class names exist and are node classes, regexes compile,
capture names are pairwise distinct (and new w.r.t. `seen`), variables follow their captures -/
theorem wf_iff_clauses (K : CEnv) (p : Pat) (seen : List Str) (hseen : seen.Nodup) :
    p.WF K seen ↔
      (∀ c ∈ p.classNames, K.cls c = .node) ∧ (∀ s ∈ p.regexes, K.rxOk s = true)
        ∧ (p.caps.reverse ++ seen).Nodup ∧ p.VB seen := by
  constructor
  · intro h
    obtain ⟨h1, h2, h3⟩ := pat_wf_clauses K p seen h
    -- `Nodup` is read off the `seen` list of the compiler run
    obtain ⟨m, seen', hc⟩ := pat_accept K p seen h
    obtain ⟨e, hn⟩ := C08.pat_seen K p seen m seen' hc
    exact ⟨h1, h2, e ▸ hn hseen, h3⟩
  · rintro ⟨h1, h2, h3, h4⟩
    cases hc : compilePat K p seen with
    | ok r => exact pat_wf K p seen r.1 r.2 hc
    | error e =>
      have := pat_err K p seen e hc
      cases e with
      | unknownClass => obtain ⟨c, hcm, hk⟩ := this; rw [h1 c hcm] at hk; cases hk
      | notNodeClass => obtain ⟨c, hcm, hk⟩ := this; rw [h1 c hcm] at hk; cases hk
      | dupCapture => exact absurd h3 this
      | unboundVar => exact absurd h4 this
      | badRegex => obtain ⟨s, hsm, hk⟩ := this; rw [h2 s hsm] at hk; cases hk
      | runtime => exact this.elim

/-- **accepted ⇔ the four clauses of the property text** -/
theorem accepts_iff_clauses (K : CEnv) (p : Pat) :
    (∃ m, compile K p = .ok m) ↔
      (∀ c ∈ p.classNames, K.cls c = .node) ∧ (∀ s ∈ p.regexes, K.rxOk s = true)
        ∧ p.caps.Nodup ∧ p.VB [] := by
  rw [accepts_iff_wf, wf_iff_clauses K p [] List.nodup_nil, List.append_nil,
    (List.reverse_perm p.caps).nodup_iff]

/-! ## text level: every rendering of every derivation -/

/-- **accepted ⇔ well-formed, on the text**: for every derivation of the pattern grammar and every white
space interleaving -/
theorem pattern_rendering_accepted_iff (K : CEnv) (p : CPat) (wEnd : Str) (hok : p.OK) (hw : AllWS wEnd) :
    (∃ m, compilePattern K (p.render ++ wEnd) = .ok m) ↔ p.strip.WF K [] := by
  rw [← accepts_iff_wf]
  simp only [compilePattern, parse_render p wEnd hok hw]
  cases compile K p.strip with
  | ok m => simp
  | error e => simp

/-- **every rendering of an ill-formed derivation is rejected with the definition error** of the
interpreter — never with a syntax error, never with "Unexpected error" — the error of `compile` on the tree -/
theorem pattern_rejects_illformed (K : CEnv) (p : CPat) (wEnd : Str) (hok : p.OK) (hw : AllWS wEnd)
    (hill : ¬ p.strip.WF K []) :
    ∃ e, compilePattern K (p.render ++ wEnd) = .error (.interp e) ∧ e ≠ .runtime
      ∧ compile K p.strip = .error e := by
  obtain ⟨e, he⟩ := rejects_illformed K p.strip hill
  refine ⟨e, by simp only [compilePattern, parse_render p wEnd hok hw, he], ?_, he⟩
  rintro rfl
  exact compile_no_runtime K _ he

/-- for ARBITRARY text: never "Unexpected error" from a `RuntimeError` of the interpreter -/
theorem compilePattern_no_runtime (K : CEnv) (text : Str) : compilePattern K text ≠ .error (.interp .runtime) := by
  intro h
  simp only [compilePattern] at h
  split at h
  · cases h
  · rename_i p hp
    split at h
    · rename_i e he
      injection h with h; injection h with h; subst h
      exact compile_no_runtime K p he
    · cases h

/-- for ARBITRARY text: compiled, or a syntax error, or parsed to an ill-formed tree and rejected by the
interpreter (`compilePattern_decides` states it with the grammar in place of the parser) -/
theorem compilePattern_trichotomy (K : CEnv) (text : Str) :
    (∃ m, compilePattern K text = .ok m)
    ∨ (compilePattern K text = .error .syntax ∧ parsePattern text = none)
    ∨ (∃ p e, parsePattern text = some p ∧ compilePattern K text = .error (.interp e) ∧ e ≠ .runtime
        ∧ ¬ p.WF K []) := by
  cases hp : parsePattern text with
  | none => exact Or.inr (Or.inl ⟨by simp only [compilePattern, hp], rfl⟩)
  | some p =>
    cases hc : compile K p with
    | ok m => exact Or.inl ⟨m, by simp only [compilePattern, hp, hc]⟩
    | error e =>
      refine Or.inr (Or.inr ⟨p, e, rfl, by simp only [compilePattern, hp, hc], ?_, ?_⟩)
      · rintro rfl; exact compile_no_runtime K p hc
      · intro hwf
        obtain ⟨m, hm⟩ := accepts_wellformed K p hwf
        rw [hm] at hc; cases hc

/-! ## xpath: an accepted text yields a usable xpath -/

theorem stepsWith_last (mk : Option Str → Option (Option Nat) → Option Str → RawEl)
    (hmk : ∀ f i c, ∃ x, mk f i (some c) = some x) (known : Str → Bool) (fuel : Nat) (toks : List XTok)
    (raws : List RawEl) (h : stepsWith mk known fuel toks = some raws) : ∃ init x, raws = init ++ [some x] := by
  obtain ⟨path, hp, -, rfl⟩ := stepsWith_sound mk known fuel toks raws h
  obtain ⟨init, last, c, rfl, hc⟩ := pathOK_last known path hp
  obtain ⟨x, hx⟩ := hmk last.field (last.idx.map idxVal) c
  exact ⟨init.map (XStep.raw mk), x, by rw [List.map_append, List.map_singleton, XStep.raw, hc, hx]⟩

theorem parseSteps_last (known : Str → Bool) (fuel : Nat) (toks : List XTok) (raws : List RawEl)
    (h : parseSteps known fuel toks = some raws) : ∃ init x, raws = init ++ [some x] := by
  rw [parseSteps_eq] at h
  exact stepsWith_last mkRaw (fun f i c => ⟨(f, i.getD none, c), by cases f <;> cases i <;> rfl⟩) known fuel toks raws h

theorem xwalk_length : ∀ (raws : List RawEl) (acc els : List XElem), xwalk raws acc = some els →
    acc.length ≤ els.length
  | [], acc, els, h => by simp [xwalk] at h; subst h; simp
  | some (f, i, c) :: r, acc, els, h => by
    simp only [xwalk] at h
    have := xwalk_length r _ els h
    simp at this; omega
  | none :: r, acc, els, h => by
    cases acc with
    | nil => simp [xwalk] at h
    | cons e acc' =>
      simp only [xwalk] at h
      have := xwalk_length r _ els h
      simpa using this

/-- **the `IndexError` branch of the transformer is unreachable**: whatever step list the parser returns,
the reversed walk succeeds -/
theorem xwalk_no_indexError (known : Str → Bool) (fuel : Nat) (toks : List XTok) (raws : List RawEl)
    (h : parseSteps known fuel toks = some raws) : ∃ els, xwalk raws.reverse [] = some els ∧ els ≠ [] := by
  obtain ⟨init, ⟨f, i, c⟩, rfl⟩ := parseSteps_last known fuel toks raws h
  simp only [List.reverse_append, List.reverse_cons, List.reverse_nil, List.nil_append, List.singleton_append, xwalk]
  obtain ⟨els, hels⟩ := xwalk_some init.reverse [⟨c, f, i, false⟩] (by simp)
  refine ⟨els, hels, ?_⟩
  have := xwalk_length _ _ _ hels
  intro he; subst he; simp at this

/-- **"returns a usable xpath"**, for ARBITRARY text: an accepted xpath has at least one element (the
`elements[0]` access of `_match_node_xpath` is safe, `findall` has a first element to start from) -/
theorem parseXPath_nonempty (known : Str → Bool) (text : Str) (els : List XElem)
    (h : parseXPath known text = some els) : els ≠ [] := by
  rw [parseXPath_eq] at h
  obtain ⟨toks, -, h⟩ := Option.bind_eq_some_iff.mp h
  obtain ⟨raws, hp, h⟩ := Option.bind_eq_some_iff.mp h
  obtain ⟨els', h1, h2⟩ := xwalk_no_indexError known _ _ raws hp
  cases h1.symm.trans h
  exact h2

/-- for ARBITRARY text the model's `none` is a rejection by the lexer, the step parser or the class
lookup — never the transformer's `IndexError` -/
theorem parseXPath_none_cause (known : Str → Bool) (text : Str) (h : parseXPath known text = none) :
    xlex ((xprefix text).length + 1) (xprefix text) = none
      ∨ ∃ toks, xlex ((xprefix text).length + 1) (xprefix text) = some toks
          ∧ parseSteps known (toks.length + 1) toks = none := by
  rw [parseXPath_eq] at h
  cases hl : xlex ((xprefix text).length + 1) (xprefix text) with
  | none => exact Or.inl rfl
  | some toks =>
    refine Or.inr ⟨toks, rfl, ?_⟩
    cases hp : parseSteps known (toks.length + 1) toks with
    | none => rfl
    | some raws =>
      obtain ⟨els', h1, -⟩ := xwalk_no_indexError known _ _ raws hp
      rw [hl, Option.bind_some, hp, Option.bind_some, h1] at h
      cases h

/-! ### a written xpath naming a class that is not a node class is rejected -/

theorem parseStepBody_unknown (known : Str → Bool) (st : XStep) (rest : List XTok) (c : Str)
    (hc : st.cls = some c) (hk : known c = false) : parseStepBody known (bodyToks st ++ rest) = none := by
  rw [parseStepBody_bodyToks known st rest (fun h => by rw [hc] at h; cases h), hc]
  exact if_neg (by rw [Option.all_some, hk]; exact Bool.false_ne_true)

theorem parseSteps_unknown (known : Str → Bool) (p : List XStep) (fuel : Nat)
    (h : ∃ st ∈ p, ∃ c, st.cls = some c ∧ known c = false) : parseSteps known fuel (pathToks p) = none := by
  rw [parseSteps_eq]
  exact stepsWith_unknown mkRaw known p fuel h

/-- **an unknown or non-node class is rejected**: a written xpath (any steps, any admissible white
space after its tokens) in which some step names a class that `check_and_get_ast_node_type` refuses -/
theorem xpath_unknown_class_rejected (known : Str → Bool) (path : List XStep) (tws : List (XTok × Str))
    (hbad : ∃ st ∈ path, ∃ c, st.cls = some c ∧ known c = false)
    (ht : tws.map (·.1) = pathToks path) (hs : SpacedOK tws) : parseXPath known (renderToks tws) = none := by
  have hne : path ≠ [] := by
    rintro rfl
    obtain ⟨s, hs', _⟩ := hbad
    cases hs'
  rw [parseXPath_render known path tws hne ht hs, parseSteps_unknown known path _ hbad]
  rfl

section Examples
open C08
-- ill-formed trees: the variable, capture and class clauses each fail on one, and the theorems apply
/-- `(* @i=$a)` : variable before its capture -/
def exBadVar : Pat := .mk .any (.cons ['i'] (.val (.var ['a'])) none .nil)
/-- `(* @i -> a @j -> a)` : capture name used twice -/
def exBadDup : Pat := .mk .any (.cons ['i'] .any (some ['a']) (.cons ['j'] .any (some ['a']) .nil))
/-- `(X)` : unknown class -/
def exBadCls : Pat := .mk (.names ['X'] []) .nil
example : ¬ exBadVar.WF exK [] := by simp [exBadVar, Pat.WF, Fields.WF, FSpec.WF, PVal.WF]
example : ¬ exBadDup.WF exK [] := by
  simp [exBadDup, Pat.WF, Fields.WF, FSpec.WF, CapFresh, FSpec.caps, capOpt]
example : ¬ exBadCls.WF exK [] := by simp [exBadCls, Pat.WF, ClassesOK, exK]
example : compile exK exBadVar = .error .unboundVar ∧ ¬ exBadVar.VB [] := by
  refine ⟨rfl, ?_⟩; simp [exBadVar, Pat.VB, Fields.VB, FSpec.VB, PVal.VB]
example : compile exK exBadDup = .error .dupCapture ∧ ¬ exBadDup.caps.Nodup := by
  refine ⟨rfl, ?_⟩; simp [exBadDup, Pat.caps, Fields.caps, FSpec.caps, capOpt]
example : compile exK exBadCls = .error .unknownClass ∧ ∃ c ∈ exBadCls.classNames, exK.cls c = .unknown :=
  ⟨rfl, ['X'], by simp [exBadCls, Pat.classNames, ClassSpec.classNames, Fields.classNames], by decide⟩
-- the four clauses hold of the well-formed `(T @i=[(L) -> a $a * -> r])`
example : (∀ c ∈ exP9.classNames, exK.cls c = .node) ∧ (∀ s ∈ exP9.regexes, exK.rxOk s = true)
    ∧ exP9.caps.Nodup ∧ exP9.VB [] :=
  (accepts_iff_clauses exK exP9).1 ⟨_, rfl⟩
-- text level: `( T @i = $a )` is a derivation (`CPat.OK`), ill-formed, rejected with `.interp .unboundVar`
def exCBad : CPat := .mk [' '] (.names [] ['T'] []) (.cons [' '] [] ['i'] (.val [' '] (.var [' '] [] ['a'])) .none .nil) [' ']
theorem exCBad_ok : exCBad.OK :=
  have sp : AllWS [' '] := allWS_single ' ' rfl
  ⟨sp, ⟨allWS_nil, validCName_single 'T' rfl, trivial⟩,
    ⟨sp, allWS_nil, validCName_single 'i' rfl, ⟨sp, sp, allWS_nil, validKey_single 'a' rfl⟩, trivial, trivial⟩, sp⟩
theorem exCBad_ill : ¬ exCBad.strip.WF exK [] := by
  simp [exCBad, CPat.strip, CFields.strip, CFSpec.strip, CPVal.strip, CClass.strip, CCap.strip, Pat.WF, Fields.WF,
    FSpec.WF, PVal.WF]
def errOf : Except DefErr Matcher → Option DefErr
  | .ok _ => none
  | .error e => some e
example : errOf (compilePattern exK (exCBad.render ++ [' '])) = some (.interp .unboundVar) := by decide +kernel
example : ∃ e, compilePattern exK (exCBad.render ++ [' ']) = .error (.interp e) ∧ e ≠ .runtime
    ∧ compile exK exCBad.strip = .error e :=
  pattern_rejects_illformed exK exCBad [' '] exCBad_ok (allWS_single ' ' rfl) exCBad_ill
-- xpath: `/X` with an unknown class is rejected; `/L` is accepted with one element
example : ∃ st ∈ ([⟨none, none, some ['X']⟩] : List XStep), ∃ c, st.cls = some c ∧ exKnown c = false :=
  ⟨⟨none, none, some ['X']⟩, by simp, ['X'], rfl, by decide⟩
example : parseXPath exKnown ['/', 'X'] = none := by decide
example : parseXPath exKnown (renderToks [(.slash, [' ']), (.cname ['X'], ['\t'])]) = none :=
  xpath_unknown_class_rejected exKnown [⟨none, none, some ['X']⟩] _
    ⟨⟨none, none, some ['X']⟩, by simp, ['X'], rfl, by decide⟩ (by decide)
    ⟨trivial, by decide, trivial, validName_single 'X' rfl, by decide, Or.inl (by decide), trivial⟩
example : parseXPath_nonempty exKnown ['/', 'L'] _ (by decide : parseXPath exKnown ['/', 'L'] = some [⟨['L'], none, none, false⟩])
    = parseXPath_nonempty exKnown ['/', 'L'] _ (by decide) := rfl
example : (parseXPath exKnown ['/', 'L']).map List.length = some 1 := by decide
end Examples

end C17
end PyOak
