/-
C20 — legacy `ASTXpath.match(node)` as it runs on the heap (Model/LegacyHeapWalk.lean: `lmatchH` climbs
`node.parent`, iterates `node.ancestors()`, reads the node's own `parent_field` / `parent_index`) decides the
documented path semantics `sat` (Spec/XPath.lean) along the root-first chain of the node's position in the tree the
heap represents, and therefore agrees with the successor's `ASTXpath.match(tree, node)` and `findall` on that tree.

`lmatchH_eq_lmatch`: the heap walk is the chain-level model `lmatch` (Model/LegacyXPath.lean, the function the
`lxpath` correspondence exercises) on the chain read off the heap; the fuel suffices and the walk ends.
`legacy_match_heap`: in every `Inv`, acyclic, `ParentClean` state, for every attached `u`,
`lxmatchH s L u = some (sat (chain of u) (path denoted by L))`, that chain being the only chain of `treeOf s u` in the
tree of its root; `legacy_match_heap_successor` and `findall_heap` restate this with the successor's `xmatch` /
`findall`, `legacy_match_heap_text` starts from the text, `legacy_match_heap_detached` covers the objects that are
not attached (one-member chain).  The statement over histories is `legacy_match_heap_run` in Props/C20ParentClean.lean.
-/
import PyOak.Model.LegacyHeapWalk
import PyOak.Props.C20Heap
import PyOak.Props.C20Text
namespace PyOak
namespace C20
open Legacy Legacy.C18 LState

variable (Hc : Str → Str)

/-! ### the per-element test -/

theorem lmatchElemH_eq {s : LState} (hP : ParentClean s) (u : Nat) (e : XElem) :
    lmatchElemH (s.obj u) e = lmatchElem (treeOf s u) (edgeOf s u) e := by
  unfold lmatchElemH lmatchElem edgeOf
  rw [treeOf_isInst]
  cases hf : (s.obj u).pfield with
  | some f => rfl
  | none =>
    have hi := (hP u).2 hf
    rw [hi]
    cases e.field <;> cases e.idx <;> simp

/-! ### the walk -/

theorem upChain_suffix {s : LState} {u : Nat} {l : List Nat} (h : UpChain s u l) :
    ∀ a r, (a :: r) <:+ l → UpChain s a r := by
  induction h with
  | root _ => intro a r hs; simp at hs
  | @step u p l _ hc ih =>
    intro a r hs
    rcases List.suffix_cons_iff.mp hs with heq | hs'
    · cases heq; exact hc
    · exact ih a r hs'

theorem anyAnc_eq (f : Nat → Option Bool) (g : List (Node × Option Edge) → Bool) (φ : Nat → Node × Option Edge) :
    ∀ l : List Nat, (∀ a r, (a :: r) <:+ l → f a = some (g ((a :: r).map φ))) →
      anyAnc f l = some (ancAny g (l.map φ)) := by
  intro l
  induction l with
  | nil => intro _; rfl
  | cons a r ih =>
    intro h
    have h1 := h a r (List.suffix_refl _)
    have h2 := ih (fun b t hs => h b t (List.suffix_cons_iff.mpr (.inr hs)))
    simp only [anyAnc, h1, List.map_cons, ancAny]
    simp only [List.map_cons] at h1
    cases g (φ a :: r.map φ)
    · simpa using h2
    · rfl

theorem lmatchH_none (s : LState) (fuel : Nat) (L : List LElem) :
    lmatchH s (fuel + 1) none L = some (lmatch (fuel + 1) [] L) := by
  cases L with
  | nil => rfl
  | cons x t => cases x <;> rfl

/-- **the heap walk is the chain-level model on the chain read off the heap** (with any fuel beyond the length of
the chain; in particular the walk ends) -/
theorem lmatchH_eq_lmatch {s : LState} (hP : ParentClean s) :
    ∀ (fuel u : Nat) (l : List Nat) (L : List LElem), UpChain s u l → l.length < s.size → l.length + 1 < fuel →
      lmatchH s fuel (some u) L = some (lmatch fuel (upList s u l) L) := by
  intro fuel
  induction fuel with
  | zero => intro u l L _ _ h; omega
  | succ fuel ih =>
    intro u l L h hsz hf
    cases L with
    | nil => rfl
    | cons x tail =>
      cases x with
      | anyw => rfl
      | el e =>
        have hanc : Legacy.ancestors s u = some l := ancestorsGo_eq h _ (by unfold fuelOf; omega)
        -- the ancestors loop
        have hloop : anyAnc (fun a => lmatchH s fuel (some a) (.el e :: tail)) l =
            some (ancAny (fun c => lmatch fuel c (.el e :: tail)) (l.map (posOf s))) := by
          apply anyAnc_eq
          intro a r hs
          have hlen : r.length + 1 ≤ l.length := by
            have := hs.length_le
            simpa using this
          exact ih a r _ (upChain_suffix h a r hs) (by omega) (by omega)
        -- the node itself, then its parent
        have hown : (if lmatchElemH (s.obj u) e then lmatchH s fuel (s.parent u) tail else some false) =
            some (lmatchElem (treeOf s u) (edgeOf s u) e && lmatch fuel (l.map (posOf s)) tail) := by
          rw [lmatchElemH_eq hP]
          cases lmatchElem (treeOf s u) (edgeOf s u) e
          · rfl
          · simp only [if_true, Bool.true_and]
            cases h with
            | root hp =>
              rw [hp]
              obtain ⟨k, rfl⟩ : ∃ k, fuel = k + 1 := ⟨fuel - 1, by simp at hf; omega⟩
              exact lmatchH_none s k tail
            | @step _ p l' hp hc =>
              rw [hp]
              simp only [List.length_cons] at hsz hf
              exact ih p l' tail hc (by omega) (by omega)
        show lmatchH s (fuel + 1) (some u) (.el e :: tail) =
          some (lmatch (fuel + 1) (posOf s u :: l.map (posOf s)) (.el e :: tail))
        simp only [lmatchH, lmatch, hanc, hloop, hown, posOf]
        cases e.anywhere
        · simp
        · cases ancAny (fun c => lmatch fuel c (.el e :: tail)) (l.map (posOf s)) <;> simp

theorem lmatch_fuel (fuel : Nat) (c : List (Node × Option Edge)) (L : List LElem) (h : c.length < fuel) :
    lmatch fuel c L = lxmatch L c := by
  unfold lxmatch
  rw [lmatch_eq_G _ _ _ h, lmatch_eq_G _ _ _ (Nat.lt_succ_self _)]

/-- the chain of an attached node is shorter than the number of objects (so the model's fuel suffices) -/
theorem upChain_length_lt {s : LState} (hI : Inv Hc s) (hR : Ranked s) {u : Nat} {l : List Nat} (hu : Att s u)
    (h : UpChain s u l) : l.length < s.size := by
  obtain ⟨l', hl', hlen⟩ := chain_exists Hc hI hR hu
  rw [upChain_unique h hl']
  exact hlen

/-- legacy `match` on the heap = the chain-level model on the heap's chain -/
theorem lxmatchH_eq_lxmatch {s : LState} (hI : Inv Hc s) (hR : Ranked s) (hP : ParentClean s) {u : Nat} {l : List Nat}
    (hu : Att s u) (h : UpChain s u l) (L : List LElem) :
    lxmatchH s L u = some (lxmatch L (upList s u l)) := by
  have hlen := upChain_length_lt Hc hI hR hu h
  unfold lxmatchH
  rw [lmatchH_eq_lmatch hP _ u l L h hlen (by unfold fuelOf; omega),
    lmatch_fuel _ _ _ (by simp [upList]; unfold fuelOf; omega)]

/-- In every state that satisfies the C18 invariant, is acyclic and parent-clean, for every
attached object `u` and every element list `L` a legacy `ASTXpath` can hold (`HeadOK`: its first entry is a real
element without the `anywhere` flag — `lparse_head_ok`): the legacy matcher, run on the heap by following
`parent` pointers, ENDS and answers the documented semantics `sat` of the path `L` denotes along the root-first
chain of `u`'s position in the tree represented by the heap; that chain is a chain of the tree
(`IsChain`) and the only one ending in `u`. -/
theorem legacy_match_heap {s : LState} (hI : Inv Hc s) (hR : Ranked s) (hP : ParentClean s) {u : Nat} (hu : Att s u)
    (L : List LElem) (hL : HeadOK L) :
    ∃ l, UpChain s u l ∧ Legacy.ancestors s u = some l ∧
      IsChain (treeOf s (topOf u l)) (heapChain s u l) ∧
      (∀ c n oe, IsChain (treeOf s (topOf u l)) (c ++ [(n, oe)]) → n.uid = u → c ++ [(n, oe)] = heapChain s u l) ∧
      lxmatchH s L u = some (sat (heapChain s u l) (shift L).reverse) := by
  obtain ⟨l, hl, hlen⟩ := chain_exists Hc hI hR hu
  refine ⟨l, hl, ancestorsGo_eq hl _ (by unfold fuelOf; omega), heapChain_isChain Hc hI hR hP hu hl,
    fun c n oe hc hn => heapChain_unique Hc hI hR hP hu hl c n oe hc hn, ?_⟩
  rw [lxmatchH_eq_lxmatch Hc hI hR hP hu hl L]
  have := legacy_match_eq_sat (heapChain s u l) L hL
  simp only [heapChain, List.reverse_reverse] at this ⊢
  rw [this]

theorem xmatch_heapChain {s : LState} (hI : Inv Hc s) (hR : Ranked s) (hP : ParentClean s) {u : Nat} {l : List Nat}
    (hu : Att s u) (hl : UpChain s u l) (els : List XElem) :
    treeOf s u ∈ allNodes (treeOf s (topOf u l)) ∧ NoRepeat (treeOf s (topOf u l)) ∧
      xmatch els (treeOf s (topOf u l)) (treeOf s u) = .ok (sat (heapChain s u l) els.reverse) := by
  obtain ⟨hta, _, htd⟩ := topOf_spec Hc hI hu hl
  have hnr := treeOf_noRepeat Hc hI hR hta
  have hmem : treeOf s u ∈ allNodes (treeOf s (topOf u l)) :=
    (mem_allNodes_treeOf hR hI.closed (att_lt hI hta) _).mpr ⟨u, htd, rfl⟩
  have hin : (TreeT.build (treeOf s (topOf u l))).isInTree (treeOf s u) = true :=
    (C06.isInTree_iff _ _).2 ⟨_, hmem, rfl⟩
  have hc := heapChain_isChain Hc hI hR hP hu hl
  rw [heapChain_last] at hc ⊢
  have := C07.match_eq_sat _ hnr _ _ _ els.reverse hc
  rw [List.reverse_reverse] at this
  exact ⟨hmem, hnr, by simp [xmatch, hin, this]⟩

/-- **… hence legacy `match` = the successor's `match` and `findall` on the represented tree.**  `root` is the
attached root the parent pointers of `u` end in; `(shift L)` is the successor's `_elements_reversed` for the same
path. -/
theorem legacy_match_heap_successor {s : LState} (hI : Inv Hc s) (hR : Ranked s) (hP : ParentClean s) {u : Nat}
    (hu : Att s u) (L : List LElem) (hL : HeadOK L) :
    ∃ l b, UpChain s u l ∧ lxmatchH s L u = some b ∧
      xmatch (shift L) (treeOf s (topOf u l)) (treeOf s u) = .ok b ∧
      (treeOf s u ∈ findall (shift L).reverse (treeOf s (topOf u l)) ↔ b = true) := by
  obtain ⟨l, hl, _, _, _, hm⟩ := legacy_match_heap Hc hI hR hP hu L hL
  obtain ⟨hmem, hnr, hx⟩ := xmatch_heapChain Hc hI hR hP hu hl (shift L)
  refine ⟨l, _, hl, hm, hx, ?_⟩
  rw [C07.findall_iff_match _ _ hnr _ hmem, List.reverse_reverse, hx]
  simp

/-- **from the text**: whatever element list the legacy constructor builds from a text, legacy `match` on the
heap decides `sat` of the path it denotes (= the successor's reading `xwalk` of the same parsed steps:
`legacy_match_parsed`) along the heap's chain -/
theorem legacy_match_heap_text {s : LState} (hI : Inv Hc s) (hR : Ranked s) (hP : ParentClean s) {u : Nat}
    (hu : Att s u) (known : Str → Bool) (text : Str) (L : List LElem) (h : lparseXPath known text = some L) :
    ∃ l raws els, UpChain s u l ∧ lrawSteps known text = some raws ∧ xwalk raws.reverse [] = some els ∧
      IsChain (treeOf s (topOf u l)) (heapChain s u l) ∧
      lxmatchH s L u = some (sat (heapChain s u l) els.reverse) ∧
      xmatch els (treeOf s (topOf u l)) (treeOf s u) = .ok (sat (heapChain s u l) els.reverse) := by
  obtain ⟨raws, els, hr, hw, hm⟩ := legacy_match_parsed known text L h
  obtain ⟨l, hl, _⟩ := chain_exists Hc hI hR hu
  refine ⟨l, raws, els, hl, hr, hw, heapChain_isChain Hc hI hR hP hu hl, ?_, (xmatch_heapChain Hc hI hR hP hu hl els).2.2⟩
  rw [lxmatchH_eq_lxmatch Hc hI hR hP hu hl L]
  have := hm (heapChain s u l)
  simp only [heapChain, List.reverse_reverse] at this ⊢
  rw [this]

/-- **objects that are not attached** (detached nodes, the garbage of rejected constructors): such an object stores no
parent link, so legacy `match` treats it as the root of its own tree — it decides `sat` along the one-member chain.
Together with `legacy_match_heap` this covers EVERY existing object.  (No acyclicity needed.) -/
theorem legacy_match_heap_detached {s : LState} (hI : Inv Hc s) (hP : ParentClean s) {u : Nat} (hus : u < s.size)
    (hd : ¬ Att s u) (L : List LElem) (hL : HeadOK L) :
    s.parent u = none ∧ Legacy.ancestors s u = some [] ∧
      lxmatchH s L u = some (sat [(treeOf s u, none)] (shift L).reverse) := by
  have hpid : (s.obj u).pid = none := hI.pid_none hd
  have hp : s.parent u = none := by unfold LState.parent; rw [hpid]
  have hc : UpChain s u [] := .root hp
  refine ⟨hp, ancestorsGo_eq hc _ (by unfold fuelOf; simp), ?_⟩
  unfold lxmatchH
  rw [lmatchH_eq_lmatch hP _ u [] L hc (by simp; omega) (by unfold fuelOf; simp; omega),
    lmatch_fuel _ _ _ (by simp [upList]; unfold fuelOf; omega)]
  have he : edgeOf s u = none := by unfold edgeOf; rw [(hP u).1 hpid]
  have := legacy_match_eq_sat [(treeOf s u, none)] L hL
  simp only [List.reverse_cons, List.reverse_nil, List.nil_append] at this
  simp only [upList, List.map_cons, List.map_nil, posOf, he]
  rw [this]

/-- the parent pointers of a node below an attached root end in that root -/
theorem topOf_of_desc {s : LState} (hI : Inv Hc s) {r x : Nat} {l : List Nat} (hr : Att s r) (hpr : s.parent r = none)
    (hd : Desc s r x) (h : UpChain s x l) : topOf x l = r := by
  have last : ∀ {x : Nat} {l : List Nat}, UpChain s x l → r ∈ l → topOf x l = r := by
    intro x l h
    induction h with
    | root _ => intro hm; cases hm
    | @step u p l' hp hc ih =>
      intro hm
      rcases List.mem_cons.mp hm with rfl | hm'
      · cases hc with
        | root _ => rfl
        | step hp' _ => rw [hpr] at hp'; cases hp'
      · exact ih hm'
  by_cases hx : r = x
  · subst hx
    cases h with
    | root _ => rfl
    | step hp _ => rw [hpr] at hp; cases hp
  · exact last h (desc_mem_chain Hc hI hr hd l h hx)

/-- **the successor's `findall` on the tree an attached root represents finds exactly the objects below the root on
which legacy `match`, run on the heap, answers True** -/
theorem findall_heap {s : LState} (hI : Inv Hc s) (hR : Ranked s) (hP : ParentClean s) {r : Nat} (hr : Att s r)
    (hpr : s.parent r = none) (L : List LElem) (hL : HeadOK L) (m : Node) :
    m ∈ findall (shift L).reverse (treeOf s r) ↔
      ∃ x, Desc s r x ∧ Att s x ∧ m = treeOf s x ∧ lxmatchH s L x = some true := by
  constructor
  · intro hm
    have hall := C07.findall_subset _ _ _ hm
    obtain ⟨x, hd, rfl⟩ := (mem_allNodes_treeOf hR hI.closed (att_lt hI hr) m).mp hall
    have hx : Att s x := (upFree_of_desc hI hr hd (fun _ _ hx => hx.elim)).1
    obtain ⟨l, b, hl, hb, _, hf⟩ := legacy_match_heap_successor Hc hI hR hP hx L hL
    rw [topOf_of_desc Hc hI hr hpr hd hl] at hf
    exact ⟨x, hd, hx, rfl, by rw [hb, hf.mp hm]⟩
  · rintro ⟨x, hd, hx, rfl, hm⟩
    obtain ⟨l, b, hl, hb, _, hf⟩ := legacy_match_heap_successor Hc hI hR hP hx L hL
    rw [topOf_of_desc Hc hI hr hpr hd hl] at hf
    rw [hb] at hm
    exact hf.mpr (Option.some.inj hm)

end C20
end PyOak
