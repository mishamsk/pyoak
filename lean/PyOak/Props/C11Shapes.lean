/-
C11, the rejected shapes, for every type term and at any depth — the clause
"every other annotation (node types mixed with other types, inside non-tuple or mutable containers,
optional inside a tuple, nested or optional tuples of nodes, mutable collections anywhere) is rejected".

* `Sub u t`                     `u` occurs in `t` (reflexive sub-term relation, through NewType, union members,
                                tuple elements and container arguments)
* `childShape_sub`              every sub-term of a child-shaped annotation is `None` or child-shaped itself
* `childShape_not_mutable`      a child-shaped annotation mentions no mutable collection
* `mutable_rejected`            `MentionsMutable t → classify t = .reject`
* one inductive predicate per rejected shape the statement lists (`MixedUnion`, `NodeInContainer`,
  `OptInTuple`, `NestedTuple`, `OptionalTuple`), each *local* (it describes the offending sub-term), and
  for each one a theorem "`t` has a sub-term of that shape → `classify t = .reject`";
  `listed_shapes_rejected` is their disjunction
* `classify_trichotomy`         the three-way case split in one statement: `classify_child_iff`,
                                `classify_prop_iff`, and rejected ⇔ neither of the two
* `reject_of_bad_subterm`       the general principle all the per-shape theorems instantiate.
-/
import PyOak.Props.C11
namespace PyOak
namespace C11
open Annot Annot.Ty

/-- `Sub u t`: the annotation `u` occurs in the annotation `t` (at any depth, `t` itself included) -/
inductive Sub : Ty → Ty → Prop where
  | refl (t : Ty) : Sub t t
  | newtype {u t : Ty} : Sub u t → Sub u (.newtype t)
  | union {u x m : Ty} {ms : List Ty} : x ∈ m :: ms → Sub u x → Sub u (.union m ms)
  | vtuple {u t : Ty} : Sub u t → Sub u (.vtuple t)
  | coll {u x : Ty} {k : CollKind} {args : List Ty} : x ∈ args → Sub u x → Sub u (.coll k args)

theorem Sub.up {P : Ty → Prop} (hnt : ∀ {t}, P t → P (.newtype t))
    (hunion : ∀ {m ms x}, x ∈ m :: ms → P x → P (.union m ms)) (hvt : ∀ {t}, P t → P (.vtuple t))
    (hcoll : ∀ {k args x}, x ∈ args → P x → P (.coll k args)) {u t : Ty} (h : Sub u t) (hu : P u) : P t := by
  induction h with
  | refl => exact hu
  | newtype _ ih => exact hnt ih
  | union hx _ ih => exact hunion hx ih
  | vtuple _ ih => exact hvt ih
  | coll hx _ ih => exact hcoll hx ih

theorem Sub.trans {a b c : Ty} (h1 : Sub a b) (h2 : Sub b c) : Sub a c :=
  h2.up .newtype .union .vtuple .coll h1

theorem Sub.mentionsNode {u t : Ty} (h : Sub u t) (hu : MentionsNode u) : MentionsNode t :=
  h.up .newtype .union .vtuple .coll hu

theorem Sub.mentionsMutable {u t : Ty} (h : Sub u t) (hu : MentionsMutable u) : MentionsMutable t :=
  h.up .newtype .union .vtuple .coll hu

theorem mentionsMutable_iff_sub (t : Ty) :
    MentionsMutable t ↔ ∃ k args, k.mutable = true ∧ Sub (.coll k args) t := by
  constructor
  · intro h
    induction h with
    | here hk => exact ⟨_, _, hk, .refl _⟩
    | newtype _ ih => obtain ⟨k, a, hk, hs⟩ := ih; exact ⟨k, a, hk, .newtype hs⟩
    | union hx _ ih => obtain ⟨k, a, hk, hs⟩ := ih; exact ⟨k, a, hk, .union hx hs⟩
    | vtuple _ ih => obtain ⟨k, a, hk, hs⟩ := ih; exact ⟨k, a, hk, .vtuple hs⟩
    | coll hx _ ih => obtain ⟨k, a, hk, hs⟩ := ih; exact ⟨k, a, hk, .coll hx hs⟩
  · rintro ⟨k, a, hk, hs⟩
    exact hs.mentionsMutable (.here hk)

theorem mentionsNode_iff_sub (t : Ty) :
    MentionsNode t ↔ ∃ c, Sub (.node c) t ∨ Sub (.fwd c) t := by
  constructor
  · intro h
    induction h with
    | node c => exact ⟨c, .inl (.refl _)⟩
    | fwd c => exact ⟨c, .inr (.refl _)⟩
    | newtype _ ih => exact ih.imp fun _ => Or.imp .newtype .newtype
    | union hx _ ih => exact ih.imp fun _ => Or.imp (.union hx) (.union hx)
    | vtuple _ ih => exact ih.imp fun _ => Or.imp .vtuple .vtuple
    | coll hx _ ih => exact ih.imp fun _ => Or.imp (.coll hx) (.coll hx)
  · rintro ⟨c, h | h⟩
    · exact h.mentionsNode (.node c)
    · exact h.mentionsNode (.fwd c)

theorem nodeLike_childShape {t : Ty} (h : NodeLike t) : ChildShape t := .one h

theorem elemShape_childShape {t : Ty} (h : ElemShape t) : ChildShape t := by
  induction h with
  | one h => exact .one h
  | union h => exact .union (fun x hx => .inr (h x hx)) ⟨_, List.mem_cons_self, h _ List.mem_cons_self⟩
  | newtype _ ih => exact .newtype ih

theorem elemShape_of_newtype {t : Ty} (h : ElemShape (.newtype t)) : ElemShape t := elemShape_newtype.1 h

theorem not_nodeLike_union {m : Ty} {ms : List Ty} : ¬ NodeLike (.union m ms) := fun h => by cases h
theorem not_nodeLike_vtuple {t : Ty} : ¬ NodeLike (.vtuple t) := fun h => by cases h
theorem not_nodeLike_coll {k : CollKind} {a : List Ty} : ¬ NodeLike (.coll k a) := fun h => by cases h
theorem not_nodeLike_atom {a : Atom} : ¬ NodeLike (.atom a) := fun h => by cases h

theorem not_childShape_none : ¬ ChildShape .none := fun h => by cases h with | one h => cases h
theorem not_childShape_atom {a : Atom} : ¬ ChildShape (.atom a) := fun h => by cases h with | one h => cases h

theorem sub_none {u : Ty} (h : Sub u .none) : u = .none := by cases h; rfl

theorem childShape_sub {u t : Ty} (hs : Sub u t) (ht : t = .none ∨ ChildShape t) :
    u = .none ∨ ChildShape u := by
  induction hs with
  | refl => exact ht
  | newtype _ ih => exact ih (.inr (childShape_newtype.1 (ht.resolve_left nofun)))
  | union hx _ ih => exact ih (((childShape_union.1 (ht.resolve_left nofun)).1 _ hx).imp_right .one)
  | vtuple _ ih => exact ih (.inr (elemShape_childShape (childShape_vtuple.1 (ht.resolve_left nofun))))
  | coll hx _ ih => exact ih (.inr (elemShape_childShape ((childShape_coll.1 (ht.resolve_left nofun)).2.2 _ hx)))

theorem nodeLike_not_mutable {t : Ty} (h : NodeLike t) : ¬ MentionsMutable t := by
  induction h with
  | node c => exact nofun
  | fwd c => exact nofun
  | newtype _ ih => exact fun h => ih (mentionsMutable_newtype.1 h)

theorem elemShape_not_mutable {t : Ty} (h : ElemShape t) : ¬ MentionsMutable t := by
  induction h with
  | one h => exact nodeLike_not_mutable h
  | union h =>
    intro hm
    obtain ⟨x, hx, hm⟩ := mentionsMutable_union.1 hm
    exact nodeLike_not_mutable (h x hx) hm
  | newtype _ ih => exact fun h => ih (mentionsMutable_newtype.1 h)

/-- a child-shaped annotation mentions no mutable collection (proved on the shape predicates alone) -/
theorem childShape_not_mutable {t : Ty} (h : ChildShape t) : ¬ MentionsMutable t := by
  induction h with
  | one h => exact nodeLike_not_mutable h
  | union h _ =>
    intro hm
    obtain ⟨x, hx, hm⟩ := mentionsMutable_union.1 hm
    rcases h x hx with rfl | hn
    · cases hm
    · exact nodeLike_not_mutable hn hm
  | vtuple h => exact fun hm => elemShape_not_mutable h (mentionsMutable_vtuple.1 hm)
  | tuple _ h =>
    intro hm
    obtain hk | ⟨x, hx, hm⟩ := mentionsMutable_coll.1 hm
    · cases hk
    · exact elemShape_not_mutable (h x hx) hm
  | newtype _ ih => exact fun h => ih (mentionsMutable_newtype.1 h)

/-- "mutable collections anywhere": an annotation that mentions `list` / `dict` / `set` at ANY depth
(bare or parameterised, behind NewTypes, inside unions, tuples, containers) is rejected — it is
neither a child field nor, silently, a property -/
theorem mutable_rejected (t : Ty) (h : MentionsMutable t) : classify t = .reject :=
  (classify_reject_iff t).2 ⟨fun hc => childShape_not_mutable hc h, .inr h⟩

/-- the same, reading "anywhere" as "some sub-term is a mutable collection" -/
theorem mutable_subterm_rejected (t : Ty) (k : CollKind) (args : List Ty) (hk : k.mutable = true)
    (hs : Sub (.coll k args) t) : classify t = .reject :=
  mutable_rejected t ((mentionsMutable_iff_sub t).2 ⟨k, args, hk, hs⟩)

example : MentionsMutable (.coll .mapping [.atom .str, .vtuple (.newtype (.coll .list [.atom .int]))]) :=
  .coll (x := .vtuple (.newtype (.coll .list [.atom .int]))) (by simp) (.vtuple (.newtype (.here rfl)))
example : MentionsMutable (.union (.node 0) [.coll .set []]) :=
  .union (x := .coll .set []) (by simp) (.here rfl)

/-- an annotation that mentions a node class and has a sub-term which is neither `None` nor child-shaped
is rejected -/
theorem reject_of_bad_subterm (t u : Ty) (hs : Sub u t) (hn : MentionsNode t)
    (hu1 : u ≠ .none) (hu2 : ¬ ChildShape u) : classify t = .reject := by
  refine (classify_reject_iff t).2 ⟨fun hc => ?_, .inl hn⟩
  rcases childShape_sub hs (.inr hc) with h | h
  · exact hu1 h
  · exact hu2 h

/-- the three-way split in one statement: child ⇔ child shape; property ⇔ no node class and no mutable
collection mentioned; rejected ⇔ everything else -/
theorem classify_trichotomy (t : Ty) :
    (classify t = .child ↔ ChildShape t) ∧
    (classify t = .prop ↔ (¬ MentionsNode t ∧ ¬ MentionsMutable t)) ∧
    (classify t = .reject ↔ (¬ ChildShape t ∧ ¬ (¬ MentionsNode t ∧ ¬ MentionsMutable t))) := by
  refine ⟨classify_child_iff t, classify_prop_iff t, ?_⟩
  rw [← classify_child_iff, ← classify_prop_iff]
  cases classify t <;> simp

/-- "never silently treated as a property": an annotation that mentions a node class is a child or is
rejected -/
theorem node_never_prop (t : Ty) (h : MentionsNode t) : classify t = .child ∨ classify t = .reject := by
  cases hc : classify t
  · exact .inl rfl
  · exact absurd h (prop_hides_no_node t hc)
  · exact .inr rfl

/-- "node types mixed with other types": a union one member of which mentions a node class and one
member of which is neither `None` nor a node class (behind NewTypes) -/
inductive MixedUnion : Ty → Prop where
  | mk {m : Ty} {ms : List Ty} {x y : Ty} : x ∈ m :: ms → MentionsNode x → y ∈ m :: ms → y ≠ .none →
      ¬ NodeLike y → MixedUnion (.union m ms)

/-- "inside non-tuple containers": `frozenset` / `Sequence` / `Mapping` (or a mutable container) one
argument of which mentions a node class -/
inductive NodeInContainer : Ty → Prop where
  | mk {k : CollKind} {args : List Ty} : k ≠ .tuple → MentionsNode (.coll k args) →
      NodeInContainer (.coll k args)

/-- `Optional[..]` / a union with `None`, possibly behind NewTypes -/
def IsOptional (t : Ty) : Prop := ∃ m ms, t.unwrap = .union m ms ∧ Ty.none ∈ m :: ms

/-- a variadic or fixed-length tuple, possibly behind NewTypes -/
def IsTuple (t : Ty) : Prop := (∃ e, t.unwrap = .vtuple e) ∨ (∃ args, t.unwrap = .coll .tuple args)

/-- "optional inside a tuple": a tuple of nodes one element type of which is a union with `None` -/
inductive OptInTuple : Ty → Prop where
  | vtuple {e : Ty} : IsOptional e → MentionsNode (.vtuple e) → OptInTuple (.vtuple e)
  | tuple {args : List Ty} {e : Ty} : e ∈ args → IsOptional e → MentionsNode (.coll .tuple args) →
      OptInTuple (.coll .tuple args)

/-- "nested tuples of nodes": a tuple of nodes one element type of which is again a tuple -/
inductive NestedTuple : Ty → Prop where
  | vtuple {e : Ty} : IsTuple e → MentionsNode (.vtuple e) → NestedTuple (.vtuple e)
  | tuple {args : List Ty} {e : Ty} : e ∈ args → IsTuple e → MentionsNode (.coll .tuple args) →
      NestedTuple (.coll .tuple args)

/-- "optional tuples of nodes": a union one member of which is a tuple that mentions a node class -/
inductive OptionalTuple : Ty → Prop where
  | mk {m : Ty} {ms : List Ty} {x : Ty} : x ∈ m :: ms → IsTuple x → MentionsNode x →
      OptionalTuple (.union m ms)

theorem elemShape_unwrap : ∀ t, ElemShape t.unwrap ↔ ElemShape t := by
  intro t
  induction t using Ty.induct with
  | hnt t ih => exact ih.trans elemShape_newtype.symm
  | _ => exact Iff.rfl

theorem childShape_unwrap : ∀ t, ChildShape t.unwrap ↔ ChildShape t := by
  intro t
  induction t using Ty.induct with
  | hnt t ih => exact ih.trans childShape_newtype.symm
  | _ => exact Iff.rfl

theorem elemShape_not_optional {t : Ty} (h : ElemShape t) : ¬ IsOptional t := by
  rintro ⟨m, ms, hu, hn⟩
  have h' := (elemShape_unwrap t).2 h
  rw [hu, elemShape_union] at h'
  cases h' _ hn

theorem elemShape_not_tuple {t : Ty} (h : ElemShape t) : ¬ IsTuple t := by
  have h' := (elemShape_unwrap t).2 h
  rintro (⟨e, he⟩ | ⟨a, ha⟩)
  · rw [he] at h'; cases h' with | one h => cases h
  · rw [ha] at h'; cases h' with | one h => cases h

theorem optionalTuple_mixed {u : Ty} (h : OptionalTuple u) : MixedUnion u := by
  obtain ⟨hx, ht, hn⟩ := h
  refine .mk hx hn hx ?_ fun h => elemShape_not_tuple (.one h) ht
  rintro rfl
  rcases ht with ⟨_, h⟩ | ⟨_, h⟩ <;> cases h

/-- node classes mixed with other types in a union, at any depth of the annotation -/
theorem mixed_union_rejected (t u : Ty) (hs : Sub u t) (hu : MixedUnion u) : classify t = .reject := by
  obtain ⟨hx, hn, hy, hy1, hy2⟩ := hu
  exact reject_of_bad_subterm t _ hs (hs.mentionsNode (.union hx hn)) nofun
    fun hc => ((childShape_union.1 hc).1 _ hy).elim hy1 hy2

/-- a node class inside `frozenset` / `Sequence` / `Mapping` / `list` / `dict` / `set`, at any depth -/
theorem node_in_container_rejected (t u : Ty) (hs : Sub u t) (hu : NodeInContainer u) :
    classify t = .reject := by
  obtain ⟨hk, hn⟩ := hu
  exact reject_of_bad_subterm t _ hs (hs.mentionsNode hn) nofun fun hc => hk (childShape_coll.1 hc).1

/-- an optional element type inside a tuple of nodes, at any depth -/
theorem opt_in_tuple_rejected (t u : Ty) (hs : Sub u t) (hu : OptInTuple u) : classify t = .reject := by
  cases hu with
  | vtuple ho hn =>
    exact reject_of_bad_subterm t _ hs (hs.mentionsNode hn) nofun
      fun hc => elemShape_not_optional (childShape_vtuple.1 hc) ho
  | tuple he ho hn =>
    exact reject_of_bad_subterm t _ hs (hs.mentionsNode hn) nofun
      fun hc => elemShape_not_optional ((childShape_coll.1 hc).2.2 _ he) ho

/-- a tuple inside a tuple of nodes, at any depth -/
theorem nested_tuple_rejected (t u : Ty) (hs : Sub u t) (hu : NestedTuple u) : classify t = .reject := by
  cases hu with
  | vtuple ht hn =>
    exact reject_of_bad_subterm t _ hs (hs.mentionsNode hn) nofun
      fun hc => elemShape_not_tuple (childShape_vtuple.1 hc) ht
  | tuple he ht hn =>
    exact reject_of_bad_subterm t _ hs (hs.mentionsNode hn) nofun
      fun hc => elemShape_not_tuple ((childShape_coll.1 hc).2.2 _ he) ht

/-- an optional tuple of nodes (a tuple of nodes as a union member), at any depth -/
theorem optional_tuple_rejected (t u : Ty) (hs : Sub u t) (hu : OptionalTuple u) : classify t = .reject :=
  mixed_union_rejected t u hs (optionalTuple_mixed hu)

theorem listed_shapes_rejected (t u : Ty) (hs : Sub u t)
    (hu : MixedUnion u ∨ NodeInContainer u ∨ OptInTuple u ∨ NestedTuple u ∨ OptionalTuple u ∨
      (∃ k args, u = .coll k args ∧ k.mutable = true)) : classify t = .reject := by
  rcases hu with h | h | h | h | h | ⟨k, args, rfl, hk⟩
  · exact mixed_union_rejected t u hs h
  · exact node_in_container_rejected t u hs h
  · exact opt_in_tuple_rejected t u hs h
  · exact nested_tuple_rejected t u hs h
  · exact optional_tuple_rejected t u hs h
  · exact mutable_subterm_rejected t k args hk hs

-- `Union[N0, int]`
example : MixedUnion (.union (.node 0) [.atom .int]) :=
  .mk (x := .node 0) (y := .atom .int) (by simp) (.node 0) (by simp) (by simp) not_nodeLike_atom
-- `tuple[Union[N0, int], ...]`: the mixed union sits inside a tuple
example : classify (.vtuple (.union (.node 0) [.atom .int])) = .reject :=
  mixed_union_rejected _ _ (.vtuple (.refl _))
    (.mk (x := .node 0) (y := .atom .int) (by simp) (.node 0) (by simp) (by simp) not_nodeLike_atom)
-- `Mapping[str, N0]`
example : NodeInContainer (.coll .mapping [.atom .str, .node 0]) :=
  .mk (by decide) (.coll (x := .node 0) (by simp) (.node 0))
-- `Optional[Sequence[N0]]`
example : classify (.union (.coll .sequence [.node 0]) [.none]) = .reject :=
  node_in_container_rejected _ (.coll .sequence [.node 0]) (.union (by simp) (.refl _))
    (.mk (by decide) (.coll (x := .node 0) (by simp) (.node 0)))
-- `tuple[NT, ...]` with `NT = NewType("NT", Optional[N0])`
example : OptInTuple (.vtuple (.newtype (.union (.node 0) [.none]))) :=
  .vtuple ⟨.node 0, [.none], rfl, by simp⟩ (.vtuple (.newtype (.union (x := .node 0) (by simp) (.node 0))))
-- `tuple[N0, tuple[N1, ...]]`
example : NestedTuple (.coll .tuple [.node 0, .vtuple (.node 1)]) :=
  .tuple (e := .vtuple (.node 1)) (by simp) (.inl ⟨.node 1, rfl⟩) (.coll (x := .node 0) (by simp) (.node 0))
-- `Optional[tuple[N0, ...]]`
example : OptionalTuple (.union (.vtuple (.node 0)) [.none]) :=
  .mk (x := .vtuple (.node 0)) (by simp) (.inl ⟨.node 0, rfl⟩) (.vtuple (.node 0))
-- the hypotheses matter: `tuple[Optional[int], ...]` and `Optional[tuple[int, ...]]` are properties
example : classify (.vtuple (.union (.atom .int) [.none])) = .prop ∧
    classify (.union (.vtuple (.atom .int)) [.none]) = .prop := by decide

end C11
end PyOak
