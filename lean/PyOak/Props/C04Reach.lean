/-
C04 (registry half): the hypotheses of `C04.roundtrip_alive` (`u` is an object of the heap) and of
`C04.roundtrip_fresh` / `roundtrip_iso` (`Covered`: the fuel of the serializer suffices) are DERIVED
for every state the machine can reach:

* `WF s` — children precede their parents in the heap (`HeapOrd`; hence the child relation is well
  founded and every subtree has height `< heap.length`) and the harness variables point into the
  heap (`RootsIn`).  This is `RegOrd.WF` (`wf_iff`), so `wf_step`, `wf_run` — preserved by every
  admissible operation — come from Props/RegOrder.lean.
* `covered_heap` — `WF s → Inv s → u ∈ heap → Covered s s.heap.length u`; `live_in_heap`.
* `roundtrip_alive_history`, `roundtrip_fresh_history` — the two round-trip theorems for the state
  after ANY admissible history (`AllOkK {} ops`), with the fuel `heap.length`, and no hypothesis
  other than "live", "not detached" and "the fresh tokens are fresh".
* `deser_total` — `_deserialize` succeeds when there are at least as many tokens as serialized nodes.
-/
import PyOak.Props.C04RoundTrip
import PyOak.Props.RegOrder
namespace PyOak
namespace C04
open RState RegL C03

mutual
theorem deserAux_total : ∀ (t : SerTree) (s : RState) (f : Fresh), t.sids.length ≤ f.length →
    ∃ s' r fr, s.deserAux t f = some (s', r, fr) ∧ f.length ≤ fr.length + t.sids.length
  | .mk sid cls mro kids, s, f, h => by
    have hlen : (SerTree.sids (.mk sid cls mro kids)).length = (SerTree.sidsL kids).length + 1 := by
      rw [SerTree.sids]; simp
    rw [deserAux_eq]
    cases hg : s.regGet sid with
    | some u => exact ⟨s, u, f, rfl, by omega⟩
    | none =>
      obtain ⟨s1, us, fr1, hk, hl⟩ := deserKids_total kids s f (by omega)
      simp only [hk]
      cases fr1 with
      | nil => exfalso; simp at hl; omega
      | cons e fr' =>
        obtain ⟨tok, base⟩ := e
        exact ⟨_, tok, fr', rfl, by simp at hl ⊢; omega⟩
theorem deserKids_total : ∀ (ts : List SerTree) (s : RState) (f : Fresh), (SerTree.sidsL ts).length ≤ f.length →
    ∃ s' us fr, s.deserKids ts f = some (s', us, fr) ∧ f.length ≤ fr.length + (SerTree.sidsL ts).length
  | [], s, f, _ => ⟨s, [], f, deserKids_nil s f, by omega⟩
  | t :: r, s, f, h => by
    have hlen : (SerTree.sidsL (t :: r)).length = t.sids.length + (SerTree.sidsL r).length := by
      rw [SerTree.sidsL]; simp
    obtain ⟨s1, u, f1, ha, hl1⟩ := deserAux_total t s f (by omega)
    obtain ⟨s2, us, f2, hk, hl2⟩ := deserKids_total r s1 f1 (by omega)
    exact ⟨s2, u :: us, f2, by rw [deserKids_cons, ha]; simp only [hk], by omega⟩
end

theorem deser_total (t : SerTree) (s : RState) (f : Fresh) (h : t.sids.length ≤ f.length) :
    ∃ s' r fr, s.deserAux t f = some (s', r, fr) :=
  let ⟨s', r, fr, h, _⟩ := deserAux_total t s f h
  ⟨s', r, fr, h⟩

/-- children precede their parents in the heap -/
def HeapOrd (s : RState) : Prop :=
  ∀ i o, s.heap[i]? = some o → ∀ k ∈ o.kids, k ∈ (s.heap.take i).map (·.uid)

/-- the harness variables point to objects of the heap -/
def RootsIn (s : RState) : Prop := ∀ r ∈ s.roots, r.2 ∈ s.heap.map (·.uid)

structure WF (s : RState) : Prop where
  ord : HeapOrd s
  roots : RootsIn s

theorem mem_take_iff {α : Type} {l : List α} {n : Nat} {a : α} : a ∈ l.take n ↔ ∃ j, j < n ∧ l[j]? = some a := by
  rw [List.mem_iff_getElem?]
  constructor
  · rintro ⟨j, hj⟩
    rw [List.getElem?_take] at hj
    split at hj
    · exact ⟨j, ‹_›, hj⟩
    · cases hj
  · rintro ⟨j, hlt, hj⟩
    exact ⟨j, by rw [List.getElem?_take, if_pos hlt]; exact hj⟩

/-- `WF` is the well-foundedness of `RegOrd`, which every admissible operation preserves -/
theorem heapOrd_iff {s : RState} : HeapOrd s ↔ RegOrd.Ordered s := by
  simp only [HeapOrd, RegOrd.Ordered, List.map_take, mem_take_iff]

theorem wf_iff {s : RState} : WF s ↔ RegOrd.WF s :=
  ⟨fun h => ⟨heapOrd_iff.1 h.ord, h.roots⟩, fun h => ⟨heapOrd_iff.2 h.ordered, h.roots⟩⟩

theorem live_in_heap {s : RState} (hI : Inv s) (hW : WF s) {u : Nat} (hl : s.isLive u = true) :
    u ∈ s.heap.map (·.uid) :=
  RegOrd.live_mem hI (wf_iff.1 hW) hl

theorem covered_le {s : RState} : ∀ {n m u : Nat}, s.Covered n u → n ≤ m → s.Covered m u := by
  intro n m u h hle
  induction hle with
  | refl => exact h
  | step _ ih => exact covered_mono ih

theorem heapOrd_covered {s : RState} (hO : HeapOrd s) (hnd : (s.heap.map (·.uid)).Nodup) :
    ∀ (i : Nat) (o : RObj), s.heap[i]? = some o → s.Covered (i + 1) o.uid := by
  intro i
  induction i using Nat.strongRecOn with
  | _ i ih =>
    intro o ho
    have hm : o ∈ s.heap := List.mem_of_getElem? ho
    rw [covered_succ]
    refine ⟨by rw [obj?_of_mem hnd hm]; rfl, ?_⟩
    intro k hk
    rw [kidsOf_of_mem hnd hm] at hk
    obtain ⟨ok, hok, rfl⟩ := List.mem_map.mp (hO i o ho k hk)
    obtain ⟨j, hj⟩ := List.mem_iff_getElem?.mp hok
    rw [List.getElem?_take] at hj
    split at hj
    · rename_i hlt
      exact covered_le (ih j hlt ok hj) (by omega)
    · cases hj

/-- the fuel `heap.length` always suffices for the serializer -/
theorem covered_heap {s : RState} (hO : HeapOrd s) (hI : Inv s) {u : Nat} (hu : u ∈ s.heap.map (·.uid)) :
    s.Covered s.heap.length u := by
  obtain ⟨o, ho, rfl⟩ := List.mem_map.mp hu
  obtain ⟨i, hi⟩ := List.mem_iff_getElem?.mp ho
  have hlt : i < s.heap.length := by
    rcases Nat.lt_or_ge i s.heap.length with h | h
    · exact h
    · rw [List.getElem?_eq_none h] at hi; cases hi
  exact covered_le (heapOrd_covered hO hI.heapNodup i o hi) (by omega)

theorem deserKids_ord : ∀ (ts : List SerTree) (s : RState) (f : Fresh) (s' : RState) (us : List Nat) (fr : Fresh),
    Inv s → FreshOk s f → HeapOrd s → s.deserKids ts f = some (s', us, fr) →
    HeapOrd s' ∧ (∀ u ∈ us, u ∈ s'.heap.map (·.uid)) ∧ ∀ x ∈ s.heap.map (·.uid), x ∈ s'.heap.map (·.uid) :=
  fun ts s f s' us fr hI hf hO h =>
    (RegOrd.deserKids_ordered ts s f s' us fr hI hf (heapOrd_iff.1 hO) h).imp_left heapOrd_iff.2

theorem wf_step {s : RState} {op : ROp} (hW : WF s) (hI : Inv s) (hok : OpOk s op) : WF (s.step op).1 :=
  wf_iff.2 (RegOrd.wf_step hI hok (wf_iff.1 hW))

theorem wf_run (ops : List ROp) (hok : AllOk {} ops) : WF (run {} ops) := wf_iff.2 (RegOrd.wf_run ops hok)

theorem allOk_of_allOkK : ∀ (ops : List ROp) (s : RState), AllOkK s ops → AllOk s ops
  | [], _, _ => trivial
  | _ :: r, _, h => ⟨h.1, allOk_of_allOkK r _ h.2.2⟩

/-- **`roundtrip_alive` for all histories**: after any admissible history, `as_obj(u.as_dict())` of a live, not
detached node answers `u` itself and creates nothing -/
theorem roundtrip_alive_history (ops : List ROp) (hok : AllOkK {} ops) {u : Nat}
    (hl : (run {} ops).isLive u = true) (hd : u ∉ (run {} ops).detached) (n v : Nat) (f : Fresh) :
    (run {} ops).deserAux ((run {} ops).serOf n u) f = some (run {} ops, u, f) ∧
    ((run {} ops).step (.asObj v ((run {} ops).serOf n u) [])).2 = .ok (some u) none := by
  have hok' := allOk_of_allOkK ops {} hok
  have hI : Inv (run {} ops) := inv_run ops hok'
  have hL := liveRegistered_run ops hok
  have hu := live_in_heap hI (wf_run ops hok') hl
  exact ⟨roundtrip_alive hI hL hu hl hd n f, (roundtrip_alive_step hI hL hu hl hd n v).1⟩

/-- **`roundtrip_fresh` for all histories**: the tree below a live node `u` none of whose nodes was detached,
serialized after any admissible history and read back in a fresh process with enough tokens:
`_deserialize` succeeds and the result is `Iso` to the original (and consists of new objects,
registered under the serialized ids) -/
theorem roundtrip_fresh_history (ops : List ROp) (hok : AllOkK {} ops) {u : Nat}
    (hl : (run {} ops).isLive u = true) (hd : ∀ v, Desc (run {} ops) u v → v ∉ (run {} ops).detached)
    {f : Fresh} (hf : FreshOk {} f)
    (hlen : ((run {} ops).serOf (run {} ops).heap.length u).sids.length ≤ f.length) :
    ∃ s' u' fr, ({} : RState).deserAux ((run {} ops).serOf (run {} ops).heap.length u) f = some (s', u', fr) ∧
      Iso (run {} ops) u s' u' ∧ ∀ v, Desc (run {} ops) u v → Good (run {} ops) s' (f.map (·.1)) v := by
  have hok' := allOk_of_allOkK ops {} hok
  have hI : Inv (run {} ops) := inv_run ops hok'
  have hL := liveRegistered_run ops hok
  have hW := wf_run ops hok'
  have hcov := covered_heap hW.ord hI (live_in_heap hI hW hl)
  obtain ⟨s', u', fr, h⟩ := deser_total _ ({} : RState) f hlen
  exact ⟨s', u', fr, h, roundtrip_fresh_process hI hL hcov hl hd hf h⟩

section Examples
private def A : Str := "A".toList
private def hist : List ROp :=
  [ .construct 0 A [A] [] [(1, "l".toList)], .construct 1 A [A] [1, 1] [(2, "p".toList)], .drop 0 ]
example : AllOkK {} hist ∧ (run {} hist).isLive 2 = true ∧ (run {} hist).detached = [] ∧
    FreshOk {} [(7, "l".toList), (8, "q".toList), (9, "r".toList)] ∧
    ((run {} hist).serOf (run {} hist).heap.length 2).sids.length = 3 := by decide
example : WF (run {} hist) := wf_run hist (by decide)
end Examples

end C04
end PyOak

#print axioms PyOak.C04.deser_total
#print axioms PyOak.C04.covered_heap
#print axioms PyOak.C04.live_in_heap
#print axioms PyOak.C04.wf_step
#print axioms PyOak.C04.wf_run
#print axioms PyOak.C04.roundtrip_alive_history
#print axioms PyOak.C04.roundtrip_fresh_history
