/- C12: yielded positions are sound and complete; nothing depends on the truth value of a child node. -/
import PyOak.Props.C12Sorted
namespace PyOak
namespace Acc
namespace C12

/-! ## positions are sound and complete -/

theorem mem_indexed {n : Nd} {k k0 : Nat} {ns : List Nd} :
    (n, k) ∈ indexed k0 ns ↔ k0 ≤ k ∧ ns[k - k0]? = some n := by
  rw [indexed_eq_zipIdx]
  exact List.mk_mem_zipIdx_iff_le_and_getElem?_sub

/-- what it means that position `(d, k)` of the instance holds node `n` -/
def Holds (i : Inst) (n : Nd) (d : FDecl) : Option Nat → Prop
  | none => d.kind = .childOne ∧ i.get d.name = .node n
  | some k => d.kind = .childTuple ∧ ∃ ns, i.get d.name = .tuple ns ∧ ns[k]? = some n

theorem mem_fieldNodes {i : Inst} {d : FDecl} {x : Nd × FDecl × Option Nat} :
    x ∈ fieldNodes i d ↔ x.2.1 = d ∧ Holds i x.1 d x.2.2 := by
  obtain ⟨n, d', k⟩ := x
  constructor
  · intro h
    unfold fieldNodes at h
    split at h
    · next m hk hv => cases List.mem_singleton.mp h; exact ⟨rfl, hk, hv⟩
    · cases h
    · next ns hk hv =>
      obtain ⟨⟨m, j⟩, hm, e⟩ := List.mem_map.mp h
      cases e
      exact ⟨rfl, hk, ns, hv, (mem_indexed.mp hm).2⟩
    · cases h
  · rintro ⟨rfl, h⟩
    unfold fieldNodes
    cases k with
    | none => rw [h.1, h.2]; exact List.mem_singleton.mpr rfl
    | some j =>
      obtain ⟨hk, ns, hv, hj⟩ := h
      rw [hk, hv]
      exact List.mem_map.mpr ⟨(n, j), mem_indexed.mpr ⟨Nat.zero_le _, hj⟩, rfl⟩

/-- **every yielded triple is a real position of a child field of the class and holds that node;
every position of every child field is yielded** (`None` index for single fields, tuple indices from 0) -/
theorem with_field_mem (c : ClassDecl) (i : Inst) (s : Bool) (n : Nd) (d : FDecl) (k : Option Nat) :
    (n, d, k) ∈ getChildNodesWithField c i s ↔ d ∈ c.fields ∧ Holds i n d k := by
  rw [get_child_nodes_with_field_eq_spec]
  unfold specChildNodesWithField specChildFields
  simp only [List.mem_flatMap, mem_ordered, List.mem_filter, mem_fieldNodes]
  constructor
  · rintro ⟨d', ⟨h1, _⟩, rfl, h3⟩; exact ⟨h1, h3⟩
  · rintro ⟨h1, h2⟩
    refine ⟨d, ⟨h1, ?_⟩, rfl, h2⟩
    cases k <;> simp [Holds] at h2 <;> simp [FDecl.isChild, h2.1]

/-- on a well-typed instance nothing stored in a child field is lost: a present single child and
every tuple element is among `children` -/
theorem children_complete (c : ClassDecl) (i : Inst) (hc : Conforms c.fields i) (d : FDecl)
    (hd : d ∈ c.fields) (hk : d.isChild = true) :
    (∀ n, i.get d.name = .node n → n ∈ children c i) ∧
    (∀ ns, i.get d.name = .tuple ns → ∀ n ∈ ns, n ∈ children c i) := by
  have key : ∀ n k, Holds i n d k → n ∈ children c i := by
    intro n k h
    rw [children_eq_spec]
    unfold specChildNodes
    rw [← get_child_nodes_with_field_eq_spec]
    exact List.mem_map.mpr ⟨(n, d, k), (with_field_mem c i false n d k).mpr ⟨hd, h⟩, rfl⟩
  have hcf := hc d hd
  refine ⟨fun n hn => key n none ⟨?_, hn⟩, fun ns hns n hmem => ?_⟩
  · rw [hn] at hcf; cases hkd : d.kind <;> simp [FDecl.isChild, hkd] at hk <;> simp [shapeOk, hkd] at hcf ⊢
  · obtain ⟨k, hlt, hk'⟩ := List.mem_iff_getElem.mp hmem
    refine key n (some k) ⟨?_, ns, hns, by simp [hlt, hk']⟩
    rw [hns] at hcf; cases hkd : d.kind <;> simp [FDecl.isChild, hkd] at hk <;> simp [shapeOk, hkd] at hcf ⊢

/-! ## the result does not depend on how a child evaluates in a boolean context -/

theorem get_retruth (g : Nat → Bool) (i : Inst) (n : Str) : (Inst.retruth g i).get n = (i.get n).retruth g := by
  unfold Inst.get Inst.retruth
  induction i with
  | nil => rfl
  | cons p r ih =>
    simp only [List.map_cons, List.find?_cons]
    by_cases h : p.1 = n
    · simp [h]
    · simp only [h, decide_false]; exact ih

theorem indexed_map (f : Nd → Nd) (k : Nat) (ns : List Nd) :
    indexed k (ns.map f) = (indexed k ns).map fun p => (f p.1, p.2) := by
  rw [indexed_eq_zipIdx, indexed_eq_zipIdx, List.zipIdx_map]; rfl

theorem fieldNodes_retruth (g : Nat → Bool) (i : Inst) (d : FDecl) :
    fieldNodes (Inst.retruth g i) d = (fieldNodes i d).map fun x => (x.1.retruth g, x.2) := by
  unfold fieldNodes
  rw [get_retruth]
  cases d.kind <;> cases i.get d.name <;>
    simp [FVal.retruth, indexed_map, List.map_map, Function.comp_def]

/-- **truthiness is irrelevant**: changing what `bool(child)` returns for any child changes no
yielded position (same objects, same fields, same indices) -/
theorem with_field_truthiness_irrelevant (g : Nat → Bool) (c : ClassDecl) (i : Inst) (s : Bool) :
    getChildNodesWithField c (Inst.retruth g i) s
      = (getChildNodesWithField c i s).map fun x => (x.1.retruth g, x.2) := by
  rw [get_child_nodes_with_field_eq_spec, get_child_nodes_with_field_eq_spec]
  unfold specChildNodesWithField
  rw [List.map_flatMap]
  exact Framing.flatMap_congr' fun d _ => fieldNodes_retruth g i d

theorem child_uids_truthiness_irrelevant (g : Nat → Bool) (c : ClassDecl) (i : Inst) (s : Bool) :
    (getChildNodes c (Inst.retruth g i) s).map Nd.uid = (getChildNodes c i s).map Nd.uid := by
  rw [get_child_nodes_eq_spec, get_child_nodes_eq_spec]
  unfold specChildNodes
  rw [← get_child_nodes_with_field_eq_spec, ← get_child_nodes_with_field_eq_spec,
    with_field_truthiness_irrelevant]
  simp [List.map_map, Function.comp_def, Nd.retruth]

end C12
end Acc
end PyOak
