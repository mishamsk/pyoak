/-
C14 — `duplicate` and `replace` produce faithful, independent copies (on the registry machine).
-/
import PyOak.Props.C03
namespace PyOak
namespace C14
open RState RegL C03

inductive Forall₂ {α β : Type} (R : α → β → Prop) : List α → List β → Prop
  | nil : Forall₂ R [] []
  | cons {a b l1 l2} : R a b → Forall₂ R l1 l2 → Forall₂ R (a :: l1) (b :: l2)

/-- `isCopy s n a b`: `b` has the class of `a` and its children are, position by position, copies
of the children of `a` (down to depth `n`, the fuel of `dupAux`) -/
def isCopy (s : RState) : Nat → Nat → Nat → Prop
  | 0, _, _ => False
  | n + 1, a, b => ∃ oa ob, s.obj? a = some oa ∧ s.obj? b = some ob ∧ ob.cls = oa.cls ∧ ob.mro = oa.mro ∧
      Forall₂ (isCopy s n) oa.kids ob.kids

theorem forall₂_imp {α β : Type} {R S : α → β → Prop} (h : ∀ a b, R a b → S a b) :
    ∀ {l1 : List α} {l2 : List β}, Forall₂ R l1 l2 → Forall₂ S l1 l2
  | _, _, .nil => .nil
  | _, _, .cons hab t => .cons (h _ _ hab) (forall₂_imp h t)

theorem forall₂_length {α β : Type} {R : α → β → Prop} :
    ∀ {l1 : List α} {l2 : List β}, Forall₂ R l1 l2 → l1.length = l2.length
  | _, _, .nil => rfl
  | _, _, .cons _ t => by simp [forall₂_length t]

theorem isCopy_mono {s s' : RState} (h : ∀ u o, s.obj? u = some o → s'.obj? u = some o) :
    ∀ (n a b : Nat), isCopy s n a b → isCopy s' n a b
  | 0, _, _, hc => hc.elim
  | n + 1, _, _, ⟨oa, ob, h1, h2, h3, h4, h5⟩ =>
    ⟨oa, ob, h _ _ h1, h _ _ h2, h3, h4, forall₂_imp (isCopy_mono h n) h5⟩

/-- records persist along an evolution without forced ids -/
theorem evol_obj_stable {K L : Nat → Prop} {C : Bool} {s f s1 f1} (hE : Evol K L false C s f s1 f1) (hI : Inv s)
    (hf : FreshOk s f) {u : Nat} {o : RObj} (h : s.obj? u = some o) : s1.obj? u = some o := by
  obtain ⟨hm, rfl⟩ := obj?_some h
  obtain ⟨ext, he⟩ := hE.heap_ext
  exact obj?_of_mem (evol_good hE hI hf).1.heapNodup (by rw [he]; exact List.mem_append_left _ hm)

/-- The induction over `dupAux`, for any notion of copy `R s n a b` that survives the creation of
further objects (`hmono`) and holds of a node `b` satisfying `Q` that has the class and mro of `a`
and whose children are, position by position, `R`-copies of the children of `a` (`hmk`); `Q` is any
predicate that all fresh tokens satisfy. -/
theorem dup_rel (R : RState → Nat → Nat → Nat → Prop) (Q : Nat → Prop)
    (hmono : ∀ {s s' : RState}, (∀ u o, s.obj? u = some o → s'.obj? u = some o) → ∀ n a b, R s n a b → R s' n a b)
    (hmk : ∀ {s : RState} {n a b : Nat} {oa ob : RObj}, Q b → s.obj? a = some oa → s.obj? b = some ob →
      ob.cls = oa.cls → ob.mro = oa.mro → Forall₂ (R s n) oa.kids ob.kids → R s (n + 1) a b) :
    ∀ (fuel : Nat) (s : RState) (x : Nat) (fresh : Fresh) (s' : RState) (u : Nat) (fr : Fresh),
    Inv s → FreshOk s fresh → (∀ t ∈ fresh.map (·.1), Q t) → s.dupAux fuel x fresh = some (s', u, fr) →
    R s' fuel x u := by
  intro fuel s x fresh s' u fr hI hf hQ h
  refine dupAux_ind
    (P := fun n s x f s' u _ => Inv s → FreshOk s f → (∀ t ∈ f.map (·.1), Q t) → R s' n x u)
    (PK := fun n s kids f s' ks f' => Inv s → FreshOk s f → (∀ t ∈ f.map (·.1), Q t) →
      Inv s' ∧ FreshOk s' f' ∧ (∀ t ∈ f'.map (·.1), Q t) ∧ Forall₂ (R s' n) kids ks ∧
      ∀ u o, s.obj? u = some o → s'.obj? u = some o)
    (fun _ _ _ hI hf hQ => ⟨hI, hf, hQ, .nil, fun _ _ h => h⟩) ?_ ?_ fuel s x fresh s' u fr h hI hf hQ
  · intro n s c rest f s1 c' f1 s2 cs f2 hd hP hPK hI hf hQ
    have hE := dupAux_evol _ _ _ _ _ _ _ hd
    obtain ⟨hI1, hf1⟩ := evol_good hE hI hf
    obtain ⟨a1, a2, a3, a4, a5⟩ := hPK hI1 hf1 (hE.freshK hQ)
    exact ⟨a1, a2, a3, .cons (hmono a5 n c c' (hP hI hf hQ)) a4,
      fun u o h => a5 u o (evol_obj_stable hE hI hf h)⟩
  · intro n s u f o s1 ks tok base fr ho hPK hI hf hQ
    obtain ⟨hI1, hf1, hQ1, hks, hst⟩ := hPK hI hf hQ
    have hI2 := pNew_inv hI1 hf1.head o.cls o.mro base ks
    have hst2 : ∀ w ow, s1.obj? w = some ow → (s1.pNew tok o.cls o.mro base ks).obj? w = some ow := by
      intro w ow hw
      obtain ⟨hm, rfl⟩ := obj?_some hw
      exact obj?_of_mem hI2.heapNodup (List.mem_append_left _ hm)
    refine hmk (ob := { uid := tok, cls := o.cls, mro := o.mro, base := base, id := s1.freshId base, kids := ks })
      (hQ1 tok (List.Mem.head _)) (hst2 _ _ (hst _ _ ho)) ?_ rfl rfl (forall₂_imp (hmono hst2 n) hks)
    exact obj?_of_mem (o := { uid := tok, cls := o.cls, mro := o.mro, base := base, id := s1.freshId base, kids := ks })
      hI2.heapNodup (List.mem_append_right _ (List.mem_singleton.mpr rfl))

theorem dup_copy : ∀ (fuel : Nat) (s : RState) (x : Nat) (fresh : Fresh) (s' : RState) (u : Nat) (fr : Fresh),
    Inv s → FreshOk s fresh → s.dupAux fuel x fresh = some (s', u, fr) → isCopy s' fuel x u :=
  fun fuel s x fresh s' u fr hI hf h =>
    dup_rel isCopy (fun _ => True) isCopy_mono (fun _ h1 h2 h3 h4 h5 => ⟨_, _, h1, h2, h3, h4, h5⟩)
      fuel s x fresh s' u fr hI hf (fun _ _ => trivial) h

/-- **duplicate**: the tokens consumed are new objects, each registered under an id that no
registered node of the original state uses; the result is one of them and is a structural copy
of the original (same class, children copied position by position). -/
theorem dup_fresh {s : RState} {fuel x : Nat} {fresh : Fresh} {s' : RState} {u : Nat} {fr : Fresh}
    (hI : Inv s) (hf : FreshOk s fresh) (h : s.dupAux fuel x fresh = some (s', u, fr)) :
    ∀ pre, fresh = pre ++ fr →
      (∀ t ∈ pre.map (·.1), t ∉ s.heap.map (·.uid) ∧
        ∃ o ∈ s'.heap, o.uid = t ∧ s'.regGet o.id = some t ∧ o.id ∉ s.reg.map (·.1)) ∧
      u ∈ pre.map (·.1) ∧ isCopy s' fuel x u := by
  intro pre hpre
  have hE := dupAux_evol _ _ _ _ _ _ _ h
  have hI' := (evol_good hE hI hf).1
  obtain ⟨p, hp, hu⟩ := evol_uids hE
  obtain rfl : pre = p := List.append_cancel_right (hpre.symm.trans hp)
  have hfr : ∀ t ∈ pre.map (·.1), t ∉ s.heap.map (·.uid) := fun t ht =>
    hf.2 t (by rw [hpre]; simp only [List.map_append, List.mem_append]; exact Or.inl ht)
  refine ⟨?_, ?_, dup_copy _ _ _ _ _ _ _ hI hf h⟩
  · intro t ht
    refine ⟨hfr t ht, ?_⟩
    have hm : t ∈ s'.heap.map (·.uid) := by rw [hu]; exact List.mem_append_right _ ht
    obtain ⟨o, ho, rfl⟩ := List.mem_map.mp hm
    rcases evol_new_id hE hI hf o ho with h1 | ⟨h1, h2⟩
    · exact absurd (List.mem_map.mpr ⟨o, h1, rfl⟩) (hfr _ ht)
    · exact ⟨o, ho, rfl, rget_of_mem hI'.keysNodup h1, h2⟩
  · -- `u` is a fresh token and an object of `s'`
    have hfu : u ∈ fresh.map (·.1) :=
      (dupAux_evolK (· ∈ fresh.map (·.1)) (fun _ => True) false _ _ _ _ _ _ _ (fun _ h => h) (fun _ _ => trivial) h).2
    cases fuel with
    | zero => simp [dupAux_zero] at h
    | succ n =>
      obtain ⟨o, s1, ks, base, _, _, rfl⟩ := dupAux_inv h
      have hmem : u ∈ (s1.pNew u o.cls o.mro base ks).heap.map (·.uid) := by simp [pNew]
      rw [hu] at hmem
      exact (List.mem_append.mp hmem).resolve_left (hf.2 u hfu)

/-- the copies are independent objects: no consumed token is an object of the original state
(so no original node is shared with the copy) -/
theorem dup_independent {s : RState} {fuel x : Nat} {fresh : Fresh} {s' : RState} {u : Nat} {fr : Fresh}
    (hI : Inv s) (hf : FreshOk s fresh) (h : s.dupAux fuel x fresh = some (s', u, fr)) :
    u ∉ s.heap.map (·.uid) ∧ ∀ o ∈ s.heap, o ∈ s'.heap := by
  obtain ⟨p, hp⟩ := (dupAux_evol _ _ _ _ _ _ _ h).suffix
  obtain ⟨h1, h2, _⟩ := dup_fresh hI hf h p hp
  refine ⟨(h1 u h2).1, ?_⟩
  intro o ho
  obtain ⟨ext, he⟩ := (dupAux_evol _ _ _ _ _ _ _ h).heap_ext
  rw [he]; exact List.mem_append_left _ ho

/-! ### `dataclasses.replace` (`replace`: `replace_new_id`, with the general statement in C14Extra) -/

/-- **dataclasses.replace**: the original stays registered (as long as it is still referenced) and
the new node gets a different id. -/
theorem dcReplace_new_id {s : RState} (hI : Inv s) {v x : Nat} {kids : List Nat} {tok : Nat} {base : Str} {o : RObj}
    (hok : OpOk s (.dcReplace v x kids [(tok, base)]))
    (hx : s.isLive x = true) (hk : kids.all s.isLive = true) (ho : s.obj? x = some o)
    (hreg : s.regGet (s.idOf x) = some x) :
    let s2 := (s.step (.dcReplace v x kids [(tok, base)])).1
    (s2.isLive x = true → s2.regGet (s.idOf x) = some x) ∧
    s2.idOf tok = s.freshId base ∧ s2.idOf tok ≠ s.idOf x ∧ s2.idOf x = s.idOf x := by
  intro s2
  have hs2 : s2 = ((s.pNew tok o.cls o.mro base kids).bind v tok).gc := congrArg Prod.fst (step_dcReplace hx hk ho)
  have htok : tok ∉ s.heap.map (·.uid) := FreshOk.head hok
  have hxm : (s.idOf x, x) ∈ s.reg := rget_some_mem hreg
  have hI2 : Inv s2 := inv_step hI hok
  have hid : s2.idOf tok = s.freshId base := by
    rw [hs2]; exact idOf_pNew htok _ _ _ _
  have hne : s.freshId base ≠ s.idOf x := by
    intro e
    apply RegL.freshId_free s base
    rw [e]; exact List.mem_map.mpr ⟨_, hxm, rfl⟩
  refine ⟨?_, hid, by rw [hid]; exact hne, ?_⟩
  · intro hl
    apply rget_of_mem hI2.keysNodup
    rw [hs2]
    refine List.mem_filter.mpr ⟨?_, ?_⟩
    · simp only [RState.bind, pNew]
      exact mem_regSet.mpr (Or.inl ⟨hxm, fun e => hne e.symm⟩)
    · rw [hs2, isLive_gc] at hl
      exact hl
  · obtain ⟨hm, hu⟩ := obj?_some ho
    have h1 : s2.obj? o.uid = some o := by
      apply obj?_of_mem hI2.heapNodup
      rw [hs2]
      exact List.mem_append_left _ hm
    simp only [idOf, ← hu, h1, obj?_of_mem hI.heapNodup hm]

end C14
end PyOak

#print axioms PyOak.C14.dup_fresh
#print axioms PyOak.C14.dup_copy
#print axioms PyOak.C14.dup_independent
#print axioms PyOak.C14.dcReplace_new_id
