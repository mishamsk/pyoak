/-
C05, "bfs yields level by level" tied to DEPTH.

`C05.level` is an iteration of `nextLevel`; `C05.bfs_levels` proves that the queue loop of `bfs`
is the concatenation of these levels.  Here the levels are tied to the downward structure of the
tree, in the vocabulary of C06 (`IsChain`: root-first chains, each member stored in its
predecessor):

* `level_iff_depth` : `x` is in the `k`-th level (no pruning) iff there is a chain from the start
  node to `x.node` with `k + 2` members whose last edge is `x`'s `(parent, field, index)`;
* `bfs_depth_sorted` / `bfs_depth_sorted_chain` : the `bfs` stream, position by position, carries
  depths that never decrease: it is the concatenation of the levels by increasing depth; every
  position at every depth is listed;
* `trail_iff_chain` : trails (Spec/Traverse.lean) and chains are the same thing.
-/
import PyOak.Props.C05Trails
import PyOak.Props.C06
namespace PyOak
namespace C05D
open C05 C05X C05T Trav

/-! ### trails and chains -/

/-- the root-first chain spelled by a trail below `n` -/
def chainOf (n : Node) (t : List Item) : Chain :=
  (n, none) :: t.map (fun it => (it.node, some it.edge))

theorem chainOf_snoc (n : Node) (t : List Item) (x : Item) :
    chainOf n (t ++ [x]) = chainOf n t ++ [(x.node, some x.edge)] := by simp [chainOf]

theorem chainOf_length (n : Node) (t : List Item) : (chainOf n t).length = t.length + 1 := by
  simp [chainOf]

/-- a chain spelled by a trail ends in the end node of the trail -/
theorem chainOf_last (n : Node) (t : List Item) :
    ∃ c pe, chainOf n t = c ++ [(endNode n t, pe)] ∧ c.length = t.length := by
  by_cases h : t = []
  · subst h; exact ⟨[], none, rfl, rfl⟩
  · obtain ⟨t', y, rfl⟩ := Framing.exists_snoc h
    exact ⟨chainOf n t', some y.edge, by rw [chainOf_snoc, endNode_snoc],
      by simp [chainOf_length]⟩

theorem chain_extend (root : Node) (t : List Item) :
    ∀ (c : Chain) (m : Node) (oe : Option Edge), IsChain root (c ++ [(m, oe)]) → IsTrail m t →
      IsChain root (c ++ [(m, oe)] ++ t.map (fun it => (it.node, some it.edge))) := by
  induction t with
  | nil => intro c m oe h _; simpa using h
  | cons a r ih =>
    intro c m oe h ht
    obtain ⟨ha, hr⟩ := ht
    have h1 := IsChain.snoc c m oe a.node a.edge h ((mem_items_iff m a).mp ha).2
    have := ih (c ++ [(m, oe)]) a.node (some a.edge) h1 hr
    simpa using this

/-- every valid trail spells a chain -/
theorem isChain_of_trail (n : Node) (t : List Item) (h : IsTrail n t) : IsChain n (chainOf n t) := by
  have := chain_extend n t [] n none IsChain.root h
  simpa [chainOf] using this

/-- every chain is spelled by a valid trail -/
theorem trail_of_isChain (n : Node) (c : Chain) (m : Node) (oe : Option Edge)
    (h : IsChain n (c ++ [(m, oe)])) : ∃ t, IsTrail n t ∧ t.length = c.length ∧ endNode n t = m :=
  C06.chain_rec n (motive := fun c m _ => ∃ t, IsTrail n t ∧ t.length = c.length ∧ endNode n t = m)
    ⟨[], trivial, rfl, rfl⟩
    (fun c p pe m e _ hmem ⟨t, ht, hl, hend⟩ =>
      ⟨t ++ [⟨m, p, e⟩],
        (isTrail_snoc n t _).mpr ⟨ht, by rw [hend]; exact (mem_items_iff p _).mpr ⟨rfl, hmem⟩⟩,
        by rw [List.length_append, List.length_append, hl]; rfl, endNode_snoc n t _⟩)
    c m oe h

/-- `x` lies at depth `k + 1` below `n`: a root-first chain with `k` members before `x.parent`
leads to `x.node`, its last edge being `x`'s `(parent, field, index)` -/
def HasDepth (n : Node) (x : Item) (k : Nat) : Prop :=
  ∃ c pe, IsChain n (c ++ [(x.parent, pe)] ++ [(x.node, some x.edge)]) ∧ c.length = k

/-- **trails = chains**: `x` ends a valid trail with `k` earlier positions iff a chain with `k`
members before `x.parent` leads to `x.node` through `x`'s `(parent, field, index)` -/
theorem trail_iff_chain (n : Node) (x : Item) (k : Nat) :
    (∃ t, t.length = k ∧ IsTrail n (t ++ [x])) ↔ HasDepth n x k := by
  constructor
  · rintro ⟨t, hk, ht⟩
    have hc := isChain_of_trail n _ ht
    rw [chainOf_snoc] at hc
    obtain ⟨c, pe, hl, hlen⟩ := chainOf_last n t
    have hp : x.parent = endNode n t := items_parent _ x ((isTrail_snoc n t x).mp ht).2
    rw [hl, ← hp] at hc
    exact ⟨c, pe, hc, hlen.trans hk⟩
  · rintro ⟨c, pe, hc, hk⟩
    obtain ⟨h1, h2⟩ := C06.chain_inv2 n c x.parent pe x.node x.edge hc
    obtain ⟨t, ht, hl, hend⟩ := trail_of_isChain n c x.parent pe h1
    exact ⟨t, hl.trans hk,
      (isTrail_snoc n t x).mpr ⟨ht, by rw [hend]; exact (mem_items_iff x.parent x).mpr ⟨rfl, h2⟩⟩⟩

/-! ### levels by depth -/

/-- **bfs "level by level" is "by depth"**: without pruning, `x` is in the `k`-th level iff a
chain from the start node to `x.node` of `k + 2` members ends with `x`'s position -/
theorem level_iff_depth (n : Node) (k : Nat) (x : Item) :
    x ∈ level (fun _ => false) n k ↔
      ∃ c pe, IsChain n (c ++ [(x.parent, pe)] ++ [(x.node, some x.edge)]) ∧ c.length = k := by
  rw [level_iff_trail]
  refine Iff.trans ?_ (trail_iff_chain n x k)
  constructor
  · rintro ⟨t, h1, h2, _⟩; exact ⟨t, h1, h2⟩
  · rintro ⟨t, h1, h2⟩; exact ⟨t, h1, h2, fun _ _ => rfl⟩

/-- depth bound: positions exist only at depths below the size of the tree -/
theorem hasDepth_lt (n : Node) (x : Item) (k : Nat) (h : HasDepth n x k) : k + 1 < n.size := by
  obtain ⟨c, pe, hc, hk⟩ := h
  have := C06.chain_length_lt n _ _ _ hc
  simp at this
  omega

/-- the `bfs` stream, for every prune and filter, annotated with levels: the level numbers never
decrease along the stream and every yielded position belongs to the level it is annotated with -/
theorem bfs_level_sorted (P F : Item → Bool) (n : Node) :
    ∃ ann : List (Item × Nat), ann.map (·.1) = bfsImpl P F n ∧
      (ann.map (·.2)).Pairwise (· ≤ ·) ∧
      (∀ p ∈ ann, p.1 ∈ level P n p.2 ∧ p.2 < n.size ∧ F p.1 = true) ∧
      ∀ k x, k < n.size → x ∈ level P n k → F x = true → (x, k) ∈ ann := by
  refine ⟨(List.range n.size).flatMap fun k => ((level P n k).filter F).map (·, k), ?_, ?_, ?_, ?_⟩
  · rw [bfs_levels, bfs, List.filter_flatMap, List.map_flatMap]
    exact Framing.flatMap_congr' fun k _ => by rw [List.map_map]; exact List.map_id _
  · rw [List.pairwise_map]
    refine List.pairwise_flatMap.mpr ⟨fun k _ => ?_, List.pairwise_lt_range.imp ?_⟩
    · exact List.pairwise_map.mpr (List.pairwise_of_forall fun _ _ => Nat.le_refl _)
    · intro a b hab x hx y hy
      obtain ⟨_, _, rfl⟩ := List.mem_map.mp hx
      obtain ⟨_, _, rfl⟩ := List.mem_map.mp hy
      exact Nat.le_of_lt hab
  · intro p hp
    obtain ⟨k, hk, hp⟩ := List.mem_flatMap.mp hp
    obtain ⟨x, hx, rfl⟩ := List.mem_map.mp hp
    exact ⟨(List.mem_filter.mp hx).1, List.mem_range.mp hk, (List.mem_filter.mp hx).2⟩
  · intro k x hk hx hF
    exact List.mem_flatMap.mpr ⟨k, List.mem_range.mpr hk,
      List.mem_map.mpr ⟨x, List.mem_filter.mpr ⟨hx, hF⟩, rfl⟩⟩

/-- **bfs yields by non-decreasing depth** (no prune, no filter): position by position the
stream carries a depth (`HasDepth`: the length of a chain from the start node), these depths never
decrease along the stream, and every position at every depth is in the stream — i.e. the stream
is the concatenation of the depth classes by increasing depth -/
theorem bfs_depth_sorted_chain (n : Node) :
    ∃ ann : List (Item × Nat),
      ann.map (·.1) = bfsImpl (fun _ => false) (fun _ => true) n ∧
      (ann.map (·.2)).Pairwise (· ≤ ·) ∧
      (∀ p ∈ ann, HasDepth n p.1 p.2) ∧
      ∀ x k, HasDepth n x k → (x, k) ∈ ann := by
  obtain ⟨ann, h1, h2, h3, h4⟩ := bfs_level_sorted (fun _ => false) (fun _ => true) n
  refine ⟨ann, h1, h2, ?_, ?_⟩
  · intro p hp; exact (level_iff_depth n p.2 p.1).mp (h3 p hp).1
  · intro x k h
    have := hasDepth_lt n x k h
    exact h4 k x (by omega) ((level_iff_depth n k x).mpr h) rfl

/-- the same with pruning and filtering, depth read as the length of a trail whose earlier
positions are not pruned -/
theorem bfs_depth_sorted (P F : Item → Bool) (n : Node) :
    ∃ ann : List (Item × Nat), ann.map (·.1) = bfsImpl P F n ∧
      (ann.map (·.2)).Pairwise (· ≤ ·) ∧
      ∀ p ∈ ann, ∃ t, t.length = p.2 ∧ IsTrail n (t ++ [p.1]) ∧ ∀ y ∈ t, P y = false := by
  obtain ⟨ann, h1, h2, h3, _⟩ := bfs_level_sorted P F n
  exact ⟨ann, h1, h2, fun p hp => (level_iff_trail P n p.2 p.1).mp (h3 p hp).1⟩

/-- the stream is the concatenation of the depth classes (explicit form of `bfs_levels` with the
levels read as depths) -/
theorem bfs_concat_depth (n : Node) :
    bfsImpl (fun _ => false) (fun _ => true) n =
        (List.range n.size).flatMap (level (fun _ => false) n) ∧
      ∀ k x, x ∈ level (fun _ => false) n k ↔ HasDepth n x k := by
  refine ⟨?_, fun k x => level_iff_depth n k x⟩
  rw [bfs_levels]; simp [bfs]

private def hd (u : Nat) (c : Str) : Head :=
  { uid := u, cls := c, mro := [c], org := ⟨0, []⟩, props := [], truthy := true }
private def leaf (u : Nat) : Node := .mk (hd u ['L']) []
private def mid : Node := .mk (hd 2 ['M']) [.mk ['x'] false [leaf 3], .mk ['y'] true [leaf 5, leaf 6]]
private def tree : Node := .mk (hd 0 ['R']) [.mk ['a'] true [leaf 1, mid], .mk ['b'] false [leaf 4]]

example : (level (fun _ => false) tree 0).map (·.node.uid) = [1, 2, 4] := by decide
example : (level (fun _ => false) tree 1).map (·.node.uid) = [3, 5, 6] := by decide
example : (bfsImpl (fun _ => false) (fun _ => true) tree).map (·.node.uid) = [1, 2, 4, 3, 5, 6] := by
  decide
/-- the position of `leaf 3` has depth 1 (one member, the root, before its parent `mid`) -/
example : HasDepth tree ⟨leaf 3, mid, ⟨['x'], none⟩⟩ 1 :=
  ⟨[(tree, none)], some ⟨['a'], some 1⟩,
    IsChain.snoc _ _ _ _ _ (IsChain.snoc [] _ _ _ _ IsChain.root (List.Mem.tail _ (List.Mem.head _)))
      (List.Mem.head _), rfl⟩

#print axioms trail_iff_chain
#print axioms level_iff_depth
#print axioms bfs_level_sorted
#print axioms bfs_depth_sorted_chain
#print axioms bfs_depth_sorted
#print axioms bfs_concat_depth

end C05D
end PyOak
