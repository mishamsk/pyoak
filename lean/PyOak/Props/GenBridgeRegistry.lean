/-
Bridge for the node registry (C03): the hand-written registry machine (Model/Registry.lean) is the set of definitions
GENERATED from src/pyoak/node.py by harness/py2lean_r.py (Gen/KernelsRegistry.lean), instantiated with

  reg := s.reg     (`NODE_REGISTRY` read as the plain mapping id ↦ object it is at the moment of the call; objects = uids)
  py.uid := id     py.id_attr := the `id` the object carries in the heap (`RState.idOf`)
  py.type_of u := the class of `u` (`none` for an object the heap does not know)      cls := `some c`
  py.isinstance u (some c) := `c ∈ mro u`           py.dfs_nodes := any function `D` (for `step`: `RState.descendants`)

ON EVERY STATE `s` (no hypothesis, no invariant):
  regGet_eq_gen, regDel_eq_gen, regSet_eq_gen    the dict primitives of the model ARE the primitives of the prelude (rfl)
  loop_least              the generated `while` loop entered with `id_ = base_i` returns the least free `base_j`, `j ≥ i`, as
                          soon as its fuel reaches it; the model's `freshId` is that candidate (`RegL.freshId_spec`)
  freshId_eq_gen_of_le    `_get_next_unique_id(base)` = `.ok (s.freshId base)` with any fuel `≥ reg.length + 2` (the source has
                          none): the loop body runs at most `reg.length + 1` times (one more test of the condition ends it);
                          freshId_eq_gen: the least such fuel; in particular no `OutOfFuel`
  getAny_eq_gen, get_eq_gen            (with an arbitrary `default`; `_none`: the default `None` of the signature)
  detachSelf_eq_gen       `detach_self` = `.ok (registry of pDetachSelf, its flag)`; in particular no `KeyError` from `del`
  detach_eq_gen           `detach` = `.ok (registry after pDetachSelf on self and then on every element of D self, ())`
  step_detach_eq_gen, step_detachSelf_eq_gen      the same two, read off `RState.step` (the state before the final `gc`)
-/
import PyOak.Gen.KernelsRegistry
import PyOak.Props.C03Extra
namespace PyOak.GenBridgeRegistry
open PyOak RState RegL

/-- objects are uids; what the generated code asks of an object is read from the heap -/
def pyOf (heap : List RObj) (D : Nat → List Nat) : GenR.Py Nat (Option Str) :=
  { uid := fun u => u
    id_attr := fun u => ((heap.find? (·.uid == u)).map (·.id)).getD []
    type_of := fun u => (heap.find? (·.uid == u)).map (·.cls)
    isinstance := fun u c => (heap.find? (·.uid == u)).any (fun o => c.any (fun c => o.mro.contains c))
    dfs_nodes := D }

theorem pyOf_id_attr (s : RState) (D : Nat → List Nat) (u : Nat) : (pyOf s.heap D).id_attr u = s.idOf u := rfl
theorem pyOf_uid (heap : List RObj) (D : Nat → List Nat) (u : Nat) : (pyOf heap D).uid u = u := rfl
theorem pyOf_type_of (s : RState) (D : Nat → List Nat) (u : Nat) :
    (pyOf s.heap D).type_of u = (s.obj? u).map (·.cls) := rfl
theorem pyOf_isinstance (s : RState) (D : Nat → List Nat) (u : Nat) (c : Option Str) :
    (pyOf s.heap D).isinstance u c = (s.obj? u).any (fun o => c.any (fun c => o.mro.contains c)) := rfl

theorem regGet_eq_gen (s : RState) (k : Str) : s.regGet k = GenR.Reg.get s.reg k := rfl
theorem regDel_eq_gen (reg : List (Str × Nat)) (k : Str) : regDel reg k = GenR.Reg.discard reg k := rfl
theorem regSet_eq_gen (reg : List (Str × Nat)) (k : Str) (u : Nat) : regSet reg k u = GenR.Reg.setitem reg k u := rfl

theorem pyStrInt_natCast (i : Nat) : GenR.py_str_int (i : Int) = natStr i := rfl

theorem suffixed_eq_gen (base : Str) (i : Nat) : base ++ ['_'] ++ GenR.py_str_int (i : Int) = suffixed base i := by
  simp [suffixed, pyStrInt_natCast]

theorem contains_iff_get {reg : List (Str × Nat)} {k : Str} :
    GenR.Reg.contains reg k = (GenR.Reg.get reg k).isSome := by
  induction reg with
  | nil => rfl
  | cons e r ih =>
    simp only [GenR.Reg.contains, GenR.Reg.get, List.any_cons, List.find?_cons] at ih ⊢
    cases h : (e.1 == k) <;> simp [ih]

theorem get_isSome_iff {reg : GenR.Reg Nat} {k : Str} : (GenR.Reg.get reg k).isSome = true ↔ k ∈ reg.map (·.1) :=
  rget_isSome_iff

section
variable {C : Type} [BEq C] (py : GenR.Py Nat C)

/-- the generated loop, entered with the candidate `base_i` under test and the counter `i + 1`, returns the least free
candidate `base_j` as soon as its fuel reaches it (one unit per test) -/
theorem loop_least (reg : GenR.Reg Nat) (base : Str) (j : Nat) (hfree : suffixed base j ∉ reg.map (·.1)) :
    ∀ (fuel i : Nat), i ≤ j → j < i + fuel → (∀ m, i ≤ m → m < j → suffixed base m ∈ reg.map (·.1)) →
      GenR._get_next_unique_id_loop py reg base fuel (suffixed base i) ((i + 1 : Nat) : Int) = .ok (suffixed base j) := by
  intro fuel
  induction fuel with
  | zero => intro i h1 h2; omega
  | succ fuel ih =>
    intro i h1 h2 ht
    rw [GenR._get_next_unique_id_loop]
    by_cases hi : suffixed base i ∈ reg.map (·.1)
    · have hne : i ≠ j := by intro e; subst e; exact hfree hi
      have e1 : ((i + 1 : Nat) : Int) + (1 : Int) = ((i + 1 + 1 : Nat) : Int) := by omega
      rw [if_pos (get_isSome_iff.mpr hi)]
      simp only [suffixed_eq_gen, e1]
      exact ih (i + 1) (by omega) (by omega) (fun m a b => ht m (by omega) b)
    · have : i = j := Nat.le_antisymm h1 (Nat.le_of_not_lt fun hlt => hi (ht i (Nat.le_refl _) hlt))
      rw [if_neg (fun h => hi (get_isSome_iff.mp h)), this]

/-- **`_get_next_unique_id`**: on every registry the generated function, given at least `reg.length + 2` tests of the
loop condition (= at most `reg.length + 1` runs of the loop body), returns the id the model hands out; the source has no
fuel, and every larger bound gives the same answer -/
theorem freshId_eq_gen_of_le (s : RState) (base : Str) (fuel : Nat) (h : s.reg.length + 2 ≤ fuel) :
    GenR._get_next_unique_id py s.reg fuel base = .ok (s.freshId base) := by
  obtain ⟨f, rfl⟩ : ∃ f, fuel = f + 1 := ⟨fuel - 1, by omega⟩
  have e1 : (1 : Int) + (1 : Int) = ((1 + 1 : Nat) : Int) := by decide
  have e2 : base ++ ['_'] ++ GenR.py_str_int (1 : Int) = suffixed base 1 := suffixed_eq_gen base 1
  unfold GenR._get_next_unique_id
  rw [GenR._get_next_unique_id_loop]
  by_cases h0 : base ∈ s.reg.map (·.1)
  · obtain ⟨j, h1, h2, h3, h4, h5⟩ := freshId_spec s base h0
    rw [if_pos (get_isSome_iff.mpr h0), h3]
    simp only [e1, e2]
    exact loop_least py s.reg base j h5 f 1 h1 (by omega) h4
  · rw [if_neg (fun h => h0 (get_isSome_iff.mp h)), RegL.id_fresh_is_base s base (rget_none_iff.mpr h0)]

theorem freshId_eq_gen (s : RState) (base : Str) :
    GenR._get_next_unique_id py s.reg (s.reg.length + 2) base = .ok (s.freshId base) :=
  freshId_eq_gen_of_le py s base _ (Nat.le_refl _)

/-- no registry makes the generated loop run out of the fuel `reg.length + 2` -/
theorem nextUnique_no_outOfFuel (s : RState) (base : Str) :
    GenR._get_next_unique_id py s.reg (s.reg.length + 2) base ≠ .error .OutOfFuel := by
  rw [freshId_eq_gen]; intro h; cases h

theorem getAny_eq_gen (s : RState) (cls : C) (k : Str) (d : Option Nat) :
    GenR.get_any py s.reg cls k d = (s.getAny k).or d := rfl

theorem getAny_eq_gen_none (s : RState) (cls : C) (k : Str) : GenR.get_any py s.reg cls k none = s.getAny k := by
  rw [getAny_eq_gen]; simp

end

theorem get_eq_gen (s : RState) (D : Nat → List Nat) (cls k : Str) (d : Option Nat) (strict : Bool) :
    GenR.get (pyOf s.heap D) s.reg (some cls) k d strict = (s.get cls k strict).or d := by
  unfold GenR.get RState.get
  rw [← regGet_eq_gen]
  cases hg : s.regGet k with
  | none => simp
  | some u =>
    have ht := pyOf_type_of s D u
    have hi := pyOf_isinstance s D u (some cls)
    cases ho : s.obj? u with
    | none =>
      rw [ho] at ht hi
      cases strict <;> simp [ht, hi, ho]
    | some o =>
      rw [ho] at ht hi
      cases strict <;> simp_all <;> split <;> simp

theorem get_eq_gen_none (s : RState) (D : Nat → List Nat) (cls k : Str) (strict : Bool) :
    GenR.get (pyOf s.heap D) s.reg (some cls) k none strict = s.get cls k strict := by
  rw [get_eq_gen]; simp

/-- **`detach_self`**: the generated function never raises (`del` finds its key) and is the model's `pDetachSelf` -/
theorem detachSelf_eq_gen (s : RState) (D : Nat → List Nat) (u : Nat) :
    GenR.detach_self (pyOf s.heap D) s.reg u = .ok ((s.pDetachSelf u).1.reg, (s.pDetachSelf u).2) := by
  unfold GenR.detach_self pDetachSelf
  rw [pyOf_id_attr, ← regGet_eq_gen]
  simp only [pyOf, Option.map_id']
  by_cases h : s.regGet (s.idOf u) = some u
  · have hc : GenR.Reg.contains s.reg (s.idOf u) = true := by
      rw [contains_iff_get, ← regGet_eq_gen, h]; rfl
    simp [h, hc, regDel_eq_gen]
  · have h' : (s.regGet (s.idOf u) == some u) = false := by simpa using h
    simp [h']

theorem foldlM_detach (f : GenR.Reg Nat → Nat → Except GenR.Err (GenR.Reg Nat)) : ∀ (us : List Nat) (s : RState),
    (∀ s' : RState, s'.heap = s.heap → ∀ c, f s'.reg c = .ok (s'.pDetachSelf c).1.reg) →
      us.foldlM f s.reg = .ok (detachAll s us).reg
  | [], s, _ => rfl
  | c :: r, s, hf => by
    rw [List.foldlM_cons, detachAll_cons, hf s rfl c]
    simp only [Bind.bind, Except.bind]
    exact foldlM_detach f r (s.pDetachSelf c).1 (fun s' hs' => hf s' (hs'.trans (C03.pDetachSelf_fst_heap s c)))

/-- **`detach`**: `detach_self` on the node, then on every element of `self.dfs()` in order -/
theorem detach_eq_gen (s : RState) (D : Nat → List Nat) (x : Nat) :
    GenR.detach (pyOf s.heap D) s.reg x = .ok ((detachAll (s.pDetachSelf x).1 (D x)).reg, ()) := by
  unfold GenR.detach
  have hd : (pyOf s.heap D).dfs_nodes x = D x := rfl
  rw [detachSelf_eq_gen, hd]
  dsimp only
  rw [foldlM_detach _ (D x) (s.pDetachSelf x).1]
  intro s' hs' c
  have h : s'.heap = s.heap := hs'.trans (C03.pDetachSelf_fst_heap s x)
  rw [← h, detachSelf_eq_gen]

/-! ### read off `RState.step` -/

/-- `x.detach()` as an operation of the machine: the registry just before the final `gc` is the one the generated `detach`
returns, with `self.dfs()` = the model's `descendants` -/
theorem step_detach_eq_gen (s : RState) (x : Nat) (hx : s.isLive x = true) :
    ∃ s1 : RState, (s.step (.detach x)).1 = s1.gc ∧
      GenR.detach (pyOf s.heap (s.descendants (s.heap.length + 1))) s.reg x = .ok (s1.reg, ()) :=
  ⟨_, congrArg Prod.fst (step_detach hx), detach_eq_gen s _ x⟩

theorem step_detachSelf_eq_gen (s : RState) (D : Nat → List Nat) (x : Nat) (hx : s.isLive x = true) :
    ∃ (s1 : RState) (b : Bool), s.step (.detachSelf x) = (s1.gc, .ok none (some b)) ∧
      GenR.detach_self (pyOf s.heap D) s.reg x = .ok (s1.reg, b) :=
  ⟨_, _, step_detachSelf hx, detachSelf_eq_gen s D x⟩

/-! ### non-vacuity: the hypotheses `isLive` are satisfiable and the equations are not about an empty registry -/

namespace Demo

/-- two leaves that collide on the digest "ab": ids "ab" and "ab_1"; variable 0 holds the first -/
def s2 : RState :=
  { heap := [⟨1, ['L'], [['L']], ['a', 'b'], ['a', 'b'], []⟩, ⟨2, ['L'], [['L']], ['a', 'b'], ['a', 'b', '_', '1'], []⟩],
    reg := [(['a', 'b'], 1), (['a', 'b', '_', '1'], 2)], roots := [(0, 1), (1, 2)] }

example : s2.isLive 1 = true := by decide
example : GenR._get_next_unique_id (pyOf s2.heap (fun _ => [])) s2.reg 4 ['a', 'b'] = .ok ['a', 'b', '_', '2'] := by rfl
/-- the fuel matters: with one test less the generated loop gives up -/
example : GenR._get_next_unique_id (pyOf s2.heap (fun _ => [])) s2.reg 2 ['a', 'b'] = .error .OutOfFuel := by rfl
example : GenR.detach_self (pyOf s2.heap (fun _ => [])) s2.reg 2 = .ok ([(['a', 'b'], 1)], true) := by rfl
/-- the identity test: an object that carries a registered id without being the registered object removes nothing -/
example : GenR.detach_self (pyOf (s2.heap ++ [⟨3, ['L'], [['L']], ['a', 'b'], ['a', 'b'], []⟩]) (fun _ => [])) s2.reg 3
    = .ok (s2.reg, false) := by rfl

end Demo

end PyOak.GenBridgeRegistry
