/-
C17 / C20 — the LEGACY xpath constructor (`pyoak.legacy.match.xpath.ASTXpath(text)`, model `lparseXPath`),
text level, soundness and completeness for the same relation as the successor's (`PathText`,
Props/C17XPathSound.lean): the grammar text is the same, the differences are the default class
(`AwareASTNode`) and the shape of the element list (`lwalk`: the `//` flag one entry further up, a leading
`//` as a separate entry), whose meaning is given by `C20.shift` and `sat` (Spec/XPath.lean).

  `lparse_sound`      : accepted ⇒ the text is a text of a written path `path` (any spacing, any digit
                        strings, any number of empty steps), the list returned denotes `ldenote path`
                        and legacy `match` decides `sat` of `ldenote path` along the node's chain
  `lparse_complete`   : every text of a written path is accepted, with that result
  `lparse_accepts_iff`: accepted ⇔ a text of some written path
  `legacy_accepts_iff_successor` : over the same class table the two constructors accept the same texts
-/
import PyOak.Props.C17XPathSound
namespace PyOak
namespace C17
open PM

/-- the legacy transformer's `element` result for a written step -/
def lrawOf (st : XStep) : RawEl := lmkRaw st.field (st.idx.map idxVal) st.cls

/-- the elements a written path denotes for the legacy xpath, in text order (default class `AwareASTNode`) -/
def ldenote (path : List XStep) : List XElem := C20.pathOfRaw (path.map lrawOf) false

theorem lparseSteps_sound (known : Str → Bool) (fuel : Nat) (toks : List XTok) (raws : List RawEl)
    (h : lparseSteps known fuel toks = some raws) :
    ∃ path : List XStep, PathOK known path ∧ pathToks path = toks ∧ path.map lrawOf = raws := by
  rw [lparseSteps_eq] at h
  exact stepsWith_sound lmkRaw known fuel toks raws h

/-- **token level, completeness** (any digit strings, any number of empty steps) -/
theorem lparseSteps_path (known : Str → Bool) (p : List XStep) (hp : PathOK known p) (fuel : Nat) (hf : p.length < fuel) :
    lparseSteps known fuel (pathToks p) = some (p.map lrawOf) := by
  rw [lparseSteps_eq]
  exact stepsWith_path lmkRaw known p hp fuel hf

theorem lprefix_eq_xprefix (s : Str) : lprefix s = xprefix s := rfl

theorem lparseXPath_eq (known : Str → Bool) (text : Str) :
    lparseXPath known text =
      (match xlex ((xprefix text).length + 1) (xprefix text) with
       | none => none
       | some toks => (lparseSteps known (toks.length + 1) toks).map fun raws => lwalk raws.reverse false) := by
  unfold lparseXPath lrawSteps
  rw [lprefix_eq_xprefix]
  cases xlex ((xprefix text).length + 1) (xprefix text) <;> rfl

/-- what the list built from the raw elements of a written path means -/
theorem lwalk_meaning (known : Str → Bool) (path : List XStep) (hp : PathOK known path) :
    (C20.shift (lwalk (path.map lrawOf).reverse false)).reverse = ldenote path
      ∧ ∀ chain : Chain, lxmatch (lwalk (path.map lrawOf).reverse false) chain.reverse = sat chain (ldenote path) := by
  have h1 := C20.legacy_transformer_reads_path (path.map lrawOf)
  refine ⟨h1, fun chain => ?_⟩
  obtain ⟨init, last, c, he, hc⟩ := pathOK_last known path hp
  have hraw : lrawOf last = some (last.field, (last.idx.map idxVal).getD none, c) := by
    unfold lrawOf; rw [hc]; exact C20.lmkRaw_some _ _ _
  have hok : C20.HeadOK (lwalk (path.map lrawOf).reverse false) := by
    rw [he]
    simp [hraw, lwalk, C20.HeadOK]
  rw [C20.legacy_match_eq_sat chain _ hok, h1]
  rfl

theorem lparse_sound (known : Str → Bool) (s : Str) (L : List LElem) (h : lparseXPath known s = some L) :
    ∃ path, PathText known path s ∧ L = lwalk (path.map lrawOf).reverse false
      ∧ (C20.shift L).reverse = ldenote path
      ∧ ∀ chain : Chain, lxmatch L chain.reverse = sat chain (ldenote path) := by
  rw [lparseXPath_eq] at h
  cases hl : xlex ((xprefix s).length + 1) (xprefix s) with
  | none => simp [hl] at h
  | some toks =>
    simp only [hl] at h
    obtain ⟨raws, hp, rfl⟩ := Option.map_eq_some_iff.mp h
    obtain ⟨tws, hok, hm, e⟩ := xlex_xprefix_sound s toks hl
    obtain ⟨path, hpath, ht, hr⟩ := lparseSteps_sound known _ toks raws hp
    obtain ⟨m1, m2⟩ := lwalk_meaning known path hpath
    rw [hr] at m1 m2
    exact ⟨path, ⟨tws, hpath, by rw [hm, ht], hok, of_xprefix s _ e⟩, by rw [hr], m1, m2⟩

/-- **legacy parser completeness**, for the same relation -/
theorem lparse_complete (known : Str → Bool) (s : Str) (path : List XStep) (h : PathText known path s) :
    lparseXPath known s = some (lwalk (path.map lrawOf).reverse false) := by
  obtain ⟨tws, hp, ht, hs, htext⟩ := h
  have hlex := xlex_render tws hs ((renderToks tws).length + 1) (by omega)
  have hparse := lparseSteps_path known path hp ((pathToks path).length + 1)
    (by have := pathToks_length path; omega)
  have hx : xprefix s = renderToks tws := pathText_xprefix known path s tws hp ht htext
  rw [lparseXPath_eq, hx, hlex, ht]
  simp only [hparse, Option.map_some]

/-- accepted by the legacy constructor ⇔ a text of some written path -/
theorem lparse_accepts_iff (known : Str → Bool) (s : Str) :
    (∃ L, lparseXPath known s = some L) ↔ ∃ path, PathText known path s := by
  constructor
  · rintro ⟨L, h⟩
    obtain ⟨path, hp, -⟩ := lparse_sound known s L h
    exact ⟨path, hp⟩
  · rintro ⟨path, hp⟩
    exact ⟨_, lparse_complete known s path hp⟩

/-- **over the same class table the legacy and the successor constructor accept exactly the same texts** -/
theorem legacy_accepts_iff_successor (known : Str → Bool) (s : Str) :
    (∃ L, lparseXPath known s = some L) ↔ ∃ els, parseXPath known s = some els := by
  rw [lparse_accepts_iff, parseXPath_accepts_iff]

/-- on a text both accept, the two results are read off the same written path: the legacy list through
`shift` is `ldenote path`, the successor's is `denote path` (the two differ in the default class only:
`lrawOf_eq_rawOf`) -/
theorem legacy_and_successor_same_path (known : Str → Bool) (s : Str) (path : List XStep) (h : PathText known path s) :
    ∃ L els, lparseXPath known s = some L ∧ parseXPath known s = some els
      ∧ (C20.shift L).reverse = ldenote path ∧ els.reverse = denote path := by
  refine ⟨_, _, lparse_complete known s path h, xparse_complete known s _ ⟨path, h, rfl⟩, ?_, by simp⟩
  obtain ⟨_, hp, -⟩ := h
  exact (lwalk_meaning known path hp).1

/-- a step that names its class denotes the same element for both -/
theorem lrawOf_eq_rawOf (st : XStep) (h : st.cls.isSome) : lrawOf st = rawOf st := by
  obtain ⟨c, hc⟩ := Option.isSome_iff_exists.mp h
  rw [rawOf_cls st c hc, lrawOf, hc, C20.lmkRaw_some]

section Examples
example : (lparseXPath exKnown (renderToks exTws)).isSome = true := by
  rw [lparse_complete exKnown _ exPath ⟨exTws, exPath_ok, exTws_toks, exTws_spaced, Or.inl rfl⟩]; rfl
example : PathText exKnown exPath (renderToks exTws) :=
  ⟨exTws, exPath_ok, exTws_toks, exTws_spaced, Or.inl rfl⟩
example : (lparseXPath exKnown ['/', '/', '/', 'E']).isSome = true := by decide
example : lparseXPath exKnown ['/', 'E', '/'] = none := by decide
end Examples

end C17
end PyOak

#print axioms PyOak.C17.lparse_sound
#print axioms PyOak.C17.lparse_complete
#print axioms PyOak.C17.legacy_accepts_iff_successor
