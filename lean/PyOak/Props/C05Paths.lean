/-
C05, "each proper-descendant position exactly once" WITH shared objects.

A position of the tree below `n` is a PATH: a non-empty list of `(field, index)` edges that can be
followed downward from `n` (`Trav.ValidPath`).  When an object is stored twice, its sub-positions
are two different paths, and the traversal yields both (the `(parent uid, field, index)` keys of
`C05X.dfsImpl_keys_nodup` then repeat: that theorem needs `NoRepeat`).  Under `WellKeyed n` ONLY
(no `NoRepeat`): the unpruned, unfiltered pre-order stream, position by position, is the end of
the trail `ts[i]`, and the map `i ↦ pathOf ts[i]` is

* injective (`paths_nodup`),
* onto the non-empty valid paths (`mem_paths_iff`, needs no hypothesis),
* increasing for the lexicographic pre-order of paths `Trav.PathLt` (`paths_sorted`, needs no
  hypothesis; `PathLt` is irreflexive under `WellKeyed`: `pathLt_irrefl`),

and the number of paths is `size - 1` (`paths_length`).  `dfs_enumerates_paths` puts it together.
-/
import PyOak.Props.C05Trails
import PyOak.Lemmas.Framing
namespace PyOak
namespace C05P
open C05 C05X C05T Trav

/-! ### paths and trails -/

/-- the edges of a valid trail form a valid path -/
theorem validPath_of_trail (n : Node) (t : List Item) (h : IsTrail n t) : ValidPath n (pathOf t) := by
  induction t generalizing n with
  | nil => trivial
  | cons a r ih => exact ⟨a.node, ((mem_items_iff n a).mp h.1).2, ih a.node h.2⟩

/-- every valid path is the path of a valid trail -/
theorem trail_of_validPath (n : Node) (p : List Edge) (h : ValidPath n p) :
    ∃ t, IsTrail n t ∧ pathOf t = p := by
  induction p generalizing n with
  | nil => exact ⟨[], trivial, rfl⟩
  | cons e r ih =>
    obtain ⟨c, hc, hr⟩ := h
    obtain ⟨t, ht, hp⟩ := ih c hr
    exact ⟨⟨c, n, e⟩ :: t, ⟨(mem_items_iff n _).mpr ⟨rfl, hc⟩, ht⟩, by simp [pathOf] at hp ⊢; exact hp⟩

/-- **onto**: the paths of the listed trails are exactly the non-empty valid paths (any tree) -/
theorem mem_paths_iff (n : Node) (p : List Edge) :
    p ∈ (trails (fun _ => false) n).map pathOf ↔ p ≠ [] ∧ ValidPath n p := by
  constructor
  · intro h
    obtain ⟨t, ht, rfl⟩ := List.mem_map.mp h
    obtain ⟨hne, htr⟩ := (mem_trails_noprune n t).mp ht
    exact ⟨by simpa [pathOf] using hne, validPath_of_trail n t htr⟩
  · rintro ⟨hne, hv⟩
    obtain ⟨t, ht, rfl⟩ := trail_of_validPath n p hv
    exact List.mem_map.mpr ⟨t, (mem_trails_noprune n t).mpr ⟨by simpa [pathOf] using hne, ht⟩, rfl⟩

theorem self_mem_allNodes (n : Node) : n ∈ allNodes n := by rw [allNodes_eq]; simp

/-- in a well-keyed node a child position is determined by its edge -/
theorem item_eq_of_edge (n : Node) (hE : EdgesNodup n) (a b : Item) (ha : a ∈ n.items)
    (hb : b ∈ n.items) (he : a.edge = b.edge) : a = b := by
  obtain ⟨hpa, hea⟩ := (mem_items_iff n a).mp ha
  obtain ⟨hpb, heb⟩ := (mem_items_iff n b).mp hb
  have := Framing.eq_of_nodup_map (fun ce : Node × Edge => ce.2) n.edges hE _ hea _ heb he
  obtain ⟨a1, a2, a3⟩ := a
  obtain ⟨b1, b2, b3⟩ := b
  simp only [Prod.mk.injEq] at this
  simp only at hpa hpb
  rw [this.1, this.2, hpa, hpb]

/-- **injective**: under `WellKeyed`, a valid trail is determined by its path -/
theorem trail_inj (n : Node) (hW : WellKeyed n) (t1 t2 : List Item) (h1 : IsTrail n t1)
    (h2 : IsTrail n t2) (hp : pathOf t1 = pathOf t2) : t1 = t2 := by
  induction t1 generalizing n t2 with
  | nil =>
    cases t2 with
    | nil => rfl
    | cons b s => simp [pathOf] at hp
  | cons a r ih =>
    cases t2 with
    | nil => simp [pathOf] at hp
    | cons b s =>
      simp only [pathOf, List.map_cons, List.cons.injEq] at hp
      have hab : a = b := item_eq_of_edge n (hW n (self_mem_allNodes n)) a b h1.1 h2.1 hp.1
      subst hab
      rw [ih a.node (wellKeyed_child n hW a h1.1) s h1.2 h2.2 hp.2]

/-! ### order -/

theorem items_edges (n : Node) : n.items.map (·.edge) = n.edges.map (·.2) := by
  simp [Node.items, List.map_map, Function.comp_def]

/-- two child positions of `n`, the first before the second: their edges are in declaration order -/
theorem items_pairwise_sublist (n : Node) :
    n.items.Pairwise (fun a b => [a.edge, b.edge].Sublist (n.edges.map (·.2))) := by
  rw [← items_edges]
  have : (n.items.map (·.edge)).Pairwise (fun e1 e2 => [e1, e2].Sublist (n.items.map (·.edge))) :=
    List.pairwise_iff_forall_sublist.mpr (fun h => h)
  rw [List.pairwise_map] at this
  exact this

theorem blocks_sorted {R : Node → List Edge → List Edge → Prop}
    (fork : ∀ n e1 e2 p q, [e1, e2].Sublist (n.edges.map (·.2)) → R n (e1 :: p) (e2 :: q))
    (n : Node) (blk : Item → List (List Item))
    (hhead : ∀ it ∈ n.items, ∀ t ∈ blk it, ∃ t', t = it :: t')
    (hblk : ∀ it ∈ n.items, ((blk it).map pathOf).Pairwise (R n)) :
    ((n.items.flatMap blk).map pathOf).Pairwise (R n) := by
  rw [List.map_flatMap]
  refine List.pairwise_flatMap.mpr ⟨hblk, (items_pairwise_sublist n).imp_of_mem ?_⟩
  intro a b ha hb hab x hx y hy
  obtain ⟨t, ht, rfl⟩ := List.mem_map.mp hx
  obtain ⟨t', ht', rfl⟩ := List.mem_map.mp hy
  obtain ⟨r, rfl⟩ := hhead a ha t ht
  obtain ⟨r', rfl⟩ := hhead b hb t' ht'
  exact fork n _ _ _ _ hab

theorem sorted_down {R : Node → List Edge → List Edge → Prop}
    (down : ∀ n c e p q, (c, e) ∈ n.edges → R c p q → R n (e :: p) (e :: q))
    (n : Node) (it : Item) (hit : it ∈ n.items) (L : List (List Item))
    (h : (L.map pathOf).Pairwise (R it.node)) :
    ((L.map (it :: ·)).map pathOf).Pairwise (R n) := by
  rw [List.map_map, List.pairwise_map]
  exact (List.pairwise_map.mp h).imp (down n it.node it.edge _ _ ((mem_items_iff n it).mp hit).2)

/-- **pre-order of paths**: the paths of the listed trails increase for `PathLt` — a path comes
before its extensions, siblings come in declaration order / left to right (any tree) -/
theorem paths_sorted (n : Node) : ((trails (fun _ => false) n).map pathOf).Pairwise (PathLt n) := by
  induction n using node_induction with
  | step n ih =>
    rw [trails_eq]
    refine blocks_sorted PathLt.fork n _ (fun it _ t ht => ?_) (fun it hit => ?_)
    · rcases List.mem_cons.mp ht with rfl | ht
      · exact ⟨[], rfl⟩
      · obtain ⟨t', _, rfl⟩ := List.mem_map.mp ht
        exact ⟨t', rfl⟩
    · rw [List.map_cons, List.pairwise_cons]
      refine ⟨fun p hp => ?_, sorted_down PathLt.down n it hit _ (ih it hit)⟩
      obtain ⟨t, ht, rfl⟩ := List.mem_map.mp hp
      obtain ⟨t', ht', rfl⟩ := List.mem_map.mp ht
      obtain ⟨a, r, rfl⟩ := List.exists_cons_of_ne_nil (trails_ne_nil _ _ t' ht')
      exact PathLt.down n it.node it.edge [] _ ((mem_items_iff n it).mp hit).2 (PathLt.pre _ _ _)

theorem wellKeyed_edge (n c : Node) (e : Edge) (hW : WellKeyed n) (h : (c, e) ∈ n.edges) :
    WellKeyed c :=
  wellKeyed_child n hW ⟨c, n, e⟩ ((mem_items_iff n _).mpr ⟨rfl, h⟩)

theorem fork_ne (n : Node) (hW : WellKeyed n) {e1 e2 : Edge} {p q : List Edge}
    (hs : [e1, e2].Sublist (n.edges.map (·.2))) : e1 :: p ≠ e2 :: q := by
  intro heq
  have hnd : [e1, e2].Nodup := (hW n (self_mem_allNodes n)).sublist hs
  rw [(List.cons.inj heq).1] at hnd
  simp at hnd

/-- under `WellKeyed` the pre-order of paths is irreflexive -/
theorem pathLt_irrefl (n : Node) (hW : WellKeyed n) (p q : List Edge) (h : PathLt n p q) : p ≠ q := by
  induction h with
  | pre n e p => exact List.cons_ne_nil _ _ ∘ Eq.symm
  | fork n e1 e2 p q hs => exact fork_ne n hW hs
  | down n c e p q hmem _ ih =>
    exact fun heq => ih (wellKeyed_edge n c e hW hmem) (List.cons.inj heq).2

/-- **injective**: under `WellKeyed` no path is listed twice — each position exactly once, shared
objects allowed -/
theorem paths_nodup (n : Node) (hW : WellKeyed n) :
    ((trails (fun _ => false) n).map pathOf).Nodup :=
  (paths_sorted n).imp (fun h => pathLt_irrefl n hW _ _ h)

/-- the number of positions: `size - 1` -/
theorem paths_length (n : Node) : ((trails (fun _ => false) n).map pathOf).length + 1 = n.size := by
  have := dfs_all_positions n
  rw [dfs_noprune_eq_trails] at this
  simpa using this

/-- **exactly once, with sharing**: the unpruned, unfiltered `dfs()` stream is, position by
position, the list of ends of trails `ts` such that the paths of `ts` are pairwise distinct,
listed in the lexicographic pre-order, and are all the non-empty valid paths below the start node;
there are `size - 1` of them -/
theorem dfs_enumerates_paths (n : Node) (hW : WellKeyed n) :
    ∃ ts : List (List Item),
      ts.map trailEnd = dfsImpl (fun _ => false) (fun _ => true) false n ∧
      (∀ t ∈ ts, t ≠ [] ∧ IsTrail n t) ∧
      (ts.map pathOf).Nodup ∧
      (ts.map pathOf).Pairwise (PathLt n) ∧
      (∀ p, p ∈ ts.map pathOf ↔ p ≠ [] ∧ ValidPath n p) ∧
      (ts.map pathOf).length + 1 = n.size :=
  ⟨trails (fun _ => false) n, (dfs_noprune_eq_trails n).symm,
    fun t ht => (mem_trails_noprune n t).mp ht, paths_nodup n hW, paths_sorted n,
    mem_paths_iff n, paths_length n⟩

/-- the same enumeration, pruned: the paths yielded by `dfs(prune)` are the valid paths along
which no earlier position is pruned, still pairwise distinct and in the same order -/
theorem dfs_pruned_paths (P : Item → Bool) (n : Node) (hW : WellKeyed n) :
    ∃ ts : List (List Item),
      ts.map trailEnd = dfsImpl P (fun _ => true) false n ∧
      ts.Sublist (trails (fun _ => false) n) ∧
      (∀ t, t ∈ ts ↔ t ≠ [] ∧ IsTrail n t ∧ ∀ y ∈ t.dropLast, P y = false) ∧
      (ts.map pathOf).Nodup ∧ (ts.map pathOf).Pairwise (PathLt n) := by
  have hsub : (trails P n).Sublist (trails (fun _ => false) n) := by
    rw [trails_prune]; exact List.filter_sublist
  refine ⟨trails P n, ?_, hsub, mem_trails_iff P n, ?_, ?_⟩
  · rw [dfs_top_down, trails_end]
  · exact (paths_nodup n hW).sublist (hsub.map _)
  · exact (paths_sorted n).sublist (hsub.map _)

/-! ### non-vacuity: a tree with a shared object -/

private def hd (u : Nat) (c : Str) : Head :=
  { uid := u, cls := c, mro := [c], org := ⟨0, []⟩, props := [], truthy := true }
private def leaf (u : Nat) : Node := .mk (hd u ['L']) []
private def mid : Node := .mk (hd 2 ['M']) [.mk ['x'] false [leaf 3], .mk ['y'] true [leaf 5, leaf 6]]
private def shared : Node := .mk (hd 0 ['R']) [.mk ['a'] true [mid, mid], .mk ['b'] false [leaf 4]]

/-- `shared` is well keyed but repeats an object: the hypotheses of `dfs_enumerates_paths` hold,
those of `C05X.dfsImpl_keys_nodup` do not -/
example : WellKeyed shared := by unfold WellKeyed EdgesNodup; decide +kernel
example : ¬ NoRepeat shared := by unfold NoRepeat; decide +kernel
example : ¬ ((dfsImpl (fun _ => false) (fun _ => true) false shared).map Item.key).Nodup := by decide +kernel
example : ((trails (fun _ => false) shared).map pathOf).length = 9 := by decide
example : ValidPath shared [⟨['a'], some 1⟩, ⟨['y'], some 0⟩] :=
  ⟨mid, List.Mem.tail _ (List.Mem.head _), leaf 5, List.Mem.tail _ (List.Mem.head _), trivial⟩
/-- `WellKeyed` is needed: two nodes in one single field give the same path twice -/
private def twoInSingle : Node := .mk (hd 0 ['R']) [.mk ['x'] false [leaf 1, leaf 2]]
example : ¬ ((trails (fun _ => false) twoInSingle).map pathOf).Nodup := by decide

#print axioms mem_paths_iff
#print axioms trail_inj
#print axioms paths_sorted
#print axioms pathLt_irrefl
#print axioms paths_nodup
#print axioms paths_length
#print axioms dfs_enumerates_paths
#print axioms dfs_pruned_paths

end C05P
end PyOak
