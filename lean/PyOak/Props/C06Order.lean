/-
C06 — `is_ancestor` as a strict order on the objects of a tree, and the recurrences that tie
`get_ancestors` / `get_depth` of a node to those of its parent.

  * `chain_prefix`        every non-empty prefix of a root-first chain is a root-first chain (so the chain
                          of an ancestor is the corresponding prefix of the chain of the node)
  * `isAncestor_irrefl`   no member is its own ancestor
  * `isAncestor_parent`   the stored parent is an ancestor
  * `isAncestor_trans`    ancestors of an ancestor are ancestors (chain form, no extra hypothesis)
  * `isAncestor_asymm`    an ancestor of `n` never has `n` among its ancestors
  * `ancestors_parent`    `get_ancestors(n) = [parent] + get_ancestors(parent)`
  * `depth_parent`        `get_depth(n) = get_depth(parent) + 1`
  * `depth_eq_ancestors`  `get_depth(n) = len(get_ancestors(n))`
-/
import PyOak.Props.C06Total
namespace PyOak
namespace C06

section Order
variable (root : Node)

theorem chain_prefix : ∀ (k : Nat) (s p : Chain), s.length = k → p ≠ [] → IsChain root (p ++ s) → IsChain root p := by
  intro k
  induction k with
  | zero =>
    intro s p hs _ hc
    have : s = [] := List.eq_nil_of_length_eq_zero hs
    subst this
    simpa using hc
  | succ k ih =>
    intro s p hs hp hc
    rcases s.eq_nil_or_concat with rfl | ⟨s', ⟨n, oe⟩, rfl⟩
    · simp at hs
    · have hc' : IsChain root ((p ++ s') ++ [(n, oe)]) := by simpa [List.concat_eq_append] using hc
      rcases chain_inv root _ _ _ hc' with ⟨h0, _, _⟩ | ⟨c', q, qe, e, h1, _, h3, _⟩
      · have : p = [] := (List.append_eq_nil_iff.mp h0).1
        exact absurd this hp
      · rw [← h1] at h3
        exact ih s' p (by simp at hs; omega) hp h3

theorem chain_of_member (c₁ c₂ : Chain) (b n : Node) (be oe : Option Edge)
    (hc : IsChain root (c₁ ++ [(b, be)] ++ c₂ ++ [(n, oe)])) : IsChain root (c₁ ++ [(b, be)]) :=
  chain_prefix root _ (c₂ ++ [(n, oe)]) (c₁ ++ [(b, be)]) rfl (by simp) (by simpa [List.append_assoc] using hc)

theorem isAncestor_irrefl (h : NoRepeat root) (c : Chain) (n : Node) (oe : Option Edge)
    (hc : IsChain root (c ++ [(n, oe)])) : (TreeT.build root).isAncestor n n = .ok false := by
  rw [isAncestor_chain root h c n n oe hc, any_uid_false (chain_uid_ne root h c n oe hc)]

theorem isAncestor_parent (h : NoRepeat root) (c : Chain) (p : Node) (pe : Option Edge) (n : Node) (e : Edge)
    (hc : IsChain root (c ++ [(p, pe)] ++ [(n, some e)])) : (TreeT.build root).isAncestor n p = .ok true := by
  rw [isAncestor_chain root h _ n p _ hc]
  simp

theorem isAncestor_trans (h : NoRepeat root) (c₁ c₂ : Chain) (b n a : Node) (be oe : Option Edge)
    (hc : IsChain root (c₁ ++ [(b, be)] ++ c₂ ++ [(n, oe)]))
    (hba : (TreeT.build root).isAncestor b a = .ok true) : (TreeT.build root).isAncestor n a = .ok true := by
  have hb := chain_of_member root c₁ c₂ b n be oe hc
  rw [isAncestor_chain root h c₁ b a be hb] at hba
  rw [isAncestor_chain root h _ n a oe hc]
  rw [List.any_append, List.any_append, Except.ok.inj hba, Bool.true_or, Bool.true_or]

theorem isAncestor_asymm (h : NoRepeat root) (c₁ c₂ : Chain) (b n : Node) (be oe : Option Edge)
    (hc : IsChain root (c₁ ++ [(b, be)] ++ c₂ ++ [(n, oe)])) :
    (TreeT.build root).isAncestor n b = .ok true ∧ (TreeT.build root).isAncestor b n = .ok false := by
  have hb := chain_of_member root c₁ c₂ b n be oe hc
  refine ⟨?_, ?_⟩
  · rw [isAncestor_chain root h _ n b oe hc]
    simp
  · rw [isAncestor_chain root h c₁ b n be hb,
      any_uid_false fun x hx => chain_uid_ne root h _ n oe hc x (by simp [hx])]

theorem ancestors_parent (h : NoRepeat root) (c : Chain) (p : Node) (pe : Option Edge) (n : Node) (e : Edge)
    (hc : IsChain root (c ++ [(p, pe)] ++ [(n, some e)])) :
    ∃ l, (TreeT.build root).getAncestors p = .ok l ∧ (TreeT.build root).getAncestors n = .ok (p :: l) := by
  have hp := (chain_inv2 root c p pe n e hc).1
  refine ⟨c.reverse.map (·.1), ancestors_chain root h c p pe hp, ?_⟩
  rw [ancestors_chain root h _ n _ hc]
  simp

theorem depth_parent (h : NoRepeat root) (c : Chain) (p : Node) (pe : Option Edge) (n : Node) (e : Edge)
    (hc : IsChain root (c ++ [(p, pe)] ++ [(n, some e)])) (chk : Bool) :
    ∃ d, (TreeT.build root).getDepth p none chk = .ok d ∧ (TreeT.build root).getDepth n none chk = .ok (d + 1) := by
  have hp := (chain_inv2 root c p pe n e hc).1
  refine ⟨c.length, depth_chain root h c p pe hp chk, ?_⟩
  rw [depth_chain root h _ n _ hc chk]
  simp

theorem depth_eq_ancestors (h : NoRepeat root) (n : Node) (hn : n ∈ allNodes root) (chk : Bool) :
    ∃ l, (TreeT.build root).getAncestors n = .ok l ∧ (TreeT.build root).getDepth n none chk = .ok l.length := by
  obtain ⟨c, oe, hc⟩ := exists_chain root n hn
  refine ⟨c.reverse.map (·.1), ancestors_chain root h c n oe hc, ?_⟩
  rw [depth_chain root h c n oe hc chk]
  simp

end Order

end C06
end PyOak

section Axioms
open PyOak.C06
#print axioms chain_prefix
#print axioms chain_of_member
#print axioms isAncestor_irrefl
#print axioms isAncestor_parent
#print axioms isAncestor_trans
#print axioms isAncestor_asymm
#print axioms ancestors_parent
#print axioms depth_parent
#print axioms depth_eq_ancestors
end Axioms
