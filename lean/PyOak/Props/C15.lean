/-
C15 — origin algebra: interval laws, hull merging, flat multi-origins, exact slices.

First the definitions GENERATED from `src/pyoak/origin.py` (PyOak/Gen/Origin.lean): what each kernel computes is stated
once on indices and proved with `grind` only (the kernels are tagged `@[grind]`), so a harmless rewrite of the Python
source re-proves and a semantic change breaks a proof; the laws follow from those statements and never unfold generated
text.  Then the hand-written model of merge_origins / concat_origins / `+` / MultiOrigin / fqn / get_raw
(PyOak/Model/Origin.lean), tied to the code by the differential correspondence: `merge_spec`, `add_eq`, `concat_fold`.

Reading (DESIGN §5 C15): "ordered by index" — the laws are stated on indices unconditionally, and on `==`
(record equality) under *coherence* hypotheses "equal index ⇒ equal point" for the points involved.
-/
import PyOak.Spec.Origin
namespace PyOak.C15
open PyOak.Gen PyOak.OriginAlg

/-! ## the generated kernels -/

theorem point_valid_iff (p : CodePoint) : p.valid = true ↔ 0 ≤ p.index ∧ 1 ≤ p.line ∧ 0 ≤ p.column := by
  grind
example : (CodePoint.mk 0 1 0).valid = true ∧ (CodePoint.mk (-1) 1 0).valid = false ∧
    (CodePoint.mk 0 0 0).valid = false ∧ (CodePoint.mk 0 1 (-1)).valid = false := by decide

theorem range_valid_iff (r : CodeRange) : r.valid = true ↔ r.start.index ≤ r.end_.index := by
  grind
example : (CodeRange.mk ⟨2, 1, 2⟩ ⟨2, 1, 2⟩).valid = true ∧ (CodeRange.mk ⟨3, 1, 3⟩ ⟨2, 1, 2⟩).valid = false := by
  decide

theorem mkPoint_eq (i l c : Int) :
    mkPoint i l c = if 0 ≤ i ∧ 1 ≤ l ∧ 0 ≤ c then .ok ⟨i, l, c⟩ else .error .valueError := by
  simp only [mkPoint, point_valid_iff]
theorem mkRange_eq (s e : CodePoint) :
    mkRange s e = if s.index ≤ e.index then .ok ⟨s, e⟩ else .error .valueError := by
  simp only [mkRange, range_valid_iff]

/-- the constructors of the model accept exactly the valid values (validity ⇔ constructor accepts) -/
theorem mkPoint_accepts (i l c : Int) :
    (mkPoint i l c = .ok ⟨i, l, c⟩ ↔ 0 ≤ i ∧ 1 ≤ l ∧ 0 ≤ c) ∧
    (mkPoint i l c = .error .valueError ↔ ¬(0 ≤ i ∧ 1 ≤ l ∧ 0 ≤ c)) := by
  rw [mkPoint_eq]; split <;> simp [*]
theorem mkRange_accepts (s e : CodePoint) :
    (mkRange s e = .ok ⟨s, e⟩ ↔ s.index ≤ e.index) ∧ (mkRange s e = .error .valueError ↔ e.index < s.index) := by
  rw [mkRange_eq]; split <;> simp [*] <;> omega
example : mkRange ⟨1, 1, 1⟩ ⟨0, 1, 0⟩ = .error .valueError := rfl

theorem point_lt_iff (a b : CodePoint) : a.lt b = true ↔ a.index < b.index := by grind
theorem point_le_iff (a b : CodePoint) : a.le b = true ↔ a.index ≤ b.index := by grind

/-- containment is inclusion of index intervals -/
theorem contains_iff (a b : CodeRange) :
    a.contains b = true ↔ a.start.index ≤ b.start.index ∧ b.end_.index ≤ a.end_.index := by grind
theorem contains_refl (a : CodeRange) : a.contains a = true :=
  (contains_iff a a).mpr ⟨Int.le_refl _, Int.le_refl _⟩
theorem contains_trans (a b c : CodeRange) (h1 : a.contains b = true) (h2 : b.contains c = true) :
    a.contains c = true :=
  have ⟨s1, e1⟩ := (contains_iff a b).mp h1
  have ⟨s2, e2⟩ := (contains_iff b c).mp h2
  (contains_iff a c).mpr ⟨Int.le_trans s1 s2, Int.le_trans e2 e1⟩
theorem contains_antisymm_index (a b : CodeRange) (h1 : a.contains b = true) (h2 : b.contains a = true) :
    a.start.index = b.start.index ∧ a.end_.index = b.end_.index :=
  have ⟨s1, e1⟩ := (contains_iff a b).mp h1
  have ⟨s2, e2⟩ := (contains_iff b a).mp h2
  ⟨Int.le_antisymm s1 s2, Int.le_antisymm e2 e1⟩

theorem range_ext {x y : CodeRange} (hs : x.start = y.start) (he : x.end_ = y.end_) : x = y := by
  cases x; cases y; simp_all

/-- antisymmetry at `==` level, under coherence of the four end points -/
theorem contains_antisymm (a b : CodeRange) (h1 : a.contains b = true) (h2 : b.contains a = true)
    (hs : a.start.index = b.start.index → a.start = b.start)
    (he : a.end_.index = b.end_.index → a.end_ = b.end_) : a = b :=
  have ⟨is, ie⟩ := contains_antisymm_index a b h1 h2
  range_ext (hs is) (he ie)
example : (CodeRange.mk ⟨0, 1, 0⟩ ⟨4, 1, 4⟩).contains ⟨⟨1, 1, 1⟩, ⟨3, 1, 3⟩⟩ = true ∧
    (CodeRange.mk ⟨1, 1, 1⟩ ⟨3, 1, 3⟩).contains ⟨⟨1, 1, 1⟩, ⟨4, 1, 4⟩⟩ = false := by decide

theorem overlaps_iff (a b : CodeRange) :
    a.overlaps b = true ↔ b.start.index ≤ a.end_.index ∧ a.start.index ≤ b.end_.index := by grind
theorem overlaps_symm (a b : CodeRange) : a.overlaps b = b.overlaps a :=
  Bool.eq_iff_iff.mpr (by rw [overlaps_iff, overlaps_iff, and_comm])
theorem overlaps_touching (a b : CodeRange) (ha : a.valid = true) (hb : b.valid = true)
    (h : a.end_.index = b.start.index) : a.overlaps b = true ∧ b.overlaps a = true := by
  rw [range_valid_iff] at ha hb
  rw [overlaps_iff, overlaps_iff]; omega
theorem overlaps_of_contains (a b : CodeRange) (hb : b.valid = true) (h : a.contains b = true) :
    a.overlaps b = true := by
  rw [range_valid_iff] at hb; rw [contains_iff] at h
  rw [overlaps_iff]; omega
example : (CodeRange.mk ⟨0, 1, 0⟩ ⟨2, 1, 2⟩).overlaps ⟨⟨2, 1, 2⟩, ⟨4, 1, 4⟩⟩ = true ∧
    (CodeRange.mk ⟨0, 1, 0⟩ ⟨2, 1, 2⟩).overlaps ⟨⟨3, 1, 3⟩, ⟨4, 1, 4⟩⟩ = false := by decide

theorem lt_iff (a b : CodeRange) : a.lt b = true ↔ a.end_.index < b.start.index := by grind
/-- not overlapping means one range is before the other; in particular `a < b` excludes overlap -/
theorem not_overlaps_iff (a b : CodeRange) :
    a.overlaps b = false ↔ (a.lt b = true ∨ b.lt a = true) := by
  rw [← Bool.not_eq_true, overlaps_iff, lt_iff, lt_iff]; omega
theorem lt_not_overlaps (a b : CodeRange) (h : a.lt b = true) : a.overlaps b = false :=
  (not_overlaps_iff a b).mpr (.inl h)

/-- the hull `a + b` takes the earlier start and the later end, the left operand's point on a tie … -/
theorem add_start (a b : CodeRange) :
    (a.add b).start = if b.start.index < a.start.index then b.start else a.start := by grind
theorem add_end (a b : CodeRange) :
    (a.add b).end_ = if a.end_.index < b.end_.index then b.end_ else a.end_ := by grind
/-- … so it spans exactly min start .. max end … -/
theorem add_index (a b : CodeRange) :
    (a.add b).start.index = min a.start.index b.start.index ∧
    (a.add b).end_.index = max a.end_.index b.end_.index := by grind
/-- … contains both operands … -/
theorem add_contains_left (a b : CodeRange) : (a.add b).contains a = true := by
  simp only [contains_iff, add_index]; exact ⟨Int.min_le_left .., Int.le_max_left ..⟩
theorem add_contains_right (a b : CodeRange) : (a.add b).contains b = true := by
  simp only [contains_iff, add_index]; exact ⟨Int.min_le_right .., Int.le_max_right ..⟩
/-- … is the least such range … -/
theorem add_least (a b c : CodeRange) (h1 : c.contains a = true) (h2 : c.contains b = true) :
    c.contains (a.add b) = true := by
  rw [contains_iff] at *
  simp only [add_index]; exact ⟨Int.le_min.mpr ⟨h1.1, h2.1⟩, Int.max_le.mpr ⟨h1.2, h2.2⟩⟩
/-- … and is a valid range as soon as one operand is (so the `CodeRange(..)` call inside `__add__` accepts it) -/
theorem add_valid (a b : CodeRange) (h : a.valid = true ∨ b.valid = true) : (a.add b).valid = true := by
  simp only [range_valid_iff] at *
  simp only [add_index]
  exact h.elim (fun h => Int.le_trans (Int.min_le_left ..) (Int.le_trans h (Int.le_max_left ..)))
    (fun h => Int.le_trans (Int.min_le_right ..) (Int.le_trans h (Int.le_max_right ..)))
theorem rangeAdd_ok (a b : CodeRange) (h : a.valid = true ∨ b.valid = true) : rangeAdd a b = .ok (a.add b) := by
  simp [rangeAdd, add_valid a b h]
/-- overlapping (or touching) ranges have a well-ordered hull even when the operands themselves are ill-formed, so the
`CodeRange(..)` call inside `CodeRange.__add__` cannot reject in the fusing case -/
theorem add_valid_of_overlaps (a b : CodeRange) (h : a.overlaps b = true) : (a.add b).valid = true := by
  rw [overlaps_iff] at h
  simp only [range_valid_iff, add_index]
  exact Int.le_trans (Int.min_le_right ..) (Int.le_trans h.1 (Int.le_max_left ..))
/-- commutative: on indices always, on `==` under coherence -/
theorem add_comm_index (a b : CodeRange) :
    (a.add b).start.index = (b.add a).start.index ∧ (a.add b).end_.index = (b.add a).end_.index := by
  simp only [add_index]
  exact ⟨Int.min_comm .., Int.max_comm ..⟩
theorem add_comm (a b : CodeRange) (hs : a.start.index = b.start.index → a.start = b.start)
    (he : a.end_.index = b.end_.index → a.end_ = b.end_) : a.add b = b.add a := by
  apply range_ext
  · simp only [add_start]; grind
  · simp only [add_end]; grind
/-- associative, on `==` too: a tie goes to the left operand on both sides (the hypotheses of `add_assoc` are not used) -/
theorem add_assoc_index (a b c : CodeRange) :
    ((a.add b).add c).start.index = (a.add (b.add c)).start.index ∧
    ((a.add b).add c).end_.index = (a.add (b.add c)).end_.index := by
  simp only [add_index]
  exact ⟨Int.min_assoc .., Int.max_assoc ..⟩
theorem add_assoc_eq (a b c : CodeRange) : (a.add b).add c = a.add (b.add c) := by
  apply range_ext
  · simp only [add_start]; grind
  · simp only [add_end]; grind
theorem add_assoc (a b c : CodeRange)
    (hs1 : a.start.index = b.start.index → a.start = b.start) (hs2 : b.start.index = c.start.index → b.start = c.start)
    (hs3 : a.start.index = c.start.index → a.start = c.start)
    (he1 : a.end_.index = b.end_.index → a.end_ = b.end_) (he2 : b.end_.index = c.end_.index → b.end_ = c.end_)
    (he3 : a.end_.index = c.end_.index → a.end_ = c.end_) : (a.add b).add c = a.add (b.add c) :=
  add_assoc_eq a b c
theorem add_idem (a : CodeRange) : a.add a = a :=
  range_ext (by rw [add_start, if_neg (Int.lt_irrefl _)]) (by rw [add_end, if_neg (Int.lt_irrefl _)])
theorem add_absorb_index (a b : CodeRange) (h : a.contains b = true) :
    (a.add b).start.index = a.start.index ∧ (a.add b).end_.index = a.end_.index := by
  rw [contains_iff] at h
  simp only [add_index]; exact ⟨Int.min_eq_left h.1, Int.max_eq_left h.2⟩
example : (CodeRange.mk ⟨1, 1, 1⟩ ⟨2, 1, 2⟩).add ⟨⟨0, 1, 0⟩, ⟨4, 1, 4⟩⟩ = ⟨⟨0, 1, 0⟩, ⟨4, 1, 4⟩⟩ := by decide

theorem get_code_range_eq (a b c d e f : Int) : get_code_range a b c d e f = ⟨⟨a, b, c⟩, ⟨d, e, f⟩⟩ := by grind
theorem empty_range_eq : EMPTY_CODE_RANGE = ⟨⟨0, 1, 0⟩, ⟨0, 1, 0⟩⟩ ∧ EMPTY_CODE_RANGE.valid = true := by grind

theorem codeAdd_narrow : CodeOrigin.add_narrow = "CodeOrigin" := rfl
/-- the decision of `CodeOrigin.__add__` on a `CodeOrigin` operand: it produces a code origin exactly when the sources
are `==` and the ranges overlap (or touch); that origin keeps the left source and spans the hull -/
theorem codeAdd_some {S : Type} [BEq S] (x y : CodeOrigin S) (hs : (x.source == y.source) = true)
    (ho : x.position.overlaps y.position = true) :
    CodeOrigin.add x y = some ⟨x.source, x.position.add y.position⟩ := by grind
theorem codeAdd_none {S : Type} [BEq S] (x y : CodeOrigin S)
    (h : ¬((x.source == y.source) = true ∧ x.position.overlaps y.position = true)) :
    CodeOrigin.add x y = none := by grind
example : CodeOrigin.add (S := Nat) ⟨7, ⟨⟨0, 1, 0⟩, ⟨2, 1, 2⟩⟩⟩ ⟨7, ⟨⟨2, 1, 2⟩, ⟨3, 1, 3⟩⟩⟩
    = some ⟨7, ⟨⟨0, 1, 0⟩, ⟨3, 1, 3⟩⟩⟩ := by decide
example : CodeOrigin.add (S := Nat) ⟨7, ⟨⟨0, 1, 0⟩, ⟨2, 1, 2⟩⟩⟩ ⟨8, ⟨⟨2, 1, 2⟩, ⟨3, 1, 3⟩⟩⟩ = none := by decide
/-- when the other operand is NOT a code origin the method defers to `Origin.__add__` (the `super()` call): the translation
of the function body under a failing `isinstance(other, CodeOrigin)` test is `none` for all arguments -/
theorem codeAdd_other_none {S : Type} [BEq S] (x y : CodeOrigin S) : CodeOrigin.add_other x y = none := by grind

/-! ## the hand-written model -/

theorem foldl_mergeStep (os : List Origin) (acc : List Origin) :
    os.foldl mergeStep acc = acc ++ os.flatMap leaves := by
  induction os generalizing acc with
  | nil => simp
  | cons o r ih => cases o <;> simp [mergeStep, leaves, ih]

/-- `MultiOrigin(origins)` with at least two origins: the listed origins are kept as they are and in order;
the source is the common source if all sources are `==` to the first, otherwise the `SourceSet` of all
sources in operand order; the position is the `PositionSet` of all positions in operand order -/
theorem mkMulti_spec (x y : Origin) (r : List Origin) :
    mkMulti (x :: y :: r) = .ok (.multi
      (if (y :: r).all (fun o => o.source == x.source) then x.source
       else .set ((x :: y :: r).map Origin.source))
      (.set ((x :: y :: r).map Origin.position)) (x :: y :: r)) := by
  simp [mkMulti]
theorem mkMulti_short (xs : List Origin) (h : xs.length < 2) : mkMulti xs = .error .valueError := by
  match xs, h with
  | [], _ => rfl
  | [_], _ => rfl

theorem merge_single (o : Origin) : merge [o] = .ok o := rfl

/-- `merge_origins` otherwise: drop NoOrigin, splice MultiOrigins, keep the rest, in order; then NoOrigin when
nothing remains, the origin itself when one remains, else a MultiOrigin of them -/
theorem merge_spec (os : List Origin) (h : os.length ≠ 1) : merge os = pack (os.flatMap leaves) := by
  match os, h with
  | [], _ => rfl
  | a :: b :: r, _ =>
    show pack ((a :: b :: r).foldl mergeStep []) = _
    rw [foldl_mergeStep]; rfl

theorem pack_nil : pack [] = .ok .none := rfl
theorem pack_one (x : Origin) : pack [x] = .ok x := rfl
theorem pack_many (x y : Origin) (r : List Origin) : pack (x :: y :: r) = mkMulti (x :: y :: r) := rfl

theorem pack_ok (xs : List Origin) : ∃ r, pack xs = .ok r := by
  match xs with
  | [] => exact ⟨_, rfl⟩
  | [x] => exact ⟨_, rfl⟩
  | x :: y :: r => exact ⟨_, mkMulti_spec x y r⟩

theorem merge_ok (os : List Origin) : ∃ r, merge os = .ok r := by
  by_cases h : os.length = 1
  · match os, h with
    | [o], _ => exact ⟨o, rfl⟩
  · rw [merge_spec os h]; exact pack_ok _

theorem flat_leaves_leaf (o : Origin) (h : Flat o) : ∀ x ∈ leaves o, x.isLeaf = true := by
  cases o with
  | none => intro x hx; cases hx
  | multi s p os => exact h.1
  | code g s r => intro x hx; rw [List.mem_singleton.mp hx]; rfl
  | other k s p => intro x hx; rw [List.mem_singleton.mp hx]; rfl

/-- a flat origin is determined by the single origins it lists -/
theorem flat_pack_leaves (o : Origin) (h : Flat o) : pack (leaves o) = .ok o := by
  cases o with
  | none => rfl
  | code g s r => rfl
  | other k s p => rfl
  | multi s p os =>
    match os, h.2 with
    | x :: y :: r, hm => exact hm

/-- packing single origins gives a flat origin that lists exactly them -/
theorem pack_flat (xs : List Origin) (hx : ∀ x ∈ xs, x.isLeaf = true) (r : Origin) (h : pack xs = .ok r) :
    Flat r ∧ leaves r = xs := by
  match xs, hx, h with
  | [], _, h => cases h; exact ⟨trivial, rfl⟩
  | [x], hx, h =>
    cases h
    have := hx r (List.mem_singleton_self r)
    -- a leaf is a `.code` or an `.other`: flat, and listing itself
    cases r <;> first | exact ⟨trivial, rfl⟩ | cases this
  | x :: y :: t, hx, h =>
    rw [pack_many, mkMulti_spec] at h
    cases h
    exact ⟨⟨hx, mkMulti_spec x y t⟩, rfl⟩

/-- for flat operands (any number, one included) `merge_origins` is determined by the listed single origins -/
theorem merge_flat_spec (os : List Origin) (hf : ∀ o ∈ os, Flat o) : merge os = pack (os.flatMap leaves) := by
  by_cases h : os.length = 1
  · match os, h with
    | [o], _ =>
      rw [merge_single, List.flatMap_singleton]
      exact (flat_pack_leaves o (hf o (List.mem_singleton_self o))).symm
  · exact merge_spec os h

/-- `merge_origins` of flat origins: the result is flat — a MultiOrigin never contains a MultiOrigin or NoOrigin —
and lists exactly the non-empty single operands in order -/
theorem merge_flat (os : List Origin) (hf : ∀ o ∈ os, Flat o) (r : Origin) (h : merge os = .ok r) :
    Flat r ∧ leaves r = os.flatMap leaves := by
  rw [merge_flat_spec os hf] at h
  refine pack_flat _ ?_ r h
  intro x hx
  obtain ⟨o, ho, hxo⟩ := List.mem_flatMap.mp hx
  exact flat_leaves_leaf o (hf o ho) x hxo

theorem forall_mem_pair {α : Type} {P : α → Prop} {a b : α} (ha : P a) (hb : P b) : ∀ o ∈ [a, b], P o := by
  intro o ho
  simp only [List.mem_cons, List.not_mem_nil, or_false] at ho
  rcases ho with rfl | rfl <;> assumption

/-- NoOrigin when nothing remains, the operand itself when one remains, a MultiOrigin of all of them otherwise -/
theorem merge_flat_cases (os : List Origin) (hf : ∀ o ∈ os, Flat o) :
    (os.flatMap leaves = [] → merge os = .ok .none) ∧
    (∀ x, os.flatMap leaves = [x] → merge os = .ok x) ∧
    (∀ x y t, os.flatMap leaves = x :: y :: t → merge os = mkMulti (x :: y :: t)) := by
  rw [merge_flat_spec os hf]
  refine ⟨fun h => by rw [h]; rfl, fun x h => by rw [h]; rfl, fun x y t h => by rw [h]; rfl⟩

/-- the single code origin two fusable code origins are replaced by: the LEFT source, the hull of the ranges, class
`CodeOrigin` (never `GeneratedCodeOrigin`); on other operands the value is immaterial, every use is guarded by `mergeable` -/
def fuse : Origin → Origin → Origin
  | .code _ sa ra, .code _ _ rb => .code false sa (ra.add rb)
  | a, _ => a

theorem mergeable_code (a b : Origin) (h : mergeable a b = true) :
    ∃ ga sa ra gb sb rb, a = .code ga sa ra ∧ b = .code gb sb rb := by
  cases a with
  | code ga sa ra =>
    cases b with
    | code gb sb rb => exact ⟨ga, sa, ra, gb, sb, rb, rfl, rfl⟩
    | _ => cases h
  | _ => cases h

theorem fuse_leaf (a b : Origin) (h : mergeable a b = true) :
    (fuse a b).isNone = false ∧ Flat (fuse a b) ∧ leaves (fuse a b) = [fuse a b] := by
  obtain ⟨ga, sa, ra, gb, sb, rb, rfl, rfl⟩ := mergeable_code a b h
  exact ⟨rfl, trivial, rfl⟩

theorem add_eq (a b : Origin) : add a b = if mergeable a b then .ok (fuse a b) else merge [a, b] := by
  -- unless both are code origins `mergeable` is `false` and `add` is `merge`, by definition
  cases a <;> cases b <;> try rfl
  rename_i ga sa ra gb sb rb
  by_cases hm : (sa == sb) = true ∧ ra.overlaps rb = true
  · simp [add, mergeable, fuse, codeAdd_some ⟨sa, ra⟩ ⟨sb, rb⟩ hm.1 hm.2, add_valid_of_overlaps ra rb hm.2, hm]
  · simp [add, mergeable, codeAdd_none ⟨sa, ra⟩ ⟨sb, rb⟩ hm, hm]

theorem add_eq_merge (a b : Origin) (h : mergeable a b = false) : add a b = merge [a, b] := by
  rw [add_eq, h]; rfl

theorem add_mergeable (a b : Origin) (h : mergeable a b = true) : add a b = .ok (fuse a b) := by
  rw [add_eq, if_pos h]

/-- adding two code origins of the same source whose ranges overlap or touch yields ONE code origin, over the hull,
with the source of the left operand (`add_mergeable`; `hv` is not needed) -/
theorem add_code_same_source_overlap (ga gb : Bool) (sa sb : SrcV) (ra rb : CodeRange)
    (hm : mergeable (.code ga sa ra) (.code gb sb rb) = true) (hv : ra.valid = true ∨ rb.valid = true) :
    add (.code ga sa ra) (.code gb sb rb) = .ok (.code false sa (ra.add rb)) :=
  add_mergeable _ _ hm

/-- **the model's `+` raises on NO pair of origins** (valid or not, flat or not) -/
theorem add_total (a b : Origin) : ∃ r, add a b = .ok r := by
  rw [add_eq]; split
  · exact ⟨_, rfl⟩
  · exact merge_ok [a, b]

/-- `get_raw()` of a code origin over a text source is exactly the slice `text[start.index : end.index]` … -/
theorem getRaw_code (s : Src) (t : Str) (r : CodeRange) (h : s.raw = .text t) :
    getRaw (.code false (.one s) r) = some (slice t r.start.index r.end_.index) := by
  simp [getRaw, h]
/-- … so the sum of two mergeable code origins reads the slice over the hull of the left operand's text -/
theorem add_code_get_raw (ga gb : Bool) (s : Src) (sb : SrcV) (t : Str) (ra rb : CodeRange) (h : s.raw = .text t)
    (hm : mergeable (.code ga (.one s) ra) (.code gb sb rb) = true) (hv : ra.valid = true ∨ rb.valid = true) :
    ∃ o, add (.code ga (.one s) ra) (.code gb sb rb) = .ok o ∧
      getRaw o = some (slice t (min ra.start.index rb.start.index) (max ra.end_.index rb.end_.index)) := by
  refine ⟨_, add_mergeable _ _ hm, ?_⟩
  rw [fuse, getRaw_code s t _ h, (add_index ra rb).1, (add_index ra rb).2]

/-- a string literal unfolds to `String.ofList` of its characters: its `toList` is read off without the UTF-8 decoder -/
theorem toList_of_eq_ofList {s : String} {l : List Char} (h : s = String.ofList l) : s.toList = l :=
  h ▸ String.toList_ofList

/-- what the slice is: for `0 ≤ lo`, `0 ≤ hi` it has the characters at positions `lo ≤ k < hi` of the text -/
theorem slice_getElem? (t : Str) (lo hi : Nat) (i : Nat) :
    (slice t lo hi)[i]? = if i < hi - lo then t[lo + i]? else none := by
  simp [slice, List.getElem?_take, List.getElem?_drop]
theorem slice_length (t : Str) (lo hi : Nat) : (slice t lo hi).length = min (hi - lo) (t.length - lo) := by
  simp [slice]
example : slice "hello world".toList 3 8 = "lo wo".toList :=
  (congrArg (slice · 3 8) (toList_of_eq_ofList rfl)).trans (toList_of_eq_ofList rfl).symm

theorem specStep_leaves (a b : Origin) (ha : Flat a) :
    specStep (leaves a) b = if mergeable a b then [fuse a b] else leaves a ++ leaves b := by
  by_cases hm : mergeable a b = true
  · obtain ⟨ga, sa, ra, gb, sb, rb, rfl, rfl⟩ := mergeable_code a b hm
    simp only [leaves, specStep, hm, if_true, fuse]
  · rw [if_neg hm]
    unfold specStep
    split
    · rename_i ga sa ra gb sb rb hl
      -- a flat origin that lists one origin is that origin: `pack [x] = .ok x`
      cases (hl ▸ flat_pack_leaves a ha : pack [_] = .ok a)
      rw [if_neg hm]; rfl
    · rfl

/-- one `+` on flat operands: the result is flat and its listing is `specStep` of the listing so far -/
theorem add_flat (a b : Origin) (ha : Flat a) (hb : Flat b) (r : Origin) (h : add a b = .ok r) :
    Flat r ∧ leaves r = specStep (leaves a) b := by
  rw [add_eq] at h
  rw [specStep_leaves a b ha]
  split at h
  next hm => cases h; rw [if_pos hm]; exact (fuse_leaf a b hm).2
  next hm =>
    rw [if_neg hm]
    simpa using merge_flat [a, b] (forall_mem_pair ha hb) r h

theorem concat_nil (o : Origin) : concat o [] = .ok o := rfl
theorem concat_cons (o b : Origin) (os : List Origin) :
    concat o (b :: os) = (add o b).bind (fun a => concat a os) := by
  show os.foldl _ (add o b) = _
  cases add o b with
  | ok a => rfl
  | error e =>
    -- an exception is carried through the rest of the fold
    induction os with
    | nil => rfl
    | cons c t ih => exact ih

/-- `concat_origins` folds `+`: what every `+` carries from `R x a` to `R (f x b) r` holds between the fold of `f` and the
result, which exists because `+` never raises -/
theorem concat_fold {α : Type} (f : α → Origin → α) (R : α → Origin → Prop) (Q : Origin → Prop)
    (step : ∀ x a b r, R x a → Q b → add a b = .ok r → R (f x b) r)
    (x : α) (o : Origin) (os : List Origin) (ho : R x o) (hq : ∀ b ∈ os, Q b) :
    ∃ r, concat o os = .ok r ∧ R (os.foldl f x) r := by
  induction os generalizing x o with
  | nil => exact ⟨o, rfl, ho⟩
  | cons b t ih =>
    obtain ⟨a, ha⟩ := add_total o b
    rw [concat_cons, ha]
    exact ih (f x b) a (step x o b a ho (hq b List.mem_cons_self) ha) (fun c hc => hq c (List.mem_cons_of_mem _ hc))

/-- `concat_origins` on flat operands: the result is flat, and it lists what the left fold of `specStep` lists:
operands in order, NoOrigin dropped, MultiOrigins spliced, and an accumulated single code origin fused with a
following code origin of the same source that overlaps or touches it -/
theorem concat_flat (o : Origin) (os : List Origin) (ho : Flat o) (hf : ∀ b ∈ os, Flat b) (r : Origin)
    (h : concat o os = .ok r) : Flat r ∧ leaves r = os.foldl specStep (leaves o) := by
  obtain ⟨r', hr', hR⟩ := concat_fold specStep (fun x a => Flat a ∧ leaves a = x) Flat
    (fun x a b r hxa hb hr => hxa.2 ▸ add_flat a b hxa.1 hb r hr) (leaves o) o os ⟨ho, rfl⟩ hf
  cases hr'.symm.trans h
  exact hR

/-- nothing fuses with a listing that holds no code origin -/
theorem specStep_eq_append (acc : List Origin) (b : Origin) (h : ∀ x ∈ acc, ∀ g s r, x ≠ .code g s r) :
    specStep acc b = acc ++ leaves b := by
  unfold specStep
  split
  · rename_i ga sa ra gb sb rb
    exact absurd rfl (h (.code ga sa ra) (by simp) ga sa ra)
  · rfl

/-- fqn composition: `source.fqn :: position.fqn`; a source set / position set joins its members with `||` -/
theorem fqn_compose (o : Origin) (h : o.isNone = false) : o.fqn = o.source.fqn ++ uriDelim ++ o.position.fqn := by
  cases o <;> simp_all [Origin.fqn, Origin.isNone]
theorem fqn_none : Origin.none.fqn = noOriginName := rfl
example : uriDelim = "::".toList ∧ setsDelim = "||".toList ∧ sourceSetOpen = "SourceSet(".toList ∧
    positionSetOpen = "PositionSet(".toList ∧ closeParen = ")".toList ∧ noOriginName = "NoOrigin".toList ∧
    noPositionName = "NoPosition".toList ∧ entireName = "(entire source)".toList ∧ dash = "-".toList ∧
    noSrc.fqn = "NoSource".toList := by
  refine ⟨?_, ?_, ?_, ?_, ?_, ?_, ?_, ?_, ?_, ?_⟩ <;> exact (toList_of_eq_ofList rfl).symm

theorem posFqnList_eq (ps : List PosV) : PosV.fqnList ps = ps.map PosV.fqn := by
  induction ps with
  | nil => simp [PosV.fqnList]
  | cons p r ih => simp [PosV.fqnList, ih]
theorem srcFqnList_eq (ss : List SrcV) : SrcV.fqnList ss = ss.map SrcV.fqn := by
  induction ss with
  | nil => simp [SrcV.fqnList]
  | cons p r ih => simp [SrcV.fqnList, ih]

theorem posSet_fqn (ps : List PosV) :
    (PosV.set ps).fqn = positionSetOpen ++ joinSep setsDelim (ps.map PosV.fqn) ++ closeParen := by
  simp only [PosV.fqn, posFqnList_eq]
theorem srcSet_fqn (ss : List SrcV) :
    (SrcV.set ss).fqn = sourceSetOpen ++ joinSep setsDelim (ss.map SrcV.fqn) ++ closeParen := by
  simp only [SrcV.fqn, srcFqnList_eq]
theorem codePos_fqn (r : CodeRange) : (PosV.code r).fqn = intStr r.start.index ++ dash ++ intStr r.end_.index := by
  simp only [PosV.fqn]

/-- the fqn of a constructed MultiOrigin composes the members' source and position fqns, in operand order -/
theorem multi_fqn (x y : Origin) (t : List Origin) (m : Origin) (h : mkMulti (x :: y :: t) = .ok m) :
    m.fqn = (if (y :: t).all (fun o => o.source == x.source) then x.source.fqn
             else sourceSetOpen ++ joinSep setsDelim ((x :: y :: t).map (fun o => o.source.fqn)) ++ closeParen)
        ++ uriDelim
        ++ (positionSetOpen ++ joinSep setsDelim ((x :: y :: t).map (fun o => o.position.fqn)) ++ closeParen) := by
  rw [mkMulti_spec] at h
  cases h
  show SrcV.fqn (ite _ _ _) ++ uriDelim ++ (PosV.set _).fqn = _
  rw [posSet_fqn, List.map_map]
  split
  · rfl
  · rw [srcSet_fqn, List.map_map]; rfl

def sA : SrcV := .one { key := 1, fqn := ['a'], raw := .text "hello world".toList }
def sB : SrcV := .one { key := 2, fqn := ['b'], raw := .none }
def c02 : Origin := .code false sA ⟨⟨0, 1, 0⟩, ⟨2, 1, 2⟩⟩
def c24 : Origin := .code false sA ⟨⟨2, 1, 2⟩, ⟨4, 1, 4⟩⟩
def c57 : Origin := .code false sA ⟨⟨5, 1, 5⟩, ⟨7, 1, 7⟩⟩
def xB : Origin := .other .xml sB (.xml ['/', 'r', '/', 'x'])

example : (add c02 c24).toOption.map getRaw = some (some "hell".toList) :=
  congrArg (some ∘ some) (toList_of_eq_ofList rfl).symm
example : (merge [.none, c02, .none]).toOption.map leaves = some [c02] := rfl
example : ∃ m, merge [c02, xB, c57] = .ok m ∧ Flat m ∧ leaves m = [c02, xB, c57] ∧
    m.fqn = "SourceSet(a||b||a)::PositionSet(0-2||/r/x||5-7)".toList :=
  ⟨_, rfl, ⟨by decide, rfl⟩, rfl, (toList_of_eq_ofList rfl).symm⟩
example : ∃ m, concat c02 [c24, xB, c57] = .ok m ∧ m.fqn = "SourceSet(a||b||a)::PositionSet(0-4||/r/x||5-7)".toList :=
  ⟨_, rfl, (toList_of_eq_ofList rfl).symm⟩
example : mergeable c02 c24 = true ∧ mergeable c02 c57 = false ∧ mergeable c02 xB = false := by decide

end PyOak.C15
