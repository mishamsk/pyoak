/-
C15 — one more function of origin.py is GENERATED: the `fqn` property of `CodeRange`

    @property
    def fqn(self) -> str:
        return f"{self.start.index}-{self.end.index}"

is translated by harness/py2lean.py (f-strings over ints / strs, `str(int)`, `str + str`, string literals; `@property`)
into `Gen.CodeRange.fqn` on every run of the check.  Here it is bridged to the hand-written model (`PosV.fqn` of a code
position, which the correspondence exercises in every answer that carries an fqn): a harmless rewrite of the property
(`str(a) + "-" + str(b)`, a local name, another split of the f-string) re-proves, swapping the two indices or changing
the separator breaks `range_fqn_generated`.
-/
import PyOak.Props.C15
namespace PyOak.C15
open PyOak.Gen PyOak.OriginAlg

theorem intStr_eq_pyIntStr (i : Int) : intStr i = pyIntStr i := rfl

theorem range_fqn_generated (r : CodeRange) : CodeRange.fqn r = (PosV.code r).fqn := by
  simp [PosV.fqn, CodeRange.fqn, intStr, pyIntStr, dash, List.append_assoc]

/-- what it is: decimal start index, `-`, decimal end index -/
theorem range_fqn_spec (r : CodeRange) :
    CodeRange.fqn r = (toString r.start.index).toList ++ ['-'] ++ (toString r.end_.index).toList := by
  simp [CodeRange.fqn, pyIntStr, List.append_assoc]

/-- so the fqn of a code origin composes the source's fqn with the GENERATED position fqn -/
theorem code_fqn_generated (g : Bool) (s : SrcV) (r : CodeRange) :
    (Origin.code g s r).fqn = s.fqn ++ uriDelim ++ CodeRange.fqn r := by
  rw [range_fqn_generated]; rfl

example : CodeRange.fqn ⟨⟨0, 1, 0⟩, ⟨12, 1, 12⟩⟩ = ['0', '-', '1', '2'] := by decide

end PyOak.C15
