/-
C09 — "every ancestor of a change is a NEW node" in the sense of object identity, and "an unchanged
subtree is returned as the very same object" with a semantic hypothesis.

* `new_uids`: under a fresh counter (`uidsLt c n`, and `uidsLt c k` for every replacement node `k`)
  the objects of the output with identity `≥ c` (the ones the call created) have pairwise distinct
  identities, all in `[c, c')`, every other object of the output is literally a node value of the
  input or of a replacement node, and all of those have identities `< c`: a created object is
  distinct from every input object, every replacement object and every other created object.
* `changed_ancestors_new_rw`: every ancestor of a change is a new object, also through ancestors
  whose method is a `rewriteProp` method; `changed_ancestors_new`: through `generic_visit` only.
* `unchanged_semantic`: if the pure rewrite `Rw` returns the node itself (same value, same
  identities everywhere: nothing was dropped, replaced by something else or rebuilt differently) and
  no visited method is a `rewriteProp` method, `T` returns the very same object and allocates
  nothing.  The extra hypothesis is needed (`unchanged_semantic_fails`): a method that does
  `dataclasses.replace(node, v=<the value it already has>)` changes nothing structurally and still
  returns a new object — in the real code as well.
-/
import PyOak.Props.C09Rw
namespace PyOak
namespace C09

mutual
theorem uidsLt_subs (c : Nat) : ∀ n : Node, uidsLt c n = true → ∀ m ∈ subs n, m.uid < c
  | .mk h ks, hu, m, hm => by
    rw [uidsLt_mk] at hu
    rcases List.mem_cons.mp hm with rfl | hm
    · exact hu.1
    · exact uidsLt_subsKids c ks hu.2 m hm
termination_by structural n => n
theorem uidsLt_subsKids (c : Nat) : ∀ ks : List Kid, uidsLtKids c ks = true → ∀ m ∈ subsKids ks, m.uid < c
  | [], _, m, hm => by cases hm
  | k :: r, hu, m, hm => by
    rw [uidsLtKids, Bool.and_eq_true] at hu
    rcases List.mem_append.mp hm with hm | hm
    · exact uidsLt_subsKid c k hu.1 m hm
    · exact uidsLt_subsKids c r hu.2 m hm
termination_by structural ks => ks
theorem uidsLt_subsKid (c : Nat) : ∀ k : Kid, uidsLtKid c k = true → ∀ m ∈ subsKid k, m.uid < c
  | .mk _ _ ns, hu, m, hm => uidsLt_subsNodes c ns hu m hm
termination_by structural k => k
theorem uidsLt_subsNodes (c : Nat) : ∀ ns : List Node, uidsLtNodes c ns = true → ∀ m ∈ subsNodes ns, m.uid < c
  | [], _, m, hm => by cases hm
  | n :: r, hu, m, hm => by
    rw [uidsLtNodes, Bool.and_eq_true] at hu
    rcases List.mem_append.mp hm with hm | hm
    · exact uidsLt_subs c n hu.1 m hm
    · exact uidsLt_subsNodes c r hu.2 m hm
termination_by structural ns => ns
end

/-- identities `≥ c0` among the nodes of `L`, with multiplicity, in order -/
def news (c0 : Nat) (L : List Node) : List Nat :=
  (L.filter fun m => decide (c0 ≤ m.uid)).map Node.uid

/-- every node of `L` is old (`< c0`) or was created in `[c, c')`, and the created ones are pairwise
distinct -/
def G (c0 c c' : Nat) (L : List Node) : Prop :=
  (∀ m ∈ L, m.uid < c0 ∨ (c ≤ m.uid ∧ m.uid < c')) ∧ (news c0 L).Nodup

theorem mem_news {c0 : Nat} {L : List Node} {a : Nat} (h : a ∈ news c0 L) :
    ∃ m ∈ L, c0 ≤ m.uid ∧ m.uid = a := by
  obtain ⟨m, hm, rfl⟩ := List.mem_map.mp h
  obtain ⟨h1, h2⟩ := List.mem_filter.mp hm
  exact ⟨m, h1, of_decide_eq_true h2, rfl⟩

theorem G_old {c0 c c' : Nat} {L : List Node} (h : ∀ m ∈ L, m.uid < c0) : G c0 c c' L := by
  have : news c0 L = [] :=
    List.map_eq_nil_iff.mpr (List.filter_eq_nil_iff.mpr fun m hm hd =>
      Nat.not_le_of_gt (h m hm) (of_decide_eq_true hd))
  exact ⟨fun m hm => .inl (h m hm), this ▸ List.nodup_nil⟩

theorem G_nil (c0 c c' : Nat) : G c0 c c' [] := G_old fun _ hm => by cases hm

theorem G_append {c0 c c1 c2 : Nat} {L1 L2 : List Node} (h1 : c ≤ c1) (h2 : c1 ≤ c2)
    (g1 : G c0 c c1 L1) (g2 : G c0 c1 c2 L2) : G c0 c c2 (L1 ++ L2) := by
  refine ⟨fun m hm => ?_, ?_⟩
  · rcases List.mem_append.mp hm with hm | hm
    · exact (g1.1 m hm).imp id fun h => ⟨h.1, Nat.lt_of_lt_of_le h.2 h2⟩
    · exact (g2.1 m hm).imp id fun h => ⟨Nat.le_trans h1 h.1, h.2⟩
  · have : news c0 (L1 ++ L2) = news c0 L1 ++ news c0 L2 := by
      simp only [news, List.filter_append, List.map_append]
    rw [this, List.nodup_append]
    refine ⟨g1.2, g2.2, fun a ha b hb hab => ?_⟩
    obtain ⟨m1, hm1, hc1, rfl⟩ := mem_news ha
    obtain ⟨m2, hm2, hc2, rfl⟩ := mem_news hb
    have a1 := g1.1 m1 hm1
    have a2 := g2.1 m2 hm2
    omega

theorem G_cons {c0 c c1 : Nat} {L : List Node} {m : Node} (h0 : c0 ≤ c) (h1 : c ≤ c1) (hm : c1 ≤ m.uid)
    (g : G c0 c c1 L) : G c0 c (m.uid + 1) (m :: L) := by
  refine ⟨fun x hx => ?_, ?_⟩
  · rcases List.mem_cons.mp hx with rfl | hx
    · exact .inr ⟨Nat.le_trans h1 hm, Nat.lt_succ_self _⟩
    · exact (g.1 x hx).imp id fun h => ⟨h.1, Nat.lt_succ_of_lt (Nat.lt_of_lt_of_le h.2 hm)⟩
  · have hd : decide (c0 ≤ m.uid) = true := decide_eq_true (Nat.le_trans h0 (Nat.le_trans h1 hm))
    have : news c0 (m :: L) = m.uid :: news c0 L := by
      simp only [news, List.filter_cons, hd, if_true, List.map_cons]
    rw [this, List.nodup_cons]
    refine ⟨fun hin => ?_, g.2⟩
    obtain ⟨m2, hm2, hc2, he⟩ := mem_news hin
    have := g.1 m2 hm2
    omega

theorem G_tail {c0 c c' : Nat} {m : Node} {L : List Node} (g : G c0 c c' (m :: L)) : G c0 c c' L :=
  ⟨fun x hx => g.1 x (List.mem_cons_of_mem _ hx),
   g.2.sublist (((List.sublist_cons_self m L).filter _).map _)⟩

theorem G_widen {c0 c c1 c2 : Nat} {L : List Node} (h : c1 ≤ c2) (g : G c0 c c1 L) : G c0 c c2 L :=
  ⟨fun m hm => (g.1 m hm).imp id (fun h' => ⟨h'.1, by omega⟩), g.2⟩

theorem lookup_mem {α β : Type} [BEq α] (l : List (α × β)) (a : α) (b : β) (h : l.lookup a = some b) :
    ∃ a', (a', b) ∈ l := by
  induction l with
  | nil => cases h
  | cons e t ih =>
    obtain ⟨a0, b0⟩ := e
    rw [List.lookup] at h
    split at h
    · cases h; exact ⟨a0, List.mem_cons_self⟩
    · obtain ⟨a', ha'⟩ := ih h; exact ⟨a', List.mem_cons_of_mem _ ha'⟩

/-- a replacement node comes from the rule table: it is the default action or a per-object action of
one of the visitor's methods -/
theorem replaceBy_in_table (v : Visitor) (h : Head) (k : Node) (hk : v.action h = .replaceBy k) :
    ∃ c r, (c, r) ∈ v.rules ∧ (r.dflt = .replaceBy k ∨ ∃ u, (u, Act.replaceBy k) ∈ r.per) := by
  unfold Visitor.action at hk
  split at hk
  · rename_i r hr
    have hmem : ∃ c, (c, r) ∈ v.rules := by
      unfold Visitor.method at hr
      split at hr
      · exact lookup_mem _ _ _ hr
      · obtain ⟨a, _, ha⟩ := List.exists_of_findSome?_eq_some hr
        exact lookup_mem _ _ _ ha
    obtain ⟨c, hc⟩ := hmem
    refine ⟨c, r, hc, ?_⟩
    unfold Rule.act at hk
    split at hk
    · rename_i a ha
      subst hk
      obtain ⟨u, hu⟩ := lookup_mem _ _ _ ha
      exact .inr ⟨u, hu⟩
    · exact .inl hk
  · cases hk

/-- every replacement node a method may return exists before the call -/
def ReplOld (v : Visitor) (c0 : Nat) : Prop := ∀ h k, v.action h = .replaceBy k → uidsLt c0 k = true

mutual
theorem fresh_T (v : Visitor) (c0 : Nat) (hR : ReplOld v c0) :
    ∀ (n : Node) (c : Nat) (r : Option Node) (c' : Nat), c0 ≤ c → uidsLt c0 n = true →
    T v n c = .ok (r, c') → c ≤ c' ∧ ∀ n', r = some n' → G c0 c c' (subs n')
  | .mk h ks, c, r, c', h0, hu, ht => by
    have hold := uidsLt_subs c0 _ hu
    rw [uidsLt_mk] at hu
    have hg : ∀ {r c'}, rebuilt h ks (TKids v ks c) = .ok (r, c') →
        c ≤ c' ∧ ∀ n', r = some n' → G c0 c c' (subs n') := by
      intro r c' e
      obtain ⟨ks', chg, c1, hk, hcase⟩ := rebuilt_ok e
      obtain ⟨h1, h2⟩ := fresh_TKids v c0 hR ks c ks' chg c1 h0 hu.2 hk
      rcases hcase with ⟨_, rfl, rfl⟩ | ⟨_, rfl, rfl⟩
      · exact ⟨Nat.le_succ_of_le h1, fun n' hn => by
          cases hn; exact G_cons (m := .mk { h with uid := c1 } ks') h0 h1 (Nat.le_refl _) h2⟩
      · exact ⟨h1, fun n' hn => by cases hn; exact G_old hold⟩
    rcases T_ok ht with ⟨ha, rfl, rfl⟩ | ⟨k, ha, rfl, rfl⟩ | ⟨ha, rfl, rfl⟩ | ⟨ha, e⟩ |
      ⟨p, n1, c1, ps, ha, e, rfl, rfl⟩
    · exact ⟨Nat.le_refl _, fun n' hn => by cases hn; exact G_old hold⟩
    · exact ⟨Nat.le_refl _, fun n' hn => by cases hn; exact G_old (uidsLt_subs c0 _ (hR h _ ha))⟩
    · exact ⟨Nat.le_refl _, fun n' hn => by cases hn⟩
    · exact hg e
    · obtain ⟨h1, h2⟩ := hg e
      exact ⟨Nat.le_succ_of_le h1, fun n' hn => by
        cases hn
        exact G_cons (m := .mk { n1.hd with uid := c1, props := ps } n1.kids) h0 h1 (Nat.le_refl _)
          (G_tail (subs_eq n1 ▸ h2 n1 rfl))⟩
termination_by structural n => n
theorem fresh_TKids (v : Visitor) (c0 : Nat) (hR : ReplOld v c0) :
    ∀ (ks : List Kid) (c : Nat) (ks' : List Kid) (chg : Bool) (c' : Nat), c0 ≤ c →
    uidsLtKids c0 ks = true → TKids v ks c = .ok (ks', chg, c') → c ≤ c' ∧ G c0 c c' (subsKids ks')
  | [], c, ks', chg, c', _, _, ht => by
    obtain ⟨rfl, _, rfl⟩ := TKids_nil_ok ht
    exact ⟨Nat.le_refl _, G_nil c0 _ _⟩
  | k :: r, c, ks', chg, c', h0, hu, ht => by
    rw [uidsLtKids, Bool.and_eq_true] at hu
    obtain ⟨k', chg1, c1, r', chg2, hk, hr, rfl, _⟩ := TKids_cons_ok ht
    obtain ⟨a1, a2⟩ := fresh_TKid v c0 hR k c k' chg1 c1 h0 hu.1 hk
    obtain ⟨b1, b2⟩ := fresh_TKids v c0 hR r c1 r' chg2 c' (Nat.le_trans h0 a1) hu.2 hr
    exact ⟨Nat.le_trans a1 b1, G_append a1 b1 a2 b2⟩
termination_by structural ks => ks
theorem fresh_TKid (v : Visitor) (c0 : Nat) (hR : ReplOld v c0) :
    ∀ (k : Kid) (c : Nat) (k' : Kid) (chg : Bool) (c' : Nat), c0 ≤ c →
    uidsLtKid c0 k = true → TKid v k c = .ok (k', chg, c') → c ≤ c' ∧ G c0 c c' (subsKid k')
  | .mk name coll ns, c, k', chg, c', h0, hu, ht => by
    obtain ⟨out, hn, rfl⟩ := TKid_ok ht
    obtain ⟨a1, a2⟩ := fresh_TNodes v c0 hR ns c out chg c' h0 hu hn
    refine ⟨a1, ?_⟩
    cases chg
    · exact G_old (uidsLt_subsNodes c0 ns hu)
    · exact a2
termination_by structural k => k
theorem fresh_TNodes (v : Visitor) (c0 : Nat) (hR : ReplOld v c0) :
    ∀ (ns : List Node) (c : Nat) (out : List Node) (chg : Bool) (c' : Nat), c0 ≤ c →
    uidsLtNodes c0 ns = true → TNodes v ns c = .ok (out, chg, c') → c ≤ c' ∧ G c0 c c' (subsNodes out)
  | [], c, out, chg, c', _, _, ht => by
    obtain ⟨rfl, _, rfl⟩ := TNodes_nil_ok ht
    exact ⟨Nat.le_refl _, G_nil c0 _ _⟩
  | x :: r, c, out, chg, c', h0, hu, ht => by
    rw [uidsLtNodes, Bool.and_eq_true] at hu
    obtain ⟨rx, c1, out', chg', hx, hr, rfl, _⟩ := TNodes_cons_ok ht
    obtain ⟨a1, a2⟩ := fresh_T v c0 hR x c rx c1 h0 hu.1 hx
    obtain ⟨b1, b2⟩ := fresh_TNodes v c0 hR r c1 out' chg' c' (Nat.le_trans h0 a1) hu.2 hr
    refine ⟨Nat.le_trans a1 b1, ?_⟩
    cases rx with
    | none => exact G_append a1 b1 (G_nil c0 c c1) b2
    | some y => exact G_append a1 b1 (a2 y rfl) b2
termination_by structural ns => ns
end

/-- **new_uids** — what "a NEW node" means as object identity.  With a fresh
counter (all identities of the input and of every replacement node are `< c`):
1. the objects of the output with identity `≥ c` have pairwise distinct identities,
2. all of them in `[c, c')` (they were created by this call),
3. every other object of the output is literally a node value of the input or of a replacement node,
4. and all input / replacement objects have identities `< c`.
So a created object is distinct from every input object, from every replacement object and from
every other created object. -/
theorem new_uids (v : Visitor) (n : Node) (c c' : Nat) (n' : Node)
    (hu : uidsLt c n = true) (hR : ∀ h k, v.action h = .replaceBy k → uidsLt c k = true)
    (ht : T v n c = .ok (some n', c')) :
    (((subs n').filter fun m => decide (c ≤ m.uid)).map Node.uid).Nodup ∧
    (∀ m ∈ subs n', c ≤ m.uid → m.uid < c') ∧
    (∀ m ∈ subs n', m.uid < c → m ∈ subs n ∨ Repl v m) ∧
    (∀ m, m ∈ subs n ∨ Repl v m → m.uid < c) := by
  have g := (fresh_T v c hR n c (some n') c' (Nat.le_refl _) hu ht).2 n' rfl
  refine ⟨g.2, fun m hm hc => ?_, fun m hm hc => ?_, fun m hm => ?_⟩
  · rcases g.1 m hm with h | h
    · omega
    · exact h.2
  · rcases input_untouched v n c c' n' ht m hm with h | h | h
    · omega
    · exact .inl h
    · exact .inr h
  · rcases hm with hm | ⟨h, k, ha, hm⟩
    · exact uidsLt_subs c n hu m hm
    · exact uidsLt_subs c k (hR h k ha) m hm

theorem transform_new_uids (v : Visitor) (n : Node) (c c' : Nat) (n' : Node) (hw : wf n = true)
    (hu : uidsLt c n = true) (hR : ∀ h k, v.action h = .replaceBy k → uidsLt c k = true)
    (ht : transform v n c = .ok (some n', c')) :
    (((subs n').filter fun m => decide (c ≤ m.uid)).map Node.uid).Nodup ∧
    (∀ m ∈ subs n', c ≤ m.uid → m.uid < c') ∧
    (∀ m ∈ subs n', m.uid < c → m ∈ subs n ∨ Repl v m) ∧
    (∀ m, m ∈ subs n ∨ Repl v m → m.uid < c) := by
  rw [transform_eq_spec v n c hw] at ht; exact new_uids v n c c' n' hu hR ht

/-- a created object is no input object and no replacement object -/
theorem new_ne_input (v : Visitor) (n : Node) (c c' : Nat) (n' : Node)
    (hu : uidsLt c n = true) (hR : ∀ h k, v.action h = .replaceBy k → uidsLt c k = true)
    (ht : T v n c = .ok (some n', c')) (m x : Node) (_hm : m ∈ subs n') (hc : c ≤ m.uid)
    (hx : x ∈ subs n ∨ Repl v x) : m.uid ≠ x.uid := by
  have := (new_uids v n c c' n' hu hR ht).2.2.2 x hx
  omega

/-! ### ancestors of a change, also through `rewriteProp` methods -/

/-- `BelowRw v a d`: `d` is visited strictly below `a`, every node on the way calling `generic_visit`
(directly, or from a `rewriteProp` method) -/
inductive BelowRw (v : Visitor) : Node → Node → Prop where
  | child {a x : Node} : (v.action a.hd = .generic ∨ ∃ p, v.action a.hd = .rewriteProp p) →
      x ∈ childrenOf a → BelowRw v a x
  | trans {a x d : Node} : (v.action a.hd = .generic ∨ ∃ p, v.action a.hd = .rewriteProp p) →
      x ∈ childrenOf a → BelowRw v x d → BelowRw v a d

theorem quiet_rewrite (v : Visitor) (a : Node) (p : PropV) (ha : v.action a.hd = .rewriteProp p) :
    quiet v a = false := by
  cases a with
  | mk h ks => rw [Node.hd_mk] at ha; rw [quiet, ha]

theorem belowRw_not_quiet (v : Visitor) (a d : Node) (hb : BelowRw v a d) (hd : quiet v d = false) :
    quiet v a = false := by
  induction hb with
  | child ha hx =>
    rcases ha with ha | ⟨p, ha⟩
    · exact not_quiet_of_child v _ _ ha hx hd
    · exact quiet_rewrite v _ p ha
  | trans ha hx _ ih =>
    rcases ha with ha | ⟨p, ha⟩
    · exact not_quiet_of_child v _ _ ha hx (ih hd)
    · exact quiet_rewrite v _ p ha

/-- **changed_ancestors_new_rw**: every ancestor `a` of a change at `d` (reached through methods that
call `generic_visit`, plain or `rewriteProp`) is returned as a NEW object of the same class:
identity in `[c, c')`, hence (by `new_uids`) different from every input, replacement and other
created object. -/
theorem changed_ancestors_new_rw (v : Visitor) (a d : Node) (c c' : Nat) (r : Option Node)
    (hu : uidsLt c a = true) (hb : BelowRw v a d) (hd : quiet v d = false)
    (ht : T v a c = .ok (r, c')) :
    ∃ a', r = some a' ∧ c ≤ a'.uid ∧ a'.uid < c' ∧ a'.cls = a.cls ∧ a'.uid ≠ a.uid := by
  have hq := belowRw_not_quiet v a d hb hd
  have ha : v.action a.hd = .generic ∨ ∃ p, v.action a.hd = .rewriteProp p := by
    cases hb <;> assumption
  cases a with
  | mk h ks =>
    rw [Node.hd_mk] at ha
    rcases ha with ha | ⟨p, ha⟩
    · rcases generic_result_same_or_new v h ks c c' r ha hu ht with ⟨_, _, hq'⟩ | ⟨ks', u, rfl, h1, h2, _⟩
      · rw [hq] at hq'; cases hq'
      · rw [uidsLt_mk] at hu
        exact ⟨_, rfl, h1, h2, rfl, Nat.ne_of_gt (Nat.lt_of_lt_of_le hu.1 h1)⟩
    · rw [uidsLt_mk] at hu
      rcases T_ok ht with ⟨ha', _⟩ | ⟨_, ha', _⟩ | ⟨ha', _⟩ | ⟨ha', _⟩ | ⟨_, n1, c1, ps, _, e, rfl, rfl⟩
      -- the first four alternatives of `T_ok` name an action other than `rewriteProp`
      iterate 4 rw [ha] at ha'; cases ha'
      obtain ⟨ks', chg, c2, hk, hcase⟩ := rebuilt_ok e
      have hm := TKids_mono v ks c ks' chg c2 hk
      have h1 : c ≤ c1 ∧ n1.cls = h.cls := by
        rcases hcase with ⟨_, hn, rfl⟩ | ⟨_, hn, rfl⟩ <;> cases hn
        · exact ⟨Nat.le_succ_of_le hm, rfl⟩
        · exact ⟨hm, rfl⟩
      exact ⟨_, rfl, h1.1, Nat.lt_succ_self _, h1.2, Nat.ne_of_gt (Nat.lt_of_lt_of_le hu.1 h1.1)⟩

theorem Below.toRw {v : Visitor} {a d : Node} (hb : Below v a d) : BelowRw v a d := by
  induction hb with
  | child ha hx => exact .child (.inl ha) hx
  | trans ha hx _ ih => exact .trans (.inl ha) hx ih

/-- **every ancestor of a change is a new node**: if `d` is visited below `a` and the visit of `d`
does not return `d` itself (`quiet v d = false`: a remove / rewrite / replace-by-other rule fires
at or below `d`), then the result for `a` is a new object. -/
theorem changed_ancestors_new (v : Visitor) (a d : Node) (c c' : Nat) (r : Option Node)
    (hu : uidsLt c a = true) (hb : Below v a d) (hd : quiet v d = false)
    (ht : T v a c = .ok (r, c')) :
    ∃ a', r = some a' ∧ c ≤ a'.uid ∧ a'.uid < c' ∧ a'.cls = a.cls ∧ a'.uid ≠ a.uid :=
  changed_ancestors_new_rw v a d c c' r hu hb.toRw hd ht

/-! ### unchanged subtrees, semantic hypothesis -/

mutual
/-- no `rewriteProp` method is called in the subtree -/
def noRw (v : Visitor) : Node → Bool
  | .mk h ks => match v.action h with
    | .generic => noRwKids v ks
    | .rewriteProp _ => false
    | _ => true
termination_by structural n => n
def noRwKids (v : Visitor) : List Kid → Bool
  | [] => true
  | k :: r => noRwKid v k && noRwKids v r
termination_by structural ks => ks
def noRwKid (v : Visitor) : Kid → Bool
  | .mk _ _ ns => noRwNodes v ns
termination_by structural k => k
def noRwNodes (v : Visitor) : List Node → Bool
  | [] => true
  | n :: r => noRw v n && noRwNodes v r
termination_by structural ns => ns
end

theorem RwNodes_length (act : Head → Act) (ns out : List Node) (h : RwNodes act ns = .ok out) :
    out.length ≤ ns.length := by
  induction ns generalizing out with
  | nil => simp [RwNodes] at h; simp [← h]
  | cons x r ih =>
    unfold RwNodes at h
    split at h
    · simp at h
    · rename_i rx _
      split at h
      · simp at h
      · rename_i out' hr
        simp at h; subst h
        have := ih out' hr
        cases rx <;> simp <;> omega

mutual
/-- **unchanged_semantic**: the hypothesis is about the RESULT of the pure rewrite, not about which
rules fire: if `Rw` maps the subtree to itself (nothing dropped, nothing replaced by another node,
every rebuilt node equal to the old one — whatever the methods did to get there: `keep`, `generic`,
returning the node they were given, at any depth) and no `rewriteProp` method is involved, then `T`
returns the very same object and creates nothing.  No hypothesis on identities. -/
theorem unchanged_semantic (v : Visitor) (c : Nat) :
    ∀ n : Node, noRw v n = true → Rw v.action n = .ok (some n) → T v n c = .ok (some n, c)
  | .mk h ks, hn, hr => by
    unfold noRw at hn
    unfold Rw at hr
    unfold T
    split at hr
    · rename_i ha; simp [ha]                          -- keep
    · rename_i k ha; simp at hr; simp [ha, hr]        -- replaceBy
    · simp at hr                                      -- remove
    · simp at hr                                      -- raise
    · rename_i ha                                     -- generic
      simp only [ha] at hn
      split at hr
      · simp at hr
      · rename_i ks' hk
        have e : ks' = ks := by simpa using hr
        rw [e] at hk
        simp [ha, rebuilt, unchanged_sem_kids v c ks hn hk]
    · rename_i p ha; simp [ha] at hn                  -- rewriteProp
termination_by structural n => n
theorem unchanged_sem_kids (v : Visitor) (c : Nat) :
    ∀ ks : List Kid, noRwKids v ks = true → RwKids v.action ks = .ok ks → TKids v ks c = .ok (ks, false, c)
  | [], _, _ => by simp [TKids]
  | k :: r, hn, hr => by
    simp only [noRwKids, Bool.and_eq_true] at hn
    unfold RwKids at hr
    split at hr
    · simp at hr
    · rename_i k' hk
      split at hr
      · simp at hr
      · rename_i r' hr'
        simp at hr; obtain ⟨e1, e2⟩ := hr
        rw [e1] at hk; rw [e2] at hr'
        simp [TKids, unchanged_sem_kid v c k hn.1 hk, unchanged_sem_kids v c r hn.2 hr']
termination_by structural ks => ks
theorem unchanged_sem_kid (v : Visitor) (c : Nat) :
    ∀ k : Kid, noRwKid v k = true → RwKid v.action k = .ok k → TKid v k c = .ok (k, false, c)
  | .mk name coll ns, hn, hr => by
    simp only [noRwKid] at hn
    unfold RwKid at hr
    split at hr
    · simp at hr
    · rename_i out ho
      have e : out = ns := by simpa using hr
      rw [e] at ho
      simp [TKid, unchanged_sem_nodes v c ns hn ho]
termination_by structural k => k
theorem unchanged_sem_nodes (v : Visitor) (c : Nat) :
    ∀ ns : List Node, noRwNodes v ns = true → RwNodes v.action ns = .ok ns → TNodes v ns c = .ok (ns, false, c)
  | [], _, _ => by simp [TNodes]
  | x :: r, hn, hr => by
    simp only [noRwNodes, Bool.and_eq_true] at hn
    unfold RwNodes at hr
    split at hr
    · simp at hr
    · rename_i rx hx
      split at hr
      · simp at hr
      · rename_i out ho
        simp at hr
        have hl := RwNodes_length v.action r out ho
        cases rx with
        | none =>
          simp at hr; subst hr; simp at hl; omega
        | some y =>
          simp at hr; obtain ⟨e1, e2⟩ := hr
          rw [e1] at hx; rw [e2] at ho
          simp [TNodes, unchanged_semantic v c x hn.1 hx, unchanged_sem_nodes v c r hn.2 ho, sameObj]
termination_by structural ns => ns
end

theorem transform_unchanged_semantic (v : Visitor) (n : Node) (c : Nat) (hw : wf n = true)
    (hn : noRw v n = true) (hr : Rw v.action n = .ok (some n)) : transform v n c = .ok (some n, c) := by
  rw [transform_eq_spec v n c hw]; exact unchanged_semantic v c n hn hr

/-! ### non-vacuity, and the witness that `noRw` cannot be dropped -/
namespace Ex

-- new_uids: hypotheses hold for a visitor that replaces `Leaf#1` by the existing node `Leaf#7`
theorem replOld_vExpr : ∀ h k, (vExpr 1 (.replaceBy (leaf 7))).action h = .replaceBy k → uidsLt 10 k = true := by
  intro h k hk
  obtain ⟨c, r, hm, hcase⟩ := replaceBy_in_table _ h k hk
  simp only [vExpr, List.mem_cons, List.not_mem_nil, or_false, Prod.mk.injEq] at hm
  obtain ⟨_, rfl⟩ := hm
  rcases hcase with hd | ⟨u, hu⟩
  · cases hd
  · simp only [List.mem_cons, List.not_mem_nil, or_false, Prod.mk.injEq] at hu
    obtain ⟨_, hu⟩ := hu; cases hu; decide
example : uidsLt 10 tree = true := uidsLt_tree
example : ∃ n' c', T (vExpr 1 (.replaceBy (leaf 7))) tree 10 = .ok (some n', c') ∧
    (((subs n').filter fun m => decide (10 ≤ m.uid)).map Node.uid) = [10] := ⟨_, _, rfl, by decide⟩
-- a deep rewrite: three created objects, pairwise distinct, in [10, 13)
example : ∃ n' c', T (vExpr 3 (.rewriteProp (pV 5))) tree 10 = .ok (some n', c') ∧
    (((subs n').filter fun m => decide (10 ≤ m.uid)).map Node.uid) = [12, 11, 10] ∧ c' = 13 :=
  ⟨_, _, rfl, by decide, rfl⟩

-- changed_ancestors_new is not vacuous: `Leaf2#3` is below the root through generic dispatch and
-- is removed
theorem below_tree : Below (vRemove 3) tree (leaf2 3) :=
  .trans (x := opt 2 [leaf2 3]) rfl (by simp [childrenOf, tree, tup, Kid.nodes])
    (.child rfl (by simp [childrenOf, opt, Kid.nodes]))
example : Below (vRemove 3) tree (leaf2 3) := below_tree
example : quiet (vRemove 3) (leaf2 3) = false := by decide
example : ∃ a', (T (vRemove 3) tree 10).toOption.map (·.1) = some (some a') ∧ 10 ≤ a'.uid := by
  cases ht : T (vRemove 3) tree 10 with
  | error e =>
    have : obs (T (vRemove 3) tree 10) = some (some (11, [(1, []), (10, []), (4, [])]), 12) := by decide +kernel
    rw [ht] at this; simp [obs] at this
  | ok p =>
    obtain ⟨r, c'⟩ := p
    obtain ⟨a', rfl, h1, _⟩ := changed_ancestors_new (vRemove 3) tree (leaf2 3) 10 c' r uidsLt_tree below_tree
      (by decide) ht
    exact ⟨a', rfl, h1⟩

-- the hypotheses of changed_ancestors_new_rw for a root whose method is a `rewriteProp` method:
-- `Leaf#1` is below it and is removed
def vRootRw : Visitor :=
  { strict := true, rules := [(sTup, { dflt := .rewriteProp (pV 1) }), (sLeaf, { dflt := .remove })] }
example : BelowRw vRootRw tree (leaf 1) :=
  .child (.inr ⟨pV 1, rfl⟩) (by simp [childrenOf, tree, tup, Kid.nodes])
example : quiet vRootRw (leaf 1) = false := by decide

-- unchanged_semantic: `keep`, `generic`, and a method that returns the node it is given
example : noRw (vExpr 1 (.replaceBy (leaf 1))) tree = true := by decide
example : Rw (vExpr 1 (.replaceBy (leaf 1))).action tree = .ok (some tree) := rfl
example : transform (vExpr 1 (.replaceBy (leaf 1))) tree 10 = .ok (some tree, 10) :=
  transform_unchanged_semantic _ _ _ wf_tree (by decide) rfl
-- (the syntactic `still` of Props/C09 does not cover this visitor)
example : still (vExpr 1 (.replaceBy (leaf 1))) tree = false := by decide

/-- **`noRw` cannot be dropped**: `visit_Expr` does `dataclasses.replace(generic_visit(node), v=0)` for
`Leaf2#3`, whose `v` is `0` already.  The rewritten tree IS the input tree (same values, same
identities), yet the model returns a new `Leaf2` (#10) and new ancestors (#11, #12) — as the real
code does: `dataclasses.replace` always creates a new object. -/
theorem unchanged_semantic_fails :
    Rw (vExpr 3 (.rewriteProp (pV 0))).action tree = .ok (some tree) ∧
    obs (T (vExpr 3 (.rewriteProp (pV 0))) tree 10) = some (some (12, [(1, []), (11, [10]), (4, [])]), 13) :=
  ⟨rfl, by decide⟩

end Ex

end C09
end PyOak
