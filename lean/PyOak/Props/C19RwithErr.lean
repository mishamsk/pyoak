/-
C19 — which errors can come out of `replace_with` (cf. AUDIT.md, C19).

`replaceWith` (Model/Legacy.lean) has, besides ASTNodeReplaceWithError and `hang`, two `internal` exits (the
receiver's `_parent_field` is missing / the parent has no field of that name: KeyError-like) and, inside the
roll-back, the error of a FAILED RE-ATTACHMENT of the receiver (`self._attach("replace")` in the handler, which
Python lets propagate).  `fail_frame_rwith` covers ASTNodeReplaceWithError only.

PROVED HERE (with `rwith_field_found`, Props/C19.lean: under `Inv` the receiver's parent field is found, so the
`internal` exits are dead)
  rwith_err_kind_partial  under `Inv`, every error of `replaceWith` is ASTNodeReplaceWithError, `hang`, or a
                          registry / parent collision; `internal` (and every other class) is unreachable
  step_rwith_err_kind_partial  the same at the level of `step` (plus `badRequest` for a missing object)

NOT PROVED (the registry / parent collision can only come from the re-attachment of the just detached receiver
inside the roll-back, which should never collide):

  Inv Hc s → replaceWith Hc fuel s u new = (s', .error e) → e = .replaceWithError ∨ e = .hang

What is missing is "`attachPlan` of a subtree that `detach` has just unregistered, in a state whose records
agree with an `Inv` state up to parent slots, returns neither `registryCollision` nor a parent collision"
(a dual of `attachPlan_facts`: a sufficient condition for the plan to succeed).  With it `Documented` of
Props/C19Rejected.lean becomes `e ≠ .hang` for every operation.
-/
import PyOak.Props.C19Rejected
namespace PyOak.Legacy.C19
open PyOak PyOak.Legacy LState

variable (H Hc : Str → Str)

/-- the errors that `replace_with` is shown to be confined to -/
def RwithErr (e : Err) : Prop :=
  e = .replaceWithError ∨ e = .hang ∨ e = .registryCollision ∨ e = .parentCollision

def ErrsIn (r : Except Err Unit) : Prop := ∀ e, r = .error e → RwithErr e

theorem errsIn_ok : ErrsIn (.ok ()) := fun _ h => by cases h
theorem errsIn_rwe : ErrsIn (.error .replaceWithError) := fun _ h => by cases h; exact .inl rfl
theorem errsIn_hang : ErrsIn (.error .hang) := fun _ h => by cases h; exact .inr (.inl rfl)
theorem errsIn_fin (b : Bool) (a c : LState) :
    ErrsIn (if b = true then (a, (Except.ok () : Except Err Unit)) else (c, Except.error Err.hang)).2 := by
  cases b
  · exact errsIn_hang
  · exact errsIn_ok
theorem errsIn_roll1 {e e' : Err} (h' : e' = .hang ∨ e' = .registryCollision ∨ e' = .parentCollision) :
    ErrsIn (.error (if e = .hang then .hang else e')) := by
  intro x hx
  cases hx
  split
  · exact .inr (.inl rfl)
  · rcases h' with h | h | h <;> simp [RwithErr, h]
theorem errsIn_roll2 {e : Err} : ErrsIn (.error (if e = .hang then .hang else .replaceWithError)) := by
  intro x hx
  cases hx
  split
  · exact .inr (.inl rfl)
  · exact .inl rfl

theorem rwith_errs_none (fuel : Nat) {s : LState} (hI : Inv Hc s) (u : Nat) :
    ErrsIn (replaceWith Hc fuel s u none).2 := by
  unfold replaceWith
  simp only [Bool.false_eq_true, if_false]
  cases hp : s.parent u with
  | some p =>
    obtain ⟨f, fl, hf, hfl⟩ := rwith_field_found Hc hI hp
    simp only [hf, hfl]
    split
    · exact errsIn_rwe
    · cases hd : detachGo (fuel + 1) false (s.clearParent u) u with
      | mk s2 r2 =>
        cases r2 with
        | none => exact errsIn_hang
        | some b => simp only; exact errsIn_fin _ _ _
  | none =>
    simp only
    cases hd : detachGo (fuel + 1) false s u with
    | mk s1 r1 =>
      cases r1 with
      | none => exact errsIn_hang
      | some b => exact errsIn_ok

theorem rwith_errs_some (fuel : Nat) {s : LState} (hI : Inv Hc s) (u n : Nat) :
    ErrsIn (replaceWith Hc fuel s u (some n)).2 := by
  unfold replaceWith
  simp only
  split
  · exact errsIn_rwe
  · cases hp : s.parent u with
    | some p =>
      obtain ⟨f, fl, hf, hfl⟩ := rwith_field_found Hc hI hp
      simp only [hf, hfl]
      split
      · exact errsIn_rwe
      · cases hd : detachGo (fuel + 1) false (s.clearParent u) u with
        | mk s2 r2 =>
          cases r2 with
          | none => exact errsIn_hang
          | some b =>
            simp only
            cases ha : attach Hc fuel (takeOver s2 u n).1 n with
            | mk s4 r4 =>
              cases r4 with
              | error e =>
                simp only
                cases ha2 : attach Hc fuel ((s4.modify n fun x =>
                    { x with id := (s2.obj n).id, origId := (s2.obj n).origId }).setParent u p f (s.obj u).pindex) u with
                | mk s7 r7 =>
                  cases r7 with
                  | error e' => exact errsIn_roll1 (attach_err_kind Hc ha2)
                  | ok x => exact errsIn_roll2
              | ok x => simp only; exact errsIn_fin _ _ _
    | none =>
      simp only
      cases hd : (if (!s.detached u) = true then detachGo (fuel + 1) false s u else (s, some true)) with
      | mk s1 r1 =>
        cases r1 with
        | none => exact errsIn_hang
        | some b =>
          simp only
          cases ha : attach Hc fuel (takeOver s1 u n).1 n with
          | mk s3 r3 =>
            cases r3 with
            | ok x => exact errsIn_ok
            | error e =>
              simp only
              cases ha2 : (if (!s.detached u) = true then attach Hc fuel
                  (s3.modify n fun x => { x with id := (s1.obj n).id, origId := (s1.obj n).origId }) u
                  else (s3.modify n fun x => { x with id := (s1.obj n).id, origId := (s1.obj n).origId }, .ok ())) with
              | mk s5 r5 =>
                cases r5 with
                | error e' =>
                  refine errsIn_roll1 ?_
                  split at ha2
                  · exact attach_err_kind Hc ha2
                  · cases ha2
                | ok x => exact errsIn_roll2

/-- **the errors of `replace_with` under the invariant**: ASTNodeReplaceWithError, a walk that does not end, or a
collision (which can only come from the re-attachment of the receiver inside the roll-back); in particular the
`internal` exits are unreachable.  That the collisions cannot happen either is not proved (see the file header). -/
theorem rwith_err_kind_partial {s s' : LState} {u fuel : Nat} {new : Option Nat} {e : Err} (hI : Inv Hc s)
    (h : replaceWith Hc fuel s u new = (s', .error e)) :
    e = .replaceWithError ∨ e = .hang ∨ e = .registryCollision ∨ e = .parentCollision := by
  have : ErrsIn (replaceWith Hc fuel s u new).2 := by
    cases new with
    | none => exact rwith_errs_none Hc fuel hI u
    | some n => exact rwith_errs_some Hc fuel hI u n
  rw [h] at this
  exact this e rfl

theorem rwith_not_internal {s s' : LState} {u fuel : Nat} {new : Option Nat} {e : Err} (hI : Inv Hc s)
    (h : replaceWith Hc fuel s u new = (s', .error e)) : e ≠ .internal := by
  rcases rwith_err_kind_partial Hc hI h with h | h | h | h <;> rw [h] <;> decide

theorem step_rwith_err_kind_partial {s s' : LState} {u : Nat} {new : Option Nat} {e : Err} (hI : Inv Hc s)
    (h : step H Hc s (.rwith u new) = (s', .raised e)) :
    e = .replaceWithError ∨ e = .hang ∨ e = .registryCollision ∨ e = .parentCollision ∨ e = .badRequest := by
  rcases step_raised H Hc h with ⟨_, he⟩ | ⟨_, hrw⟩
  · exact .inr (.inr (.inr (.inr he)))
  · rcases rwith_err_kind_partial Hc hI hrw with h | h | h | h
    · exact .inl h
    · exact .inr (.inl h)
    · exact .inr (.inr (.inl h))
    · exact .inr (.inr (.inr (.inl h)))

section examples
open PyOak.Legacy.Ex PyOak.Legacy.C18

example := rwith_field_found id (s := st base4) (u := 1) (p := 3) inv_base4 (by decide +kernel)
example := step_rwith_err_kind_partial id id (s := st base4) (u := 1) (new := some 4) (e := .replaceWithError)
  inv_base4 (step_of_outOf out_rwith1)
example := rwith_not_internal id (s := st base4) (u := 1) (new := some 4) (e := .replaceWithError) inv_base4
  ((step_raised id id (step_of_outOf out_rwith1)).resolve_left fun h => by cases h.2).2

end examples

#print axioms rwith_field_found
#print axioms rwith_err_kind_partial
#print axioms rwith_not_internal
#print axioms step_rwith_err_kind_partial

end PyOak.Legacy.C19
