/-
C07 on the entry points `ASTXpath.findall` / `match` / `find` themselves, and text → meaning composed (cf. AUDIT.md C07 §4):

 * `findall_iff_match`   — the property's FIRST sentence, on the entry points themselves:
                           for a tree without repeated objects and every node `n` of it,
                           `n ∈ findall(root)  ↔  match(root, n) = True`
                           (`xmatch` = `ASTXpath.match` including the `is_in_tree` test and the
                           error mapping; `findall` = `ASTXpath.findall`);
   `xmatch_total`        — for a node of the tree `match` never raises;
   `xmatch_foreign`      — for a node outside the tree it raises `ValueError`;
 * `findall_nodup_uid` / `findall_nodup_nodes` — "each once" stated on NODES (`findall_nodup`
                           is about position keys);
 * `xfind`, `xfind_first`, `xfind_none_iff`, `xfind_matches` — `find()` as a definition of its own
                           (first node `findall` yields, or `None`), and its link to `match`;
 * `matchElem_iff`       — the step test spelled out: instance of the class ∧ (field given ⇒ the
                           node hangs under an edge with that field) ∧ (index given ⇒ … with that
                           index); `matchElem_root` — the root (no edge) matches no field / index
                           constraint;
 * `sat_iff_segments`    — a DECLARATIVE reading of the specification `sat` (which is a Bool
                           recursion with a skip branch): the chain is cut into consecutive
                           non-empty segments, one per step; a step matches the LAST member of its
                           segment; a segment has more than one member only under `anywhere`
                           ('//' or a relative path: any number of intermediate levels);
   `sat_absolute_first`  — an absolute first step is aligned with the root itself;
 * `digitsVal_zero_padded` — a zero-padded numeral (`[012]`) denotes its decimal value;
 * `text_findall_iff_match`, `text_match_meaning` — text → meaning composed
                           (`C07P.parseXPath_render` + the above): for every written path, rendered
                           with any admissible white space, the parsed xpath's `findall` and
                           `match` agree, and `match` decides `sat` of the DENOTED path `elemsOf`.
-/
import PyOak.Props.C07Main
import PyOak.Props.C07Parse
import PyOak.Props.C06Total
namespace PyOak
namespace C07

/-! ## findall ↔ match -/

/-- `match(root, n)` of the entry point is `sat` along the chain of `n` -/
theorem xmatch_eq_sat (els : List XElem) (root : Node) (h : NoRepeat root) (c : Chain) (n : Node) (oe : Option Edge)
    (hc : IsChain root (c ++ [(n, oe)])) : xmatch els.reverse root n = .ok (sat (c ++ [(n, oe)]) els) := by
  have hin : (TreeT.build root).isInTree n = true :=
    (C06.isInTree_iff root n).2 ⟨n, chain_mem_allNodes root c n oe hc, rfl⟩
  simp [xmatch, hin, match_eq_sat root h c n oe els hc]

/-- `findall` yields exactly the nodes with a chain that satisfies the path -/
theorem mem_findall_iff (els : List XElem) (root : Node) (h : NoRepeat root) (n : Node) :
    n ∈ findall els root ↔ ∃ c oe, IsChain root (c ++ [(n, oe)]) ∧ sat (c ++ [(n, oe)]) els = true := by
  simp only [findall, List.mem_map]
  constructor
  · rintro ⟨p, hp, rfl⟩
    obtain ⟨_, hc, ⟨pre, rfl, _⟩, hs⟩ := findall_sound els root p hp
    exact ⟨pre, p.edge, hc, hs⟩
  · rintro ⟨c, oe, hc, hs⟩
    exact ⟨_, findall_complete_mem els root h _ ⟨n, c.getLast?.map (·.1), oe⟩ hc ⟨c, rfl, rfl⟩ hs, rfl⟩

/-- **`n ∈ findall(root) ↔ match(root, n)`** for every node `n` of a tree without repeated objects.
`els` is `_elements` (root side first); `match` consumes `_elements_reversed`. -/
theorem findall_iff_match (els : List XElem) (root : Node) (h : NoRepeat root) (n : Node)
    (hn : n ∈ allNodes root) :
    n ∈ findall els root ↔ xmatch els.reverse root n = .ok true := by
  rw [mem_findall_iff els root h]
  constructor
  · rintro ⟨c, oe, hc, hs⟩
    rw [xmatch_eq_sat els root h c n oe hc, hs]
  · intro hm
    obtain ⟨c, oe, hc⟩ := C06.exists_chain root n hn
    rw [xmatch_eq_sat els root h c n oe hc] at hm
    exact ⟨c, oe, hc, Except.ok.inj hm⟩

/-- for a node of the tree `match` returns a Boolean (no exception), namely `sat` of the node's chain -/
theorem xmatch_total (els : List XElem) (root : Node) (h : NoRepeat root) (n : Node)
    (hn : n ∈ allNodes root) :
    ∃ c oe, IsChain root (c ++ [(n, oe)]) ∧ xmatch els.reverse root n = .ok (sat (c ++ [(n, oe)]) els) := by
  obtain ⟨c, oe, hc⟩ := C06.exists_chain root n hn
  exact ⟨c, oe, hc, xmatch_eq_sat els root h c n oe hc⟩

/-- `match(root, n)` for an object that is not in the tree: `ValueError` -/
theorem xmatch_foreign (elsRev : List XElem) (root n : Node) (hn : ∀ m ∈ allNodes root, m.uid ≠ n.uid) :
    xmatch elsRev root n = .error .valueError := by
  simp [xmatch, C06.isInTree_foreign root n hn]

/-! ## "each once", on nodes -/

/-- the position of a found entry is determined by its node (table lookup) -/
private def posOf : Except TErr (Option PInfo) → Option Node × Option Edge
  | .ok (some pi) => (some pi.parent, some pi.edge)
  | _ => (none, none)

private theorem pos_det (root : Node) (h : NoRepeat root) (chain : Chain) (p : XPos)
    (hc : IsChain root chain) (hl : lastOf chain p) :
    (p.parent, p.edge) = posOf ((TreeT.build root).getParentInfo p.node) := by
  obtain ⟨pre, rfl, hpar⟩ := hl
  rcases C06.chain_inv root pre p.node p.edge hc with ⟨rfl, hr, he⟩ | ⟨c', par, pe, e, rfl, he, _, _⟩
  · rw [hr, C06.parentInfo_root]; simp [posOf, he, hpar]
  · rw [he] at hc
    rw [C06.parentInfo_chain root h c' par pe p.node e hc]
    simp [posOf, he, hpar]

private theorem nodup_of_map_aux {α β : Type} (f : α → β) (l : List α) (h : (l.map f).Nodup) : l.Nodup :=
  (List.pairwise_map.mp h).imp (fun hne e => hne (congrArg f e))

private theorem nodup_map_on_aux {α β : Type} (f : α → β) (l : List α)
    (hinj : ∀ a ∈ l, ∀ b ∈ l, f a = f b → a = b) (h : l.Nodup) : (l.map f).Nodup := by
  induction l with
  | nil => simp
  | cons a r ih =>
    simp only [List.map_cons, List.nodup_cons, List.mem_map, not_exists, not_and] at h ⊢
    refine ⟨fun b hb hfb => ?_, ih (fun x hx y hy => hinj x (by simp [hx]) y (by simp [hy])) h.2⟩
    have := hinj b (by simp [hb]) a (by simp) hfb
    subst this
    exact h.1 hb

/-- **each once, on node identities**: no object is yielded twice by `findall` -/
theorem findall_nodup_uid (els : List XElem) (root : Node) (h : NoRepeat root) :
    ((findall els root).map (·.uid)).Nodup := by
  have hk := findall_nodup els root
  have hnd : (findallPos els root).Nodup := nodup_of_map_aux _ _ hk
  simp only [findall, List.map_map]
  refine nodup_map_on_aux _ _ ?_ hnd
  intro p hp q hq hpq
  simp only [Function.comp] at hpq
  obtain ⟨cp, hcp, hlp, _⟩ := findall_sound els root p hp
  obtain ⟨cq, hcq, hlq, _⟩ := findall_sound els root q hq
  have hpn : p.node ∈ allNodes root := by
    obtain ⟨pre, rfl, _⟩ := hlp; exact chain_mem_allNodes _ _ _ _ hcp
  have hqn : q.node ∈ allNodes root := by
    obtain ⟨pre, rfl, _⟩ := hlq; exact chain_mem_allNodes _ _ _ _ hcq
  have hn : p.node = q.node := C06.uid_inj root h _ _ hpn hqn hpq
  have h1 := pos_det root h cp p hcp hlp
  have h2 := pos_det root h cq q hcq hlq
  rw [hn] at h1
  rw [← h2] at h1
  obtain ⟨a, b, c⟩ := p
  obtain ⟨a', b', c'⟩ := q
  simp at hn h1
  simp [hn, h1]

/-- **each once, on nodes**: the list `findall` yields has no repetition -/
theorem findall_nodup_nodes (els : List XElem) (root : Node) (h : NoRepeat root) :
    (findall els root).Nodup :=
  nodup_of_map_aux _ _ (findall_nodup_uid els root h)

/-- every node `findall` yields is a node of the tree -/
theorem findall_subset (els : List XElem) (root : Node) (n : Node) (hn : n ∈ findall els root) :
    n ∈ allNodes root := by
  simp only [findall, List.mem_map] at hn
  obtain ⟨p, hp, rfl⟩ := hn
  obtain ⟨c, hc, ⟨pre, rfl, _⟩, _⟩ := findall_sound els root p hp
  exact chain_mem_allNodes _ _ _ _ hc

/-- **the first sentence of C07 in one statement**: `findall(root)` is a repetition-free list whose
members are exactly the nodes `n` of the tree with `match(root, n) = True` -/
theorem findall_exactly_matches (els : List XElem) (root : Node) (h : NoRepeat root) :
    (findall els root).Nodup ∧
      ∀ n, n ∈ findall els root ↔ (n ∈ allNodes root ∧ xmatch els.reverse root n = .ok true) := by
  refine ⟨findall_nodup_nodes els root h, fun n => ⟨fun hn => ?_, fun ⟨hn, hm⟩ => ?_⟩⟩
  · have hmem := findall_subset els root n hn
    exact ⟨hmem, (findall_iff_match els root h n hmem).1 hn⟩
  · exact (findall_iff_match els root h n hn).2 hm

/-! ## find -/

/-- `ASTXpath.find(root)` / `node.find(xpath)`: `next(findall(root), None)`.
(Model/XPath.lean has no `find`; the protocol handler computes exactly this head.) -/
def xfind (els : List XElem) (root : Node) : Option Node := (findall els root).head?

/-- `find()` returns the first node `findall` yields, or `None` -/
theorem xfind_first (els : List XElem) (root : Node) :
    xfind els root = (match findall els root with | [] => none | n :: _ => some n) := by
  unfold xfind
  cases findall els root <;> rfl

/-- `find()` is `None` exactly when no node of the tree matches -/
theorem xfind_none_iff (els : List XElem) (root : Node) (h : NoRepeat root) :
    xfind els root = none ↔ ∀ n ∈ allNodes root, xmatch els.reverse root n ≠ .ok true := by
  unfold xfind
  rw [List.head?_eq_none_iff]
  constructor
  · intro he n hn hm
    have := (findall_iff_match els root h n hn).2 hm
    rw [he] at this
    cases this
  · intro hall
    cases hf : findall els root with
    | nil => rfl
    | cons n r =>
      have hn : n ∈ findall els root := by rw [hf]; simp
      have hmem := findall_subset els root n hn
      exact absurd ((findall_iff_match els root h n hmem).1 hn) (hall n hmem)

/-- the node `find()` returns is a node of the tree that `match` accepts -/
theorem xfind_matches (els : List XElem) (root : Node) (h : NoRepeat root) (n : Node)
    (hf : xfind els root = some n) : n ∈ allNodes root ∧ xmatch els.reverse root n = .ok true := by
  have hn : n ∈ findall els root := List.mem_of_head? hf
  have hmem := findall_subset els root n hn
  exact ⟨hmem, (findall_iff_match els root h n hmem).1 hn⟩

/-! ## the step test, spelled out -/

/-- **a step matches a node** iff the node is an instance of the named class (`ASTNode` — every
node — when the class is omitted, see `elemOf`), it is stored in the named field when one is given,
and at the given tuple index when one is given -/
theorem matchElem_iff (n : Node) (oe : Option Edge) (el : XElem) :
    matchElem n oe el = true ↔
      n.isInst el.cls = true
        ∧ (∀ f, el.field = some f → ∃ e, oe = some e ∧ e.field = f)
        ∧ (∀ i, el.idx = some i → ∃ e, oe = some e ∧ e.idx = some i) := by
  obtain ⟨cls, fld, idx, aw⟩ := el
  simp only [matchElem, Bool.and_eq_true]
  constructor
  · rintro ⟨⟨hc, hf⟩, hi⟩
    refine ⟨hc, ?_, ?_⟩
    · intro f hfe
      cases hfe
      cases oe with
      | none => simp at hf
      | some e => exact ⟨e, rfl, (by simpa using hf : f = e.field).symm⟩
    · intro i hie
      cases hie
      cases oe with
      | none => simp at hi
      | some e => exact ⟨e, rfl, by simpa using hi⟩
  · rintro ⟨hc, hf, hi⟩
    refine ⟨⟨hc, ?_⟩, ?_⟩
    · cases fld with
      | none => rfl
      | some f =>
        obtain ⟨e, rfl, he⟩ := hf f rfl
        simp [he]
    · cases idx with
      | none => rfl
      | some i =>
        obtain ⟨e, rfl, he⟩ := hi i rfl
        simp [he]

/-- **the root matches no field or index constraint** -/
theorem matchElem_root (n : Node) (el : XElem) :
    matchElem n none el = true ↔ n.isInst el.cls = true ∧ el.field = none ∧ el.idx = none := by
  rw [matchElem_iff]
  constructor
  · rintro ⟨hc, hf, hi⟩
    refine ⟨hc, ?_, ?_⟩
    · cases hfe : el.field with
      | none => rfl
      | some f => obtain ⟨e, he, _⟩ := hf f hfe; cases he
    · cases hie : el.idx with
      | none => rfl
      | some i => obtain ⟨e, he, _⟩ := hi i hie; cases he
  · rintro ⟨hc, hf, hi⟩
    refine ⟨hc, fun f hfe => ?_, fun i hie => ?_⟩
    · rw [hf] at hfe; cases hfe
    · rw [hi] at hie; cases hie

/-! ## declarative reading of `sat` -/

/-- a segment of the chain serves a step: the step matches the segment's LAST member, and the
segment has further (skipped) members above it only when the step is `anywhere` -/
def SegOK (seg : Chain) (el : XElem) : Prop :=
  ∃ pre x, seg = pre ++ [x] ∧ matchElem x.1 x.2 el = true ∧ (el.anywhere = false → pre = [])

/-- one segment per step, in order -/
inductive Segs : List Chain → List XElem → Prop
  | nil : Segs [] []
  | cons {s : Chain} {el : XElem} {ss : List Chain} {els : List XElem} :
      SegOK s el → Segs ss els → Segs (s :: ss) (el :: els)

/-- a chain that satisfies the steps splits into their segments (`satE`: no steps, no chain) -/
theorem segments_of_satE (chain : Chain) : ∀ els, satE chain els = true → ∃ segs, chain = segs.flatten ∧ Segs segs els := by
  induction chain with
  | nil =>
    intro els h
    obtain rfl : els = [] := List.isEmpty_iff.mp (satE_nil_left els ▸ h)
    exact ⟨[], rfl, .nil⟩
  | cons x c ih =>
    intro els h
    cases els with
    | nil => cases h
    | cons el rest =>
      rw [satE_cons_right, sat_cons, Bool.or_eq_true, Bool.and_eq_true, Bool.and_eq_true] at h
      rcases h with ⟨hm, h⟩ | ⟨ha, h⟩
      · -- `x` is a segment of its own
        obtain ⟨segs, rfl, hs⟩ := ih rest h
        exact ⟨[x] :: segs, rfl, .cons ⟨[], x, rfl, hm, fun _ => rfl⟩ hs⟩
      · -- `x` is skipped: it joins the first segment of the rest
        obtain ⟨_, rfl, hs⟩ := ih (el :: rest) h
        cases hs with
        | cons h0 hs =>
          obtain ⟨pre, y, rfl, hmy, _⟩ := h0
          exact ⟨(x :: pre ++ [y]) :: _, rfl, .cons ⟨x :: pre, y, rfl, hmy, fun hf => by rw [hf] at ha; cases ha⟩ hs⟩

theorem sat_segment_append (pre : Chain) (y : Node × Option Edge) (c : Chain) (el : XElem) (rest : List XElem)
    (hm : matchElem y.1 y.2 el = true) (hpre : el.anywhere = false → pre = []) (h : satE c rest = true) :
    sat (pre ++ y :: c) (el :: rest) = true := by
  induction pre with
  | nil => rw [List.nil_append, sat_cons, hm, h]; rfl
  | cons x pre ih =>
    have ha : el.anywhere = true := by
      cases ha : el.anywhere
      · cases hpre ha
      · rfl
    rw [List.cons_append, sat_cons, ha, ih (fun hf => by rw [hf] at ha; cases ha), Bool.and_self, Bool.or_true]

theorem satE_of_segments {segs : List Chain} {els : List XElem} (h : Segs segs els) : satE segs.flatten els = true := by
  induction h with
  | nil => rfl
  | cons h0 _ ih =>
    obtain ⟨pre, y, rfl, hm, hpre⟩ := h0
    rw [List.flatten_cons, List.append_assoc, List.singleton_append, satE_cons_right]
    exact sat_segment_append pre y _ _ _ hm hpre ih

/-- **declarative reading of the documented semantics**: `sat chain els` holds iff the root-first
chain of the node splits into consecutive non-empty segments, one per step ("steps separated by
'/'"); each step matches the last member of its segment; a segment contains skipped levels only when
its step is `anywhere` ("'//' (or a path not starting with '/') allowing any number of intermediate
levels"); the last step's segment ends at the node asked about (the chain's last member) and the
first segment starts at the root (the chain's first member). -/
theorem sat_iff_segments (chain : Chain) (els : List XElem) :
    sat chain els = true ↔ els ≠ [] ∧ ∃ segs, chain = segs.flatten ∧ Segs segs els := by
  constructor
  · intro h
    have hne := (sat_ne_nil h).2
    exact ⟨hne, segments_of_satE chain els (by rw [satE_of_ne hne]; exact h)⟩
  · rintro ⟨hne, segs, rfl, hf⟩
    rw [← satE_of_ne hne]
    exact satE_of_segments hf

/-- **an absolute first step matches only the root**: when the first step is not `anywhere`, it is
the chain's first member (the root, which hangs under no edge) that it must match -/
theorem sat_absolute_first (x : Node × Option Edge) (c : Chain) (el : XElem) (rest : List XElem)
    (ha : el.anywhere = false) (h : sat (x :: c) (el :: rest) = true) : matchElem x.1 x.2 el = true := by
  rw [sat_cons, ha, Bool.false_and, Bool.or_false, Bool.and_eq_true] at h
  exact h.1

/-! ## text → meaning, composed -/

open C07P in
/-- **from the text to the agreement of search and match**: every written path (absolute text,
arbitrary admissible white space after the tokens) is accepted, and for the xpath object so obtained
`findall` and `match` agree on every node of a tree without repeated objects -/
theorem text_findall_iff_match (known : Str → Bool) (path : List Step) (hp : PathOK known path)
    (ws : Nat → Str) (hs : SepOK (renderToks path) ws) (root : Node) (h : NoRepeat root) (n : Node)
    (hn : n ∈ allNodes root) :
    ∃ elsRev, parseXPath known (renderChars (renderToks path) ws) = some elsRev
      ∧ (n ∈ findall elsRev.reverse root ↔ xmatch elsRev root n = .ok true) := by
  refine ⟨_, parseXPath_render known path hp ws hs, ?_⟩
  rw [List.reverse_reverse]
  exact findall_iff_match (elemsOf path) root h n hn

open C07P in
/-- **from the text to the documented meaning**: `match(root, n)` of the parsed text decides `sat`
of the DENOTED path `elemsOf path` (class omitted = `ASTNode`, `[]` = no index, all decimal digits
significant, `//` = anywhere) along the chain of `n`; and `findall` finds exactly the nodes whose
chain satisfies it -/
theorem text_match_meaning (known : Str → Bool) (path : List Step) (hp : PathOK known path)
    (ws : Nat → Str) (hs : SepOK (renderToks path) ws) (root : Node) (h : NoRepeat root) :
    ∃ elsRev, parseXPath known (renderChars (renderToks path) ws) = some elsRev
      ∧ (∀ c n oe, IsChain root (c ++ [(n, oe)]) →
          xmatch elsRev root n = .ok (sat (c ++ [(n, oe)]) (elemsOf path)))
      ∧ (∀ n, n ∈ findall elsRev.reverse root ↔
          ∃ c oe, IsChain root (c ++ [(n, oe)]) ∧ sat (c ++ [(n, oe)]) (elemsOf path) = true) := by
  refine ⟨_, parseXPath_render known path hp ws hs, fun c n oe hc => xmatch_eq_sat _ root h c n oe hc, fun n => ?_⟩
  rw [List.reverse_reverse]
  exact mem_findall_iff _ root h n

/-! ## zero-padded indices -/

/-- **all digits significant, also after leading zeros**: the numeral `0…0<decimal of n>` (as in `[012]`)
denotes `n` — not its first digit, not an octal number -/
theorem digitsVal_zero_padded (k n : Nat) : digitsVal (List.replicate k '0' ++ natStr n) = n := by
  induction k with
  | zero => simpa using C07P.digits_significant n
  | succ k ih => rw [List.replicate_succ, List.cons_append, C20.digitsVal_zero_cons, ih]

/-! ## non-vacuity: a concrete tree; `//M/L`, `/R//L` -/
section Examples
private def leaf (u : Nat) : Node :=
  .mk { uid := u, cls := ['L'], mro := [['L']], org := ⟨0, []⟩, props := [], truthy := true } []
private def mid : Node :=
  .mk { uid := 2, cls := ['M'], mro := [['M']], org := ⟨0, []⟩, props := [], truthy := false }
    [.mk ['x'] false [leaf 3]]
private def tree : Node :=
  .mk { uid := 0, cls := ['R'], mro := [['R']], org := ⟨0, []⟩, props := [], truthy := true }
    [.mk ['a'] true [leaf 1, mid], .mk ['b'] false [leaf 4]]
/-- `//M/L` -/
private def pML : List XElem := [⟨['M'], none, none, true⟩, ⟨['L'], none, none, false⟩]
/-- `/R//L` -/
private def pRL : List XElem := [⟨['R'], none, none, false⟩, ⟨['L'], none, none, true⟩]
private def chain3 : Chain := [(tree, none), (mid, some ⟨['a'], some 1⟩), (leaf 3, some ⟨['x'], none⟩)]

private def okTrue : Except MErr Bool → Bool
  | .ok true => true
  | _ => false
private def isValueError : Except MErr Bool → Bool
  | .error .valueError => true
  | _ => false

private theorem tree_noRepeat : NoRepeat tree := by unfold NoRepeat; decide
private theorem okTrue_eq {r : Except MErr Bool} (h : okTrue r = true) : r = .ok true := by
  cases r with
  | error e => cases h
  | ok b => cases b <;> first | rfl | cases h
private theorem leaf3_mem : leaf 3 ∈ allNodes tree := by
  have : allNodes tree = [tree, leaf 1, mid, leaf 3, leaf 4] := by rfl
  rw [this]; simp
-- both sides of `findall_iff_match` are true for leaf 3 and `//M/L`, false for leaf 1
example : (findall pML tree).map (·.uid) = [3] := by decide
example : okTrue (xmatch pML.reverse tree (leaf 3)) = true := by decide
example : okTrue (xmatch pML.reverse tree (leaf 1)) = false := by decide
example : leaf 3 ∈ findall pML tree := (findall_iff_match pML tree tree_noRepeat (leaf 3) leaf3_mem).2 (okTrue_eq (by decide))
-- a foreign object: ValueError
example : isValueError (xmatch pML.reverse tree (leaf 9)) = true := by decide
-- find
example : (xfind pRL tree).map (·.uid) = some 1 := by decide
example : (xfind [⟨['Q'], none, none, true⟩] tree).map (·.uid) = none := by decide
-- `Segs` : `//M/L` against the chain of leaf 3 — segments `[root, mid]` (root skipped) and `[leaf 3]`
example : Segs [[(tree, none), (mid, some ⟨['a'], some 1⟩)], [(leaf 3, some ⟨['x'], none⟩)]] pML :=
  .cons ⟨[(tree, none)], (mid, some ⟨['a'], some 1⟩), rfl, by decide, by decide⟩
    (.cons ⟨[], (leaf 3, some ⟨['x'], none⟩), rfl, by decide, fun _ => rfl⟩ .nil)
example : sat chain3 pML = true := by decide
-- a zero-padded index: `/R/@a[01]M` selects element 1
example : parseXPath (fun _ => true) ['/', 'R', '/', '@', 'a', '[', '0', '1', ']', 'M'] =
    some [⟨['M'], some ['a'], some 1, false⟩, ⟨['R'], none, none, false⟩] := by decide +kernel
example : (findall [⟨['R'], none, none, false⟩, ⟨['M'], some ['a'], some 1, false⟩] tree).map (·.uid) = [2] := by decide
-- the root matches no field / index constraint
example : matchElem tree none ⟨['R'], some ['a'], none, false⟩ = false := by decide
example : matchElem tree none ⟨['R'], none, none, false⟩ = true := by decide
end Examples

end C07
end PyOak
