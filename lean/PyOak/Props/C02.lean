/-
C02 — `==` is content equality plus origin equality at every position.

`eqImpl H a b` (Model/Equality.lean) is the model of `_eq_fn`; `NodeEq` (Spec/NodeEq.lean) the
specification.  For an injective digest without `':'`, well-formed trees that conform to a class
table (`Conforms sig`):
    eq_total        the strict zip of the two dfs streams never raises
    eq_iff          eqImpl H a b = .ok true ↔ NodeEq a b
    eq_refl / eq_symm / eq_trans, ne_eq_not, eq_other_class
and, for every digest, `eq_comm`, `eq_symm_any`, `eq_trans_any` (all trees) and `eq_of_nodeEq`.

Architecture: `allKeys n` is the pre-order list of origin keys of `n` and its descendants;
`zipOrigins` on two streams of equal length decides equality of their key lists
(`zipOrigins_eq`).  ContentEq + Conforms align the two trees positionwise (`aligned`): same
child fields in the same order, same number of children per field, children pairwise ContentEq.
On aligned trees the key streams have the same length, and they are equal iff `originsAgree`
(`keys_agree`, induction over the tree).
-/
import PyOak.Props.C01
import PyOak.Props.C05Extra
import PyOak.Model.Equality
import PyOak.Spec.NodeEq
namespace PyOak
namespace C02
open C01

def All2 {α β : Type} (R : α → β → Prop) : List α → List β → Prop
  | [], [] => True
  | x :: xs, y :: ys => R x y ∧ All2 R xs ys
  | [], _ :: _ => False
  | _ :: _, [] => False

theorem All2.imp_mem {α β : Type} {R S : α → β → Prop} {xs : List α} {ys : List β}
    (h : All2 R xs ys) (hi : ∀ x ∈ xs, ∀ y ∈ ys, R x y → S x y) : All2 S xs ys := by
  induction xs generalizing ys with
  | nil => cases ys with
    | nil => trivial
    | cons => exact h.elim
  | cons x xs ih => cases ys with
    | nil => exact h.elim
    | cons y ys =>
      exact ⟨hi x (by simp) y (by simp) h.1,
        ih h.2 (fun a ha b hb => hi a (by simp [ha]) b (by simp [hb]))⟩

theorem All2.of_map_eq {α β γ : Type} (f : α → γ) (g : β → γ) {xs : List α} {ys : List β}
    (h : xs.map f = ys.map g) : All2 (fun x y => f x = g y) xs ys := by
  induction xs generalizing ys with
  | nil => cases ys with
    | nil => trivial
    | cons => cases h
  | cons x xs ih => cases ys with
    | nil => cases h
    | cons y ys => exact ⟨(List.cons.inj h).1, ih (List.cons.inj h).2⟩

theorem All2.getElem? {α β : Type} {R : α → β → Prop} {xs : List α} {ys : List β} {i : Nat} {x : α}
    {y : β} (h : All2 R xs ys) (hx : xs[i]? = some x) (hy : ys[i]? = some y) : R x y := by
  induction xs generalizing ys i with
  | nil => cases hx
  | cons a xs ih => cases ys with
    | nil => cases hy
    | cons b ys => cases i with
      | zero => cases hx; cases hy; exact h.1
      | succ j => exact ih h.2 hx hy

/-- on related lists whose related elements produce blocks of equal length, the concatenations
have equal length, and are equal iff the blocks are pairwise equal -/
theorem All2.flat {α β γ : Type} {R Q : α → β → Prop} {f : α → List γ} {g : β → List γ}
    {xs : List α} {ys : List β} (h : All2 R xs ys)
    (hi : ∀ x ∈ xs, ∀ y ∈ ys, R x y → (f x).length = (g y).length ∧ (Q x y ↔ f x = g y)) :
    (xs.flatMap f).length = (ys.flatMap g).length ∧ (All2 Q xs ys ↔ xs.flatMap f = ys.flatMap g) := by
  induction xs generalizing ys with
  | nil => cases ys with
    | nil => exact ⟨rfl, iff_of_true trivial rfl⟩
    | cons => exact h.elim
  | cons x xs ih => cases ys with
    | nil => exact h.elim
    | cons y ys =>
      obtain ⟨h1, h2⟩ := hi x (by simp) y (by simp) h.1
      obtain ⟨h3, h4⟩ := ih h.2 (fun a ha b hb => hi a (by simp [ha]) b (by simp [hb]))
      simp only [List.flatMap_cons, List.length_append, All2]
      refine ⟨by omega, ?_⟩
      rw [h2, h4]
      exact ⟨fun ⟨e1, e2⟩ => by rw [e1, e2], fun e => List.append_inj e h1⟩

/-- origin keys of the proper descendants, in `dfs()` order -/
def descKeys (n : Node) : List Nat := (C05X.desc n).map (·.node.org.key)
/-- origin keys of the node and its descendants, pre-order -/
def allKeys (n : Node) : List Nat := n.org.key :: descKeys n

theorem items_nodes (h : Head) (ks : List Kid) :
    (Node.mk h ks).items.map (·.node) = ks.flatMap (·.nodes) := by
  simp only [Node.items, Node.edges, Node.kids, List.map_map, Function.comp_def, List.map_flatMap]
  exact Framing.flatMap_congr' fun k _ => C05.kid_edges_nodes k

theorem descKeys_mk (h : Head) (ks : List Kid) :
    descKeys (.mk h ks) = ks.flatMap fun k => k.nodes.flatMap allKeys := by
  have e : ∀ it : Item, (it :: C05X.desc it.node).map (·.node.org.key) = allKeys it.node :=
    fun _ => rfl
  rw [descKeys, C05X.desc_eq, List.map_flatMap]
  simp only [e, ← List.flatMap_assoc, ← items_nodes h ks, List.flatMap_map]

theorem zipOrigins_eq (xs ys : List Item) (h : xs.length = ys.length) :
    zipOrigins xs ys = .ok (decide (xs.map (·.node.org.key) = ys.map (·.node.org.key))) := by
  induction xs generalizing ys with
  | nil => cases ys with
    | nil => rfl
    | cons => cases h
  | cons x xs ih => cases ys with
    | nil => cases h
    | cons y ys =>
      simp only [List.length_cons, Nat.add_right_cancel_iff] at h
      simp only [zipOrigins, ih ys h, List.map_cons, List.cons.injEq]
      by_cases e : x.node.org.key = y.node.org.key <;> simp [e]

theorem zipOrigins_true_iff (xs ys : List Item) :
    zipOrigins xs ys = .ok true ↔ xs.map (·.node.org.key) = ys.map (·.node.org.key) := by
  induction xs generalizing ys with
  | nil => cases ys <;> simp [zipOrigins]
  | cons x xs ih => cases ys with
    | nil => simp [zipOrigins]
    | cons y ys =>
      simp only [zipOrigins, List.map_cons, List.cons.injEq, ← ih ys]
      by_cases e : x.node.org.key = y.node.org.key <;> simp [e]

theorem zipOrigins_self (xs : List Item) : zipOrigins xs xs = .ok true :=
  (zipOrigins_true_iff xs xs).mpr rfl

def AgreeNs (ns ns' : List Node) : Prop := All2 (fun x y => originsAgree x y = true) ns ns'

theorem originsAgree_mk (h h' : Head) (ks ks' : List Kid) :
    originsAgree (.mk h ks) (.mk h' ks') = (h.org.key == h'.org.key && agreeKs ks ks') := by
  simp only [originsAgree]

theorem agreeNs_iff (ns ns' : List Node) : agreeNs ns ns' = true ↔ AgreeNs ns ns' := by
  induction ns generalizing ns' with
  | nil => cases ns' <;> simp [agreeNs, AgreeNs, All2]
  | cons n r ih => cases ns' with
    | nil => simp [agreeNs, AgreeNs, All2]
    | cons n' r' =>
      simp only [agreeNs, AgreeNs, All2, Bool.and_eq_true]
      rw [ih r']; rfl

theorem agreeKs_iff (ks ks' : List Kid) :
    agreeKs ks ks' = true ↔ All2 (fun k k' => AgreeNs k.nodes k'.nodes) ks ks' := by
  induction ks generalizing ks' with
  | nil => cases ks' <;> simp [agreeKs, All2]
  | cons k r ih => cases ks' with
    | nil => simp [agreeKs, All2]
    | cons k' r' =>
      cases k; cases k'
      simp only [agreeKs, agreeK, All2, Bool.and_eq_true]
      rw [ih r', agreeNs_iff]
      exact Iff.rfl

theorem ConformsNs_iff (sig : Str → List (Str × Bool)) (ns : List Node) :
    ConformsNs sig ns ↔ ∀ n ∈ ns, Conforms sig n := by
  induction ns with
  | nil => simp [ConformsNs]
  | cons n r ih => simp [ConformsNs, ih]

theorem ConformsKs_iff (sig : Str → List (Str × Bool)) (ks : List Kid) :
    ConformsKs sig ks ↔ ∀ k ∈ ks, ∀ n ∈ k.nodes, Conforms sig n := by
  induction ks with
  | nil => simp [ConformsKs]
  | cons k r ih => cases k; simp [ConformsKs, ConformsK, ih, ConformsNs_iff, Kid.nodes]

theorem Conforms_iff (sig : Str → List (Str × Bool)) (h : Head) (ks : List Kid) :
    Conforms sig (.mk h ks) ↔ ks.map (fun k => (k.name, k.coll)) = sig h.cls ∧
      ∀ k ∈ ks, ∀ n ∈ k.nodes, Conforms sig n := by
  simp only [Conforms, ConformsKs_iff]

mutual
def decConforms (sig : Str → List (Str × Bool)) : (n : Node) → Decidable (Conforms sig n)
  | .mk _ ks =>
    have := decConformsKs sig ks
    inferInstanceAs (Decidable (_ ∧ ConformsKs sig ks))
def decConformsKs (sig : Str → List (Str × Bool)) : (ks : List Kid) → Decidable (ConformsKs sig ks)
  | [] => isTrue trivial
  | k :: r =>
    have := decConformsK sig k
    have := decConformsKs sig r
    inferInstanceAs (Decidable (ConformsK sig k ∧ ConformsKs sig r))
def decConformsK (sig : Str → List (Str × Bool)) : (k : Kid) → Decidable (ConformsK sig k)
  | .mk _ _ ns => decConformsNs sig ns
def decConformsNs (sig : Str → List (Str × Bool)) : (ns : List Node) → Decidable (ConformsNs sig ns)
  | [] => isTrue trivial
  | n :: r =>
    have := decConforms sig n
    have := decConformsNs sig r
    inferInstanceAs (Decidable (Conforms sig n ∧ ConformsNs sig r))
end

instance (sig : Str → List (Str × Bool)) (n : Node) : Decidable (Conforms sig n) := decConforms sig n

theorem Conforms_child {sig : Str → List (Str × Bool)} {h : Head} {ks : List Kid} {k : Kid}
    {x : Node} (c : Conforms sig (.mk h ks)) (hk : k ∈ ks) (hx : x ∈ k.nodes) : Conforms sig x :=
  ((Conforms_iff sig h ks).mp c).2 k hk x hx

theorem canon_lookup {ks ks' : List Kid} (hnd' : (ks'.map Kid.name).Nodup)
    (hc : kidsBy canonN ks = kidsBy canonN ks') {k k' : Kid}
    (hk : k ∈ ks) (hk' : k' ∈ ks') (hn : k.name = k'.name) (hne : k.nodes ≠ []) :
    k.nodes.map canonN = k'.nodes.map canonN := by
  have h1 : (k.name, k.nodes.map canonN) ∈ kidsBy canonN ks :=
    List.mem_map.mpr ⟨k, mem_liveKids.mpr ⟨hk, hne⟩, rfl⟩
  rw [hc] at h1
  obtain ⟨k'', hk'', e⟩ := List.mem_map.mp h1
  obtain ⟨e1, e2⟩ := Prod.mk.inj e
  have : k'' = k' := Framing.eq_of_nodup_map Kid.name ks' hnd' k'' (mem_liveKids.mp hk'').1
    k' hk' (e1.trans hn)
  rw [← this, e2]

theorem kid_canon_eq {ks ks' : List Kid} (hnd : (ks.map Kid.name).Nodup)
    (hnd' : (ks'.map Kid.name).Nodup) (hc : kidsBy canonN ks = kidsBy canonN ks') {k k' : Kid}
    (hk : k ∈ ks) (hk' : k' ∈ ks') (hn : k.name = k'.name) :
    k.nodes.map canonN = k'.nodes.map canonN := by
  by_cases h1 : k.nodes = []
  · by_cases h2 : k'.nodes = []
    · rw [h1, h2]
    · exact (canon_lookup hnd hc.symm hk' hk hn.symm h2).symm
  · exact canon_lookup hnd' hc hk hk' hn h1

/-- key step: same child fields in the same order, same number of children per field,
children pairwise content-equal -/
theorem aligned_names (sig : Str → List (Str × Bool)) (h h' : Head) (ks ks' : List Kid)
    (ha : WFN (.mk h ks)) (hb : WFN (.mk h' ks'))
    (ca : Conforms sig (.mk h ks)) (cb : Conforms sig (.mk h' ks'))
    (hc : ContentEq (.mk h ks) (.mk h' ks')) :
    All2 (fun k k' => k.name = k'.name ∧ All2 ContentEq k.nodes k'.nodes) ks ks' := by
  rw [ContentEq, canonN_eq, canonN_eq] at hc
  obtain ⟨hcls, -, hkids⟩ := Canon.mk.inj hc
  obtain ⟨-, -, -, -, hnd⟩ := (WFN_iff h ks).mp ha
  obtain ⟨-, -, -, -, hnd'⟩ := (WFN_iff h' ks').mp hb
  have e : ks.map (fun k => (k.name, k.coll)) = ks'.map (fun k => (k.name, k.coll)) := by
    rw [((Conforms_iff sig h ks).mp ca).1, ((Conforms_iff sig h' ks').mp cb).1, hcls]
  refine All2.imp_mem (All2.of_map_eq _ _ e) fun k hk k' hk' hn => ?_
  have hn := (Prod.mk.inj hn).1
  exact ⟨hn, All2.of_map_eq canonN canonN (kid_canon_eq hnd hnd' hkids hk hk' hn)⟩

theorem aligned (sig : Str → List (Str × Bool)) (h h' : Head) (ks ks' : List Kid)
    (ha : WFN (.mk h ks)) (hb : WFN (.mk h' ks'))
    (ca : Conforms sig (.mk h ks)) (cb : Conforms sig (.mk h' ks'))
    (hc : ContentEq (.mk h ks) (.mk h' ks')) :
    All2 (fun k k' => All2 ContentEq k.nodes k'.nodes) ks ks' :=
  (aligned_names sig h h' ks ks' ha hb ca cb hc).imp_mem fun _ _ _ _ h => h.2

/-- on content-equal conforming trees the key streams have the same length, and they are equal
exactly when the origins agree positionwise -/
theorem keys_agree (sig : Str → List (Str × Bool)) (a : Node) :
    ∀ b, WFN a → WFN b → Conforms sig a → Conforms sig b → ContentEq a b →
      (allKeys a).length = (allKeys b).length ∧ (originsAgree a b = true ↔ allKeys a = allKeys b) := by
  induction a using induct_kids with
  | step h ks ih =>
    rintro ⟨h', ks'⟩ ha hb ca cb hc
    obtain ⟨h1, h2⟩ := All2.flat (Q := fun k k' => AgreeNs k.nodes k'.nodes)
      (f := fun k => k.nodes.flatMap allKeys) (g := fun k => k.nodes.flatMap allKeys)
      (aligned sig h h' ks ks' ha hb ca cb hc)
      (fun k hk k' hk' hkk => All2.flat hkk fun x hx y hy hxy =>
        ih k hk x hx y (WFN_child ha hk hx) (WFN_child hb hk' hy) (Conforms_child ca hk hx)
          (Conforms_child cb hk' hy) hxy)
    simp only [allKeys, descKeys_mk, List.length_cons, originsAgree_mk, Bool.and_eq_true,
      beq_iff_eq, agreeKs_iff, List.cons.injEq, Node.org, Node.hd]
    exact ⟨by omega, by rw [h2]⟩

theorem eqImpl_eq (H : Str → Str) (a b : Node) :
    eqImpl H a b =
      if a.cls = b.cls ∧ cid H a = cid H b ∧ a.org.key = b.org.key
      then zipOrigins (C05X.desc a) (C05X.desc b) else .ok false := by
  simp only [eqImpl, eqCore, C05.dfs_top_down, beq_iff_eq, Bool.and_eq_true]
  by_cases h1 : a.cls = b.cls
  · rw [if_pos h1]; simp only [h1, true_and]; rfl
  · rw [if_neg h1, if_neg (fun h => h1 h.1)]

theorem cid_eq_of_eqImpl {H : Str → Str} {a b : Node} (h : eqImpl H a b = .ok true) :
    cid H a = cid H b := by
  rw [eqImpl_eq] at h
  split at h
  · exact (‹_ ∧ _ ∧ _›).2.1
  · cases h

theorem zipOrigins_comm (xs ys : List Item) : zipOrigins xs ys = zipOrigins ys xs := by
  induction xs generalizing ys with
  | nil => cases ys <;> rfl
  | cons x xs ih => cases ys with
    | nil => rfl
    | cons y ys =>
      simp only [zipOrigins, bne, ih ys, BEq.comm (a := y.node.org.key)]

theorem zipOrigins_trans (xs ys zs : List Item) (h1 : zipOrigins xs ys = .ok true)
    (h2 : zipOrigins ys zs = .ok true) : zipOrigins xs zs = .ok true :=
  (zipOrigins_true_iff xs zs).mpr
    (((zipOrigins_true_iff xs ys).mp h1).trans ((zipOrigins_true_iff ys zs).mp h2))

/-- `a == b` and `b == a` have the same outcome (True, False, or the ValueError of the strict
zip) — for every digest and all trees -/
theorem eq_comm (H : Str → Str) (a b : Node) : eqImpl H a b = eqImpl H b a := by
  have hc : (a.cls = b.cls ∧ cid H a = cid H b ∧ a.org.key = b.org.key) ↔
      (b.cls = a.cls ∧ cid H b = cid H a ∧ b.org.key = a.org.key) :=
    ⟨fun h => ⟨h.1.symm, h.2.1.symm, h.2.2.symm⟩, fun h => ⟨h.1.symm, h.2.1.symm, h.2.2.symm⟩⟩
  rw [eqImpl_eq, eqImpl_eq, zipOrigins_comm]
  simp only [hc]

theorem eq_symm_any (H : Str → Str) (a b : Node) (h : eqImpl H a b = .ok true) :
    eqImpl H b a = .ok true := by rw [eq_comm]; exact h

theorem eq_trans_any (H : Str → Str) (a b c : Node) (h1 : eqImpl H a b = .ok true)
    (h2 : eqImpl H b c = .ok true) : eqImpl H a c = .ok true := by
  rw [eqImpl_eq] at h1 h2 ⊢
  split at h1
  · rename_i g1
    split at h2
    · rename_i g2
      rw [if_pos ⟨g1.1.trans g2.1, g1.2.1.trans g2.2.1, g1.2.2.trans g2.2.2⟩]
      exact zipOrigins_trans _ _ _ h1 h2
    · simp at h2
  · simp at h1

theorem zip_of_contentEq (sig : Str → List (Str × Bool)) (a b : Node) (ha : WFN a) (hb : WFN b)
    (ca : Conforms sig a) (cb : Conforms sig b) (hc : ContentEq a b) :
    zipOrigins (C05X.desc a) (C05X.desc b) = .ok (decide (descKeys a = descKeys b)) ∧
    (originsAgree a b = true ↔ a.org.key = b.org.key ∧ descKeys a = descKeys b) := by
  obtain ⟨h1, h2⟩ := keys_agree sig a b ha hb ca cb hc
  simp only [allKeys, List.length_cons, Nat.add_right_cancel_iff, List.cons.injEq] at h1 h2
  exact ⟨zipOrigins_eq _ _ (by simpa [descKeys] using h1), h2⟩

/-- sound direction of `eq_iff` for an ARBITRARY digest: same content and `==` origins at every
position make `==` answer True (collisions can only add equalities) -/
theorem eq_of_nodeEq (H : Str → Str) (sig : Str → List (Str × Bool)) (a b : Node)
    (ha : WFN a) (hb : WFN b) (ca : Conforms sig a) (cb : Conforms sig b) (h : NodeEq a b) :
    eqImpl H a b = .ok true := by
  obtain ⟨hc, ho⟩ := h
  obtain ⟨h1, h2⟩ := zip_of_contentEq sig a b ha hb ca cb hc
  have h3 := h2.mp ho
  rw [eqImpl_eq, if_pos ⟨contentEq_cls hc, cid_of_canon H a b ha hb hc, h3.1⟩, h1]
  simp [h3.2]

section Main
variable (H : Str → Str) (hinj : Function.Injective H) (hsep : ∀ s, ∀ c ∈ H s, c ≠ ':')
  (sig : Str → List (Str × Bool))
include hinj hsep

/-- `a == b` never raises: when the content ids are equal the two dfs streams have the same
length, so `zip(strict=True)` is exhausted on both sides simultaneously -/
theorem eq_total (a b : Node) (ha : WFN a) (hb : WFN b) (ca : Conforms sig a) (cb : Conforms sig b) :
    ∃ r, eqImpl H a b = .ok r := by
  rw [eqImpl_eq]
  split
  · rename_i h
    have hc := (cid_eq_iff H hinj hsep a b ha hb).mp h.2.1
    exact ⟨_, (zip_of_contentEq sig a b ha hb ca cb hc).1⟩
  · exact ⟨false, rfl⟩

/-- `a == b` ⇔ same content and `==` origins at every position -/
theorem eq_iff (a b : Node) (ha : WFN a) (hb : WFN b) (ca : Conforms sig a) (cb : Conforms sig b) :
    eqImpl H a b = .ok true ↔ NodeEq a b := by
  constructor
  · intro h
    rw [eqImpl_eq] at h
    split at h
    · rename_i h0
      have hc := (cid_eq_iff H hinj hsep a b ha hb).mp h0.2.1
      obtain ⟨h1, h2⟩ := zip_of_contentEq sig a b ha hb ca cb hc
      rw [h1] at h
      simp only [Except.ok.injEq, decide_eq_true_eq] at h
      exact ⟨hc, h2.mpr ⟨h0.2.2, h⟩⟩
    · simp at h
  · exact eq_of_nodeEq H sig a b ha hb ca cb

omit hinj hsep in
/-- reflexivity needs no hypothesis at all -/
theorem eq_refl (a : Node) : eqImpl H a a = .ok true := by
  rw [eqImpl_eq]; simp [zipOrigins_self]

/-- `eq_symm_any`; the hypotheses are not used -/
theorem eq_symm (a b : Node) (ha : WFN a) (hb : WFN b) (ca : Conforms sig a) (cb : Conforms sig b)
    (h : eqImpl H a b = .ok true) : eqImpl H b a = .ok true := eq_symm_any H a b h

/-- `eq_trans_any`; the hypotheses are not used -/
theorem eq_trans (a b c : Node) (ha : WFN a) (hb : WFN b) (hc : WFN c)
    (ca : Conforms sig a) (cb : Conforms sig b) (cc : Conforms sig c)
    (h1 : eqImpl H a b = .ok true) (h2 : eqImpl H b c = .ok true) : eqImpl H a c = .ok true :=
  eq_trans_any H a b c h1 h2

omit hinj hsep in
theorem ne_eq_not (a b : Node) : neImpl H a b = (eqImpl H a b).map (!·) := rfl

omit hinj hsep in
/-- nodes of different classes are unequal (and the comparison does not raise) -/
theorem eq_other_class (a b : Node) (h : a.cls ≠ b.cls) : eqImpl H a b = .ok false := by
  rw [eqImpl_eq]; simp [h]

end Main

namespace Demo

instance : DecidableEq (Except Unit Bool)
  | .ok a, .ok b => if h : a = b then isTrue (by rw [h]) else isFalse (by simpa using h)
  | .error _, .error _ => isTrue rfl
  | .ok _, .error _ => isFalse (by simp)
  | .error _, .ok _ => isFalse (by simp)

def sig (c : Str) : List (Str × Bool) :=
  if c = ['P'] then [(['x', 's'], true), (['o'], false)]
  else if c = ['Q'] then [(['y'], false)]
  else []

def org (k : Nat) : Org := ⟨k, ['f']⟩
def leafA (uid k : Nat) : Node := .mk ⟨uid, ['A'], [], org k, [], true⟩ []
def nodeQ (uid k : Nat) (y : List Node) : Node :=
  .mk ⟨uid, ['Q'], [], org k, [], true⟩ [.mk ['y'] false y]
/-- `P(xs=(Q(y=A), Q(y=None)), o=A)`; `kg` is the origin of the grandchild, `k` of all others -/
def tree (uid k kg : Nat) (y2 : List Node) : Node :=
  .mk ⟨uid, ['P'], [], org k, [], true⟩
    [ .mk ['x', 's'] true [nodeQ (uid + 1) k [leafA (uid + 2) kg], nodeQ (uid + 3) k y2],
      .mk ['o'] false [leafA (uid + 4) k] ]

def t1 : Node := tree 10 1 1 []
def t2 : Node := tree 20 1 1 []          -- other objects, same content, same origins
def t3 : Node := tree 30 1 2 []          -- origin differs at a grandchild
def t4 : Node := tree 40 1 1 [leafA 49 1]  -- other content (and a longer dfs stream)

theorem eq_t1_t2 : eqImpl Hesc t1 t2 = .ok true := by decide +kernel
theorem eq_t1_t3 : eqImpl Hesc t1 t3 = .ok false := by decide +kernel
example : eqImpl Hesc t1 t2 = .ok true := eq_t1_t2
example : eqImpl Hesc t1 t3 = .ok false := eq_t1_t3
theorem cid_t1_ne_t4 : cid Hesc t1 ≠ cid Hesc t4 := by decide +kernel
example : eqImpl Hesc t1 t4 = .ok false := by
  rw [eqImpl_eq, if_neg (fun h => cid_t1_ne_t4 h.2.1)]
example : eqImpl Hesc t1 (leafA 1 1) = .ok false := by decide
example : neImpl Hesc t1 t3 = .ok true := by rw [ne_eq_not, eq_t1_t3]; rfl
example : originsAgree t1 t2 = true ∧ originsAgree t1 t3 = false := by decide

-- neither `WFN` nor `Conforms` looks at uids or origins: they evaluate with these left open
theorem wf_tree (uid k kg : Nat) : WFN (tree uid k kg []) := of_decide_eq_true rfl

theorem conf_tree (uid k kg : Nat) : Conforms sig (tree uid k kg []) := of_decide_eq_true rfl

-- the same through the theorems: their hypotheses are jointly satisfiable
theorem nodeEq_t1_t2 : NodeEq t1 t2 :=
  (eq_iff Hesc Hesc_injective Hesc_no_colon sig t1 t2 (wf_tree ..) (wf_tree ..) (conf_tree ..)
    (conf_tree ..)).mp eq_t1_t2
example : NodeEq t1 t2 := nodeEq_t1_t2
example : ¬ NodeEq t1 t3 := fun h =>
  absurd ((eq_iff Hesc Hesc_injective Hesc_no_colon sig t1 t3 (wf_tree ..) (wf_tree ..)
    (conf_tree ..) (conf_tree ..)).mpr h) (by rw [eq_t1_t3]; decide)

/-- `Conforms` is needed in `eq_iff`: two well-formed nodes of class `P` that declare their
fields in different orders (impossible for instances of one Python class) are content-equal, all
origins are equal, the flat dfs streams (three `A` leaves each) have the same length, so
`==` answers True — but the trees do not agree positionwise (2 children vs 1 in the first field). -/
def u1 : Node := .mk ⟨1, ['P'], [], org 1, [], true⟩
  [.mk ['x'] true [leafA 2 1, leafA 3 1], .mk ['y'] false [leafA 4 1]]
def u2 : Node := .mk ⟨5, ['P'], [], org 1, [], true⟩
  [.mk ['y'] false [leafA 8 1], .mk ['x'] true [leafA 6 1, leafA 7 1]]
theorem eq_u1_u2 : eqImpl Hesc u1 u2 = .ok true := by decide +kernel
example : eqImpl Hesc u1 u2 = .ok true := eq_u1_u2
example : originsAgree u1 u2 = false := by decide
theorem wf_u : WFN u1 ∧ WFN u2 := by decide
example : WFN u1 ∧ WFN u2 := wf_u

end Demo

end C02
end PyOak
