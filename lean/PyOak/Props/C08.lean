/-
C08: the matcher graph the pattern interpreter builds (Model/Pattern.lean) computes the documented meaning of the
pattern (Spec/Pattern.lean): `run_eq_spec`, `match_iff`.  A failed match binds nothing (`fail_empty`); an accepted pattern
never raises the definition error at match time (`no_unbound`); its capture names are pairwise distinct and are exactly
the keys of a match (`caps_nodup`); `MultiPatternMatcher.match` returns the first matching rule (`multi_eq_spec`,
`multi_first`).
-/
import PyOak.Spec.Pattern
namespace PyOak
namespace PM

def Matcher.isAny : Matcher → Bool
  | .any _ => true
  | _ => false

def NoAny : Matchers → Prop
  | .nil => True
  | .cons m r => m.isAny = false ∧ NoAny r

/-- a SequenceMatcher without tail holds at least one matcher, none of them an AnyMatcher -/
def SeqOk : Matcher → Prop
  | .seq _ ms none => ms ≠ .nil ∧ NoAny ms
  | _ => True

/-- the matchers `PatternDefInterpreter.value` builds -/
def Matcher.isValueKind : Matcher → Bool
  | .node _ _ _ => true
  | .var _ _ => true
  | .valNone _ => true
  | .regex _ _ => true
  | _ => false

/-- result of the field loop for a specification result, given the accumulated `ret_vars` -/
def accRes (r : Ctx) : Option Ctx → Bool × Ctx
  | some c => (true, c ++ r)
  | none => (false, [])

/-- result of the zip loop for a specification result, given `local_ctx` and `ret_vars` -/
def zipRes (l r : Ctx) : Option Ctx → Option (Ctx × Ctx)
  | some c => some (c ++ l, c ++ r)
  | none => none

def tailKeys : Option (Option Str) → List Str
  | some (some t) => [t]
  | _ => []

/-! the keys of the capture dict a successful match returns, in the order the model lists them -/
mutual
def Pat.capsR : Pat → List Str
  | .mk _ fields => fields.capsR
def Fields.capsR : Fields → List Str
  | .nil => []
  | .cons _ spec cap rest => rest.capsR ++ (spec.capsR ++ capOpt cap)
def FSpec.capsR : FSpec → List Str
  | .any => []
  | .val v => v.capsR
  | .seq items tail => tailKeys tail ++ items.capsR
def Items.capsR : Items → List Str
  | .nil => []
  | .cons v cap rest => rest.capsR ++ (v.capsR ++ capOpt cap)
def PVal.capsR : PVal → List Str
  | .tree p => p.capsR
  | .var _ => []
  | .none => []
  | .re _ => []
end

end PM
namespace C08
open PM

theorem resolveNames_ok (K : CEnv) : ∀ (l ts : List Str), resolveNames K l = .ok ts → ts = l
  | [], _, h => by cases h; rfl
  | c :: r, ts, h => by
    simp only [resolveNames] at h
    split at h <;> try contradiction
    split at h <;> try contradiction
    rename_i ts' hts
    cases h
    rw [resolveNames_ok K r ts' hts]

theorem resolve_any (K : CEnv) (cls : ClassSpec) (types : List Str) (n : Node)
    (h : resolveClasses K cls = .ok types) : types.any (instOf n) = classOk cls n := by
  cases cls with
  | any => cases h; simp [classOk, instOf]
  | names f r => rw [resolveNames_ok K _ _ h]; rfl

theorem splitTail_noAny : ∀ ms : Matchers, NoAny ms → ms.splitTail = (ms, none)
  | .nil, _ => rfl
  | .cons m r, h => by
    have ih := splitTail_noAny r h.2
    have hm := h.1
    cases m <;> simp_all [Matchers.splitTail, Matcher.isAny]

theorem snoc_ne_nil (ms : Matchers) (x : Matcher) : ms.snoc x ≠ .nil := by
  cases ms <;> simp [Matchers.snoc]

theorem splitTail_snoc : ∀ (ms : Matchers) (t : Option Str), (ms.snoc (.any t)).splitTail = (ms, some t)
  | .nil, _ => rfl
  | .cons m r, t => by
    have ih := splitTail_snoc r t
    simp only [Matchers.snoc]
    have hne := snoc_ne_nil r (.any t)
    cases hr : r.snoc (.any t) with
    | nil => exact absurd hr hne
    | cons m2 r2 =>
      rw [hr] at ih
      cases m <;> simp [Matchers.splitTail, ih]

theorem mkSeq_snoc (nm : Option Str) (ms : Matchers) (t : Option Str) :
    mkSeq nm (ms.snoc (.any t)) none = .ok (.seq nm ms (some t)) := by
  have hs := splitTail_snoc ms t
  cases hsn : ms.snoc (.any t) with
  | nil => exact absurd hsn (snoc_ne_nil _ _)
  | cons a b =>
    rw [hsn] at hs
    simp only [mkSeq, hs]

theorem mkSeq_noAny (nm : Option Str) (m : Matcher) (r : Matchers) (h : NoAny (.cons m r)) :
    mkSeq nm (.cons m r) none = .ok (.seq nm (.cons m r) none) := by
  simp only [mkSeq, splitTail_noAny _ h]

theorem valueKind_notAny (m : Matcher) (h : m.isValueKind = true) : m.isAny = false := by
  cases m <;> first | rfl | cases h

theorem valueKind_seqOk (m : Matcher) (h : m.isValueKind = true) : SeqOk m := by
  cases m <;> first | trivial | cases h

/-- `replace(m, name=nm)` changes the name and nothing else (in particular a sequence keeps its tail) -/
theorem setName_spec (m : Matcher) (nm : Str) (hok : SeqOk m) :
    ∃ m', m.setName nm = .ok m' ∧ m'.name = some nm ∧ (∀ S v ctx, m'.core S v ctx = m.core S v ctx)
      ∧ m'.isValueKind = m.isValueKind := by
  cases m with
  | seq n ms tail =>
    cases tail with
    | some t => exact ⟨_, rfl, rfl, fun _ _ _ => rfl, rfl⟩
    | none =>
      cases ms with
      | nil => exact absurd rfl hok.1
      | cons m r => exact ⟨_, mkSeq_noAny _ m r hok.2, rfl, fun _ _ _ => rfl, rfl⟩
  | _ => exact ⟨_, rfl, rfl, fun _ _ _ => rfl, rfl⟩

theorem applyCap_ok {m : Matcher} {cap : Option Str} {seen : List Str} {m' : Matcher} {seen' : List Str}
    (h : applyCap m cap seen = .ok (m', seen')) :
    (cap = none ∧ m' = m ∧ seen' = seen) ∨ ∃ c, cap = some c ∧ c ∉ seen ∧ m.setName c = .ok m' ∧ seen' = c :: seen := by
  cases cap with
  | none => cases h; exact .inl ⟨rfl, rfl, rfl⟩
  | some c =>
    by_cases hc : c ∈ seen
    · simp [applyCap, checkCap, hc] at h
    · simp only [applyCap, checkCap, List.contains_iff_mem, hc, if_false] at h
      split at h
      · cases h
      rename_i m2 hset
      cases h
      exact .inr ⟨c, rfl, hc, hset, rfl⟩

theorem applyCap_spec (m : Matcher) (cap : Option Str) (seen : List Str) (m' : Matcher) (seen' : List Str)
    (hok : SeqOk m) (hn : m.name = none) (h : applyCap m cap seen = .ok (m', seen')) :
    m'.name = cap ∧ (∀ S v ctx, m'.core S v ctx = m.core S v ctx) ∧ m'.isValueKind = m.isValueKind := by
  rcases applyCap_ok h with ⟨rfl, rfl, -⟩ | ⟨c, rfl, -, hset, -⟩
  · exact ⟨hn, fun _ _ _ => rfl, rfl⟩
  · obtain ⟨m2, hset2, hspec⟩ := setName_spec m c hok
    cases hset.symm.trans hset2
    exact hspec

theorem capOpt_reverse (c : Option Str) : (capOpt c).reverse = capOpt c := by
  cases c <;> rfl

theorem applyCap_seen (m : Matcher) (cap : Option Str) (seen : List Str) (m' : Matcher) (seen' : List Str)
    (h : applyCap m cap seen = .ok (m', seen')) :
    seen' = capOpt cap ++ seen ∧ (seen.Nodup → seen'.Nodup) := by
  rcases applyCap_ok h with ⟨rfl, -, rfl⟩ | ⟨c, rfl, hc, -, rfl⟩
  · exact ⟨rfl, id⟩
  · exact ⟨rfl, fun hn => List.nodup_cons.2 ⟨hc, hn⟩⟩

/-! ### what a successful run of the interpreter went through, construct by construct -/

section
variable {K : CEnv} {cls : ClassSpec} {fields rest : Fields} {name x s : Str} {spec : FSpec} {cap : Option Str}
  {items : Items} {tail : Option (Option Str)} {pv : PVal} {seen seen' : List Str} {m : Matcher} {c : Content}
  {ms : Matchers}

theorem compilePat_ok (h : compilePat K (.mk cls fields) seen = .ok (m, seen')) :
    ∃ types content, resolveClasses K cls = .ok types ∧ compileFields K fields seen = .ok (content, seen')
      ∧ m = .node none types content := by
  simp only [compilePat] at h
  split at h
  · cases h
  rename_i types htypes
  split at h
  · cases h
  rename_i content seen2 hf
  cases h
  exact ⟨types, content, htypes, hf, rfl⟩

theorem compileFields_cons_ok (h : compileFields K (.cons name spec cap rest) seen = .ok (c, seen')) :
    ∃ m seen1 m' seen2 c2, compileFSpec K spec seen = .ok (m, seen1) ∧ applyCap m cap seen1 = .ok (m', seen2)
      ∧ compileFields K rest seen2 = .ok (c2, seen') ∧ c = .cons name m' c2 := by
  simp only [compileFields] at h
  split at h
  · cases h
  rename_i m seen1 hs
  split at h
  · cases h
  rename_i m' seen2 hcap
  split at h
  · cases h
  rename_i c2 seen3 hrest
  cases h
  exact ⟨m, seen1, m', seen2, c2, hs, hcap, hrest, rfl⟩

theorem compileFSpec_seq_ok (h : compileFSpec K (.seq items tail) seen = .ok (m, seen')) :
    ∃ ms seen1, compileItems K items seen = .ok (ms, seen1) ∧ finishSeq ms tail seen1 = .ok (m, seen') := by
  simp only [compileFSpec] at h
  split at h
  · cases h
  rename_i ms seen1 hi
  exact ⟨ms, seen1, hi, h⟩

theorem compileItems_cons_ok {rest : Items} (h : compileItems K (.cons pv cap rest) seen = .ok (ms, seen')) :
    ∃ m seen1 m' seen2 ms2, compileVal K pv seen = .ok (m, seen1) ∧ applyCap m cap seen1 = .ok (m', seen2)
      ∧ compileItems K rest seen2 = .ok (ms2, seen') ∧ ms = .cons m' ms2 := by
  simp only [compileItems] at h
  split at h
  · cases h
  rename_i m seen1 hv
  split at h
  · cases h
  rename_i m' seen2 hcap
  split at h
  · cases h
  rename_i ms2 seen3 hrest
  cases h
  exact ⟨m, seen1, m', seen2, ms2, hv, hcap, hrest, rfl⟩

theorem compileVal_var_ok (h : compileVal K (.var x) seen = .ok (m, seen')) : x ∈ seen ∧ m = .var none x ∧ seen' = seen := by
  simp only [compileVal, List.contains_iff_mem] at h
  split at h
  · cases h; exact ⟨‹_›, rfl, rfl⟩
  · cases h

theorem compileVal_re_ok (h : compileVal K (.re s) seen = .ok (m, seen')) : m = .regex none s ∧ seen' = seen := by
  simp only [compileVal] at h
  split at h
  · cases h; exact ⟨rfl, rfl⟩
  · cases h

end

/-- `finishSeq` puts the tail's capture name into `_captures_seen` and builds `SequenceMatcher(ms, tail)`, except that
`[]` is `ValueMatcher(())` -/
theorem finishSeq_ok {ms : Matchers} {tail : Option (Option Str)} {seen : List Str} {m : Matcher} {seen' : List Str}
    (h : finishSeq ms tail seen = .ok (m, seen')) :
    (seen' = tailKeys tail ++ seen ∧ (seen.Nodup → seen'.Nodup)) ∧ (NoAny ms →
      (ms = .nil ∧ tail = none ∧ m = .valEmpty none) ∨ (SeqOk (.seq none ms tail) ∧ m = .seq none ms tail)) := by
  cases tail with
  | none =>
    cases ms with
    | nil => cases h; exact ⟨⟨rfl, id⟩, fun _ => .inl ⟨rfl, rfl, rfl⟩⟩
    | cons m0 r0 =>
      refine ⟨by cases h; exact ⟨rfl, id⟩, fun hno => ?_⟩
      simp only [finishSeq, mkSeq_noAny none m0 r0 hno] at h
      cases h
      exact .inr ⟨⟨Matchers.noConfusion, hno⟩, rfl⟩
  | some t =>
    cases t with
    | none => simp only [finishSeq, mkSeq_snoc] at h; cases h; exact ⟨⟨rfl, id⟩, fun _ => .inr ⟨trivial, rfl⟩⟩
    | some c =>
      simp only [finishSeq, mkSeq_snoc, checkCap, List.contains_iff_mem] at h
      by_cases hc : c ∈ seen
      · simp [hc] at h
      · simp only [hc, if_false] at h
        cases h
        exact ⟨⟨rfl, fun hn => List.nodup_cons.2 ⟨hc, hn⟩⟩, fun _ => .inr ⟨trivial, rfl⟩⟩

theorem wrap_map (cap : Option Str) (v : MVal) (sr : SRes) :
    wrap cap v (sr.map specRes) = sr.map (fun o => specRes (o.map (bindCap cap v))) := by
  cases sr with
  | error e => rfl
  | ok o =>
    cases o with
    | none => rfl
    | some c => cases cap <;> rfl

theorem accRes_nil : accRes [] = specRes := by
  funext o
  cases o <;> simp [accRes, specRes]

theorem specRes_ite (b : Bool) : specRes (if b = true then some [] else none) = (b, []) := by
  cases b <;> rfl

theorem items_len_zero : ∀ items : Items, items.length = 0 → items = .nil
  | .nil, _ => rfl
  | .cons _ _ _, h => by cases h

/-- `SequenceMatcher._match` (early length test, zip loop, tail) = the sequence clause of the
specification, given that the zip loop computes `specItems` -/
theorem seq_core (S : Sem) (items : Items) (ms : Matchers) (tl : Option (Option Str)) (nm : Option Str)
    (hlen : ms.length = items.length)
    (hzip : ∀ xs l r, items.length ≤ xs.length →
      ms.runZip S xs l r = (specItems S items xs l).map (zipRes l r))
    (v : MVal) (ctx : Ctx) :
    (Matcher.seq nm ms tl).core S v ctx = (specFSpec S (.seq items tl) v ctx).map specRes := by
  cases v with
  | tup xs =>
    simp only [Matcher.core, specFSpec, hlen]
    cases tl with
    | none =>
      by_cases hx : xs.length = items.length
      · rw [hzip xs ctx [] (Nat.le_of_eq hx.symm)]
        rcases specItems S items xs ctx with e | _ | c <;> simp [hx, Except.map, zipRes, specRes]
      · simp [hx, Except.map, specRes]
    | some t =>
      by_cases hx : items.length ≤ xs.length
      · rw [hzip xs ctx [] hx]
        rcases specItems S items xs ctx with e | _ | c <;> simp [hx, Except.map, zipRes, specRes]
      · simp [Nat.lt_of_not_le hx, hx, Except.map, specRes]
  | _ => rfl

/-- `ValueMatcher(value=())`, what `[]` compiles to, is the sequence clause for no items and no tail -/
theorem valEmpty_core (S : Sem) (nm : Option Str) (v : MVal) (ctx : Ctx) :
    (Matcher.valEmpty nm).core S v ctx = (specFSpec S (.seq .nil none) v ctx).map specRes := by
  cases v with
  | tup xs => cases xs <;> rfl
  | _ => rfl

theorem node_core {K : CEnv} {S : Sem} {cls : ClassSpec} {fields : Fields} {types : List Str} {content : Content}
    (htypes : resolveClasses K cls = .ok types)
    (hf : ∀ n l r, content.run S n l r = (specFields S fields n l).map (accRes r)) (nm : Option Str) (v : MVal) (ctx : Ctx) :
    (Matcher.node nm types content).core S v ctx = (specPat S (.mk cls fields) v ctx).map specRes := by
  cases v with
  | node n =>
    simp only [Matcher.core, specPat, resolve_any K cls types n htypes]
    split
    · rw [hf n ctx [], accRes_nil]
    · rfl
  | _ => rfl

theorem content_step {S : Sem} {name : Str} {spec : FSpec} {cap : Option Str} {rest : Fields} {m : Matcher} {c2 : Content}
    (hn : m.name = cap) (hcore : ∀ v ctx, m.core S v ctx = (specFSpec S spec v ctx).map specRes)
    (ih : ∀ n l r, c2.run S n l r = (specFields S rest n l).map (accRes r)) (n : Node) (l r : Ctx) :
    (Content.cons name m c2).run S n l r = (specFields S (.cons name spec cap rest) n l).map (accRes r) := by
  simp only [Content.run, specFields]
  cases getField n name with
  | none => rfl
  | some fv =>
    simp only [hn, hcore, wrap_map]
    rcases specFSpec S spec fv l with e | _ | c0
    · rfl
    · rfl
    · simp only [Except.map, Option.map, specRes, ih]
      rcases specFields S rest n (Ctx.update l (bindCap cap fv c0)) with e | _ | c2 <;> simp [accRes, Ctx.update]

theorem zip_step {S : Sem} {pv : PVal} {cap : Option Str} {rest : Items} {m : Matcher} {ms2 : Matchers}
    (hn : m.name = cap) (hcore : ∀ v ctx, m.core S v ctx = (specVal S pv v ctx).map specRes)
    (ih : ∀ xs l r, rest.length ≤ xs.length → ms2.runZip S xs l r = (specItems S rest xs l).map (zipRes l r))
    (xs : List MVal) (l r : Ctx) (hle : (Items.cons pv cap rest).length ≤ xs.length) :
    (Matchers.cons m ms2).runZip S xs l r = (specItems S (.cons pv cap rest) xs l).map (zipRes l r) := by
  cases xs with
  | nil => cases hle
  | cons x xs' =>
    simp only [Matchers.runZip, specItems, hn, hcore, wrap_map]
    rcases specVal S pv x l with e | _ | c0
    · rfl
    · rfl
    · simp only [Except.map, Option.map, specRes, ih xs' _ _ (Nat.le_of_succ_le_succ hle)]
      rcases specItems S rest xs' (Ctx.update l (bindCap cap x c0)) with e | _ | c2 <;> simp [zipRes, Ctx.update]

theorem finishSeq_core {S : Sem} {items : Items} {tail : Option (Option Str)} {ms : Matchers} {seen seen' : List Str}
    {m : Matcher}
    (hi : ms.length = items.length ∧ NoAny ms ∧
      ∀ xs l r, items.length ≤ xs.length → ms.runZip S xs l r = (specItems S items xs l).map (zipRes l r))
    (h : finishSeq ms tail seen = .ok (m, seen')) :
    m.name = none ∧ SeqOk m ∧ ∀ v ctx, m.core S v ctx = (specFSpec S (.seq items tail) v ctx).map specRes := by
  rcases (finishSeq_ok h).2 hi.2.1 with ⟨rfl, rfl, rfl⟩ | ⟨hok, rfl⟩
  · cases items_len_zero items hi.1.symm
    exact ⟨rfl, trivial, valEmpty_core S none⟩
  · exact ⟨rfl, hok, seq_core S items ms tail none hi.1 hi.2.2⟩

theorem var_core (S : Sem) (nm : Option Str) (x : Str) (v : MVal) (ctx : Ctx) :
    (Matcher.var nm x).core S v ctx = (specVal S (.var x) v ctx).map specRes := by
  simp only [Matcher.core, specVal]
  cases ctx.lookup x with
  | none => rfl
  | some c => exact congrArg Except.ok (specRes_ite _).symm

mutual
theorem pat_ok (K : CEnv) (S : Sem) : ∀ (p : Pat) (seen : List Str) (m : Matcher) (seen' : List Str),
    compilePat K p seen = .ok (m, seen') →
    m.name = none ∧ m.isValueKind = true ∧ ∀ v ctx, m.core S v ctx = (specPat S p v ctx).map specRes
  | .mk cls fields => fun seen m seen' h => by
    obtain ⟨types, content, htypes, hf, rfl⟩ := compilePat_ok h
    exact ⟨rfl, rfl, node_core htypes (fields_ok K S fields seen content seen' hf) none⟩
theorem fields_ok (K : CEnv) (S : Sem) : ∀ (fs : Fields) (seen : List Str) (c : Content) (seen' : List Str),
    compileFields K fs seen = .ok (c, seen') →
    ∀ n l r, c.run S n l r = (specFields S fs n l).map (accRes r)
  | .nil => fun seen c seen' h => by cases h; exact fun n l r => rfl
  | .cons name spec cap rest => fun seen c seen' h => by
    obtain ⟨m, seen1, m', seen2, c2, hs, hcap, hrest, rfl⟩ := compileFields_cons_ok h
    obtain ⟨hname, hseq, hcore⟩ := fspec_ok K S spec seen m seen1 hs
    obtain ⟨hn', hcore', -⟩ := applyCap_spec m cap seen1 m' seen2 hseq hname hcap
    exact content_step hn' (fun v ctx => (hcore' S v ctx).trans (hcore v ctx)) (fields_ok K S rest seen2 c2 seen' hrest)
theorem fspec_ok (K : CEnv) (S : Sem) : ∀ (spec : FSpec) (seen : List Str) (m : Matcher) (seen' : List Str),
    compileFSpec K spec seen = .ok (m, seen') →
    m.name = none ∧ SeqOk m ∧ ∀ v ctx, m.core S v ctx = (specFSpec S spec v ctx).map specRes
  | .any => fun seen m seen' h => by cases h; exact ⟨rfl, trivial, fun v ctx => rfl⟩
  | .val pv => fun seen m seen' h =>
    have ⟨hn, hk, hc⟩ := val_ok K S pv seen m seen' h
    ⟨hn, valueKind_seqOk m hk, hc⟩
  | .seq items tail => fun seen m seen' h => by
    obtain ⟨ms, seen1, hi, hfin⟩ := compileFSpec_seq_ok h
    exact finishSeq_core (items_ok K S items seen ms seen1 hi) hfin
theorem items_ok (K : CEnv) (S : Sem) : ∀ (items : Items) (seen : List Str) (ms : Matchers) (seen' : List Str),
    compileItems K items seen = .ok (ms, seen') →
    ms.length = items.length ∧ NoAny ms ∧
      ∀ xs l r, items.length ≤ xs.length → ms.runZip S xs l r = (specItems S items xs l).map (zipRes l r)
  | .nil => fun seen ms seen' h => by cases h; exact ⟨rfl, trivial, fun xs l r _ => rfl⟩
  | .cons pv cap rest => fun seen ms seen' h => by
    obtain ⟨m, seen1, m', seen2, ms2, hv, hcap, hrest, rfl⟩ := compileItems_cons_ok h
    obtain ⟨hname, hkind, hcore⟩ := val_ok K S pv seen m seen1 hv
    obtain ⟨hn', hcore', hk'⟩ := applyCap_spec m cap seen1 m' seen2 (valueKind_seqOk m hkind) hname hcap
    obtain ⟨hlen, hno, hzip⟩ := items_ok K S rest seen2 ms2 seen' hrest
    exact ⟨congrArg (· + 1) hlen, ⟨valueKind_notAny m' (hk'.trans hkind), hno⟩,
      zip_step hn' (fun v ctx => (hcore' S v ctx).trans (hcore v ctx)) hzip⟩
theorem val_ok (K : CEnv) (S : Sem) : ∀ (pv : PVal) (seen : List Str) (m : Matcher) (seen' : List Str),
    compileVal K pv seen = .ok (m, seen') →
    m.name = none ∧ m.isValueKind = true ∧ ∀ v ctx, m.core S v ctx = (specVal S pv v ctx).map specRes
  | .tree p => fun seen m seen' h => pat_ok K S p seen m seen' h
  | .var x => fun seen m seen' h => (compileVal_var_ok h).2.1 ▸ ⟨rfl, rfl, var_core S none x⟩
  | .none => fun seen m seen' h => by
    cases h
    exact ⟨rfl, rfl, fun v ctx => congrArg Except.ok (specRes_ite _).symm⟩
  | .re s => fun seen m seen' h =>
    (compileVal_re_ok h).1 ▸ ⟨rfl, rfl, fun v ctx => congrArg Except.ok (specRes_ite _).symm⟩
end

/-! ### what a successful run of the specification went through, clause by clause -/

section
variable {S : Sem} {cls : ClassSpec} {fields rest : Fields} {f x : Str} {spec : FSpec} {cap t : Option Str} {items : Items}
  {pv : PVal} {n : Node} {v : MVal} {ys : List MVal} {ctx caps : Ctx}

theorem specPat_some (h : specPat S (.mk cls fields) v ctx = .ok (some caps)) :
    ∃ n, v = .node n ∧ classOk cls n = true ∧ specFields S fields n ctx = .ok (some caps) := by
  cases v with
  | node n =>
    simp only [specPat] at h
    split at h
    · exact ⟨n, rfl, ‹_›, h⟩
    · cases h
  | _ => cases h

theorem specFields_cons_some (h : specFields S (.cons f spec cap rest) n ctx = .ok (some caps)) :
    ∃ fv c0 c2, getField n f = some fv ∧ specFSpec S spec fv ctx = .ok (some c0)
      ∧ specFields S rest n (Ctx.update ctx (bindCap cap fv c0)) = .ok (some c2)
      ∧ caps = Ctx.update (bindCap cap fv c0) c2 := by
  simp only [specFields] at h
  split at h
  · cases h
  rename_i fv hg
  split at h
  · cases h
  · cases h
  rename_i c0 h0
  split at h
  · cases h
  · cases h
  rename_i c2 h2
  cases h
  exact ⟨fv, c0, c2, hg, h0, h2, rfl⟩

theorem specFSpec_seqExact_some (h : specFSpec S (.seq items none) v ctx = .ok (some caps)) :
    ∃ xs, v = .tup xs ∧ xs.length = items.length ∧ specItems S items xs ctx = .ok (some caps) := by
  cases v with
  | tup xs =>
    simp only [specFSpec] at h
    split at h
    · exact ⟨xs, rfl, ‹_›, h⟩
    · cases h
  | _ => cases h

theorem specFSpec_seqTail_some (h : specFSpec S (.seq items (some t)) v ctx = .ok (some caps)) :
    ∃ xs c, v = .tup xs ∧ items.length ≤ xs.length ∧ specItems S items xs ctx = .ok (some c)
      ∧ caps = Ctx.update c (tailVars t (xs.drop items.length)) := by
  cases v with
  | tup xs =>
    simp only [specFSpec] at h
    split at h
    · rename_i hl
      split at h
      · cases h
      · cases h
      rename_i c hc
      cases h
      exact ⟨xs, c, rfl, hl, hc, rfl⟩
    · cases h
  | _ => cases h

theorem specItems_cons_some {rest : Items} (h : specItems S (.cons pv cap rest) ys ctx = .ok (some caps)) :
    ∃ x xs c0 c2, ys = x :: xs ∧ specVal S pv x ctx = .ok (some c0)
      ∧ specItems S rest xs (Ctx.update ctx (bindCap cap x c0)) = .ok (some c2)
      ∧ caps = Ctx.update (bindCap cap x c0) c2 := by
  cases ys with
  | nil => cases h
  | cons x xs =>
    simp only [specItems] at h
    split at h
    · cases h
    · cases h
    rename_i c0 h0
    split at h
    · cases h
    · cases h
    rename_i c2 h2
    cases h
    exact ⟨x, xs, c0, c2, rfl, h0, h2, rfl⟩

theorem specVal_var_some (h : specVal S (.var x) v ctx = .ok (some caps)) :
    ∃ cv, ctx.lookup x = some cv ∧ varEq S cv v = true ∧ caps = [] := by
  simp only [specVal] at h
  split at h
  · cases h
  rename_i cv hl
  split at h
  · cases h; exact ⟨cv, hl, ‹_›, rfl⟩
  · cases h

end

/-- the clauses `None` and `"re"`: a test of the value that binds nothing -/
theorem test_some {b : Bool} {caps : Ctx}
    (h : (Except.ok (if b = true then some [] else none) : SRes) = .ok (some caps)) : b = true ∧ caps = [] := by
  cases b
  · cases h
  · cases h; exact ⟨rfl, rfl⟩

theorem keys_update (a b : Ctx) : (Ctx.update a b).keys = b.keys ++ a.keys :=
  List.map_append

theorem keys_bindCap (cap : Option Str) (v : MVal) (c : Ctx) : (bindCap cap v c).keys = c.keys ++ capOpt cap := by
  cases cap
  · exact (List.append_nil _).symm
  · exact List.map_append

theorem keys_tailVars (t : Option Str) (rest : List MVal) : (tailVars t rest).keys = capOpt t := by
  cases t <;> rfl

theorem keys_step {cap : Option Str} {v : MVal} {c0 c2 : Ctx} {a b : List Str} (h0 : c0.keys = a) (h2 : c2.keys = b) :
    (Ctx.update (bindCap cap v c0) c2).keys = b ++ (a ++ capOpt cap) := by
  rw [keys_update, keys_bindCap, h0, h2]

mutual
theorem pat_keys (S : Sem) : ∀ (p : Pat) (v : MVal) (ctx caps : Ctx),
    specPat S p v ctx = .ok (some caps) → caps.keys = p.capsR
  | .mk cls fields => fun v ctx caps h => by
    obtain ⟨n, -, -, hf⟩ := specPat_some h
    exact fields_keys S fields n ctx caps hf
theorem fields_keys (S : Sem) : ∀ (fs : Fields) (n : Node) (ctx caps : Ctx),
    specFields S fs n ctx = .ok (some caps) → caps.keys = fs.capsR
  | .nil => fun n ctx caps h => by cases h; rfl
  | .cons name spec cap rest => fun n ctx caps h => by
    obtain ⟨fv, c0, c2, -, h0, h2, rfl⟩ := specFields_cons_some h
    exact keys_step (fspec_keys S spec fv ctx c0 h0) (fields_keys S rest n _ c2 h2)
theorem fspec_keys (S : Sem) : ∀ (spec : FSpec) (v : MVal) (ctx caps : Ctx),
    specFSpec S spec v ctx = .ok (some caps) → caps.keys = spec.capsR
  | .any => fun v ctx caps h => by cases h; rfl
  | .val pv => fun v ctx caps h => val_keys S pv v ctx caps h
  | .seq items none => fun v ctx caps h => by
    obtain ⟨xs, -, -, hi⟩ := specFSpec_seqExact_some h
    exact items_keys S items xs ctx caps hi
  | .seq items (some t) => fun v ctx caps h => by
    obtain ⟨xs, c, -, -, hi, rfl⟩ := specFSpec_seqTail_some h
    rw [keys_update, keys_tailVars, items_keys S items xs ctx c hi]
    cases t <;> rfl
theorem items_keys (S : Sem) : ∀ (items : Items) (xs : List MVal) (ctx caps : Ctx),
    specItems S items xs ctx = .ok (some caps) → caps.keys = items.capsR
  | .nil => fun xs ctx caps h => by cases h; rfl
  | .cons pv cap rest => fun ys ctx caps h => by
    obtain ⟨x, xs, c0, c2, -, h0, h2, rfl⟩ := specItems_cons_some h
    exact keys_step (val_keys S pv x ctx c0 h0) (items_keys S rest xs _ c2 h2)
theorem val_keys (S : Sem) : ∀ (pv : PVal) (v : MVal) (ctx caps : Ctx),
    specVal S pv v ctx = .ok (some caps) → caps.keys = pv.capsR
  | .tree p => fun v ctx caps h => pat_keys S p v ctx caps h
  | .var x => fun v ctx caps h => by obtain ⟨-, -, -, rfl⟩ := specVal_var_some h; rfl
  | .none => fun v ctx caps h => by obtain ⟨-, rfl⟩ := test_some h; rfl
  | .re s => fun v ctx caps h => by obtain ⟨-, rfl⟩ := test_some h; rfl
end

theorem tailKeys_eq (tail : Option (Option Str)) :
    tailKeys tail = (match tail with | some t => capOpt t | none => []) := by
  cases tail with
  | none => rfl
  | some t => cases t <;> rfl

theorem perm_step {a a' b b' : List Str} (c : List Str) (h1 : a.Perm a') (h2 : b.Perm b') :
    (b ++ (a ++ c)).Perm (a' ++ c ++ b') :=
  List.perm_append_comm.trans ((h1.append_right c).append h2)

mutual
theorem pat_perm : ∀ p : Pat, p.capsR.Perm p.caps
  | .mk _ fields => fields_perm fields
theorem fields_perm : ∀ fs : Fields, fs.capsR.Perm fs.caps
  | .nil => .nil
  | .cons _ spec cap rest => perm_step (capOpt cap) (fspec_perm spec) (fields_perm rest)
theorem fspec_perm : ∀ spec : FSpec, spec.capsR.Perm spec.caps
  | .any => .nil
  | .val v => val_perm v
  | .seq items tail => by
    simp only [FSpec.capsR, FSpec.caps, tailKeys_eq]
    exact List.perm_append_comm.trans ((items_perm items).append_right _)
theorem items_perm : ∀ items : Items, items.capsR.Perm items.caps
  | .nil => .nil
  | .cons v cap rest => perm_step (capOpt cap) (val_perm v) (items_perm rest)
theorem val_perm : ∀ pv : PVal, pv.capsR.Perm pv.caps
  | .tree p => pat_perm p
  | .var _ => .nil
  | .none => .nil
  | .re _ => .nil
end

theorem seen_step {seen seen1 seen2 seen3 a b : List Str} {cap : Option Str}
    (h1 : seen1 = a.reverse ++ seen ∧ (seen.Nodup → seen1.Nodup))
    (h2 : seen2 = capOpt cap ++ seen1 ∧ (seen1.Nodup → seen2.Nodup))
    (h3 : seen3 = b.reverse ++ seen2 ∧ (seen2.Nodup → seen3.Nodup)) :
    seen3 = (a ++ capOpt cap ++ b).reverse ++ seen ∧ (seen.Nodup → seen3.Nodup) := by
  refine ⟨?_, fun hn => h3.2 (h2.2 (h1.2 hn))⟩
  rw [h3.1, h2.1, h1.1]
  simp only [List.reverse_append, capOpt_reverse, List.append_assoc]

/-! the interpreter's `_captures_seen` after a construct = its capture names (text order, newest
first) in front of what was seen before; it never holds a name twice -/
mutual
theorem pat_seen (K : CEnv) : ∀ (p : Pat) (seen : List Str) (m : Matcher) (seen' : List Str),
    compilePat K p seen = .ok (m, seen') → seen' = p.caps.reverse ++ seen ∧ (seen.Nodup → seen'.Nodup)
  | .mk cls fields => fun seen m seen' h => by
    obtain ⟨types, content, -, hf, -⟩ := compilePat_ok h
    exact fields_seen K fields seen content seen' hf
theorem fields_seen (K : CEnv) : ∀ (fs : Fields) (seen : List Str) (c : Content) (seen' : List Str),
    compileFields K fs seen = .ok (c, seen') → seen' = fs.caps.reverse ++ seen ∧ (seen.Nodup → seen'.Nodup)
  | .nil => fun seen c seen' h => by cases h; exact ⟨rfl, id⟩
  | .cons name spec cap rest => fun seen c seen' h => by
    obtain ⟨m, seen1, m', seen2, c2, hs, hcap, hrest, -⟩ := compileFields_cons_ok h
    exact seen_step (fspec_seen K spec seen m seen1 hs) (applyCap_seen m cap seen1 m' seen2 hcap)
      (fields_seen K rest seen2 c2 seen' hrest)
theorem fspec_seen (K : CEnv) : ∀ (spec : FSpec) (seen : List Str) (m : Matcher) (seen' : List Str),
    compileFSpec K spec seen = .ok (m, seen') → seen' = spec.caps.reverse ++ seen ∧ (seen.Nodup → seen'.Nodup)
  | .any => fun seen m seen' h => by cases h; exact ⟨rfl, id⟩
  | .val pv => fun seen m seen' h => val_seen K pv seen m seen' h
  | .seq items tail => fun seen m seen' h => by
    obtain ⟨ms, seen1, hi, hfin⟩ := compileFSpec_seq_ok h
    obtain ⟨e1, n1⟩ := items_seen K items seen ms seen1 hi
    obtain ⟨e2, n2⟩ := (finishSeq_ok hfin).1
    refine ⟨?_, fun hn => n2 (n1 hn)⟩
    rw [e2, e1, tailKeys_eq]
    cases tail <;> simp [FSpec.caps, capOpt_reverse]
theorem items_seen (K : CEnv) : ∀ (items : Items) (seen : List Str) (ms : Matchers) (seen' : List Str),
    compileItems K items seen = .ok (ms, seen') → seen' = items.caps.reverse ++ seen ∧ (seen.Nodup → seen'.Nodup)
  | .nil => fun seen ms seen' h => by cases h; exact ⟨rfl, id⟩
  | .cons pv cap rest => fun seen ms seen' h => by
    obtain ⟨m, seen1, m', seen2, ms2, hv, hcap, hrest, -⟩ := compileItems_cons_ok h
    exact seen_step (val_seen K pv seen m seen1 hv) (applyCap_seen m cap seen1 m' seen2 hcap)
      (items_seen K rest seen2 ms2 seen' hrest)
theorem val_seen (K : CEnv) : ∀ (pv : PVal) (seen : List Str) (m : Matcher) (seen' : List Str),
    compileVal K pv seen = .ok (m, seen') → seen' = pv.caps.reverse ++ seen ∧ (seen.Nodup → seen'.Nodup)
  | .tree p => fun seen m seen' h => pat_seen K p seen m seen' h
  | .var x => fun seen m seen' h => (compileVal_var_ok h).2.2 ▸ ⟨rfl, id⟩
  | .none => fun seen m seen' h => by cases h; exact ⟨rfl, id⟩
  | .re s => fun seen m seen' h => (compileVal_re_ok h).2 ▸ ⟨rfl, id⟩
end

theorem lookup_of_mem_keys : ∀ (ctx : Ctx) (x : Str), x ∈ ctx.keys → ∃ c, ctx.lookup x = some c
  | (k, v) :: es, x, h => by
    simp only [List.lookup]
    cases hxk : x == k with
    | true => exact ⟨v, rfl⟩
    | false =>
      rcases List.mem_cons.1 h with rfl | h
      · simp at hxk
      · exact lookup_of_mem_keys es x h

theorem inv_step (seen seen1 seen2 caps capsR : List Str) (cap : Option Str) (ctx c0 : Ctx) (fv : MVal)
    (e1 : seen1 = caps.reverse ++ seen) (e2 : seen2 = capOpt cap ++ seen1) (hk : c0.keys = capsR)
    (hp : capsR.Perm caps) (hinv : ∀ y ∈ seen, y ∈ ctx.keys) :
    ∀ y ∈ seen2, y ∈ (Ctx.update ctx (bindCap cap fv c0)).keys := by
  intro y hy
  rw [keys_update, keys_bindCap, hk]
  subst e2; subst e1
  simp only [List.mem_append, List.mem_reverse] at hy ⊢
  rcases hy with h | h | h
  · exact Or.inl (Or.inr h)
  · exact Or.inl (Or.inl (hp.mem_iff.mpr h))
  · exact Or.inr (hinv y h)

/-! a pattern the interpreter accepts never meets an unbound variable at match time: the
specification (hence, by `run_eq_spec`, the matcher) has no definition error -/
mutual
theorem pat_total (K : CEnv) (S : Sem) : ∀ (p : Pat) (seen : List Str) (m : Matcher) (seen' : List Str),
    compilePat K p seen = .ok (m, seen') → ∀ v ctx, (∀ y ∈ seen, y ∈ ctx.keys) → ∃ r, specPat S p v ctx = .ok r
  | .mk cls fields => fun seen m seen' h v ctx hinv => by
    obtain ⟨types, content, -, hf, -⟩ := compilePat_ok h
    cases v with
    | node n =>
      simp only [specPat]
      split
      · exact fields_total K S fields seen content seen' hf n ctx hinv
      · exact ⟨_, rfl⟩
    | _ => exact ⟨_, rfl⟩
theorem fields_total (K : CEnv) (S : Sem) : ∀ (fs : Fields) (seen : List Str) (c : Content) (seen' : List Str),
    compileFields K fs seen = .ok (c, seen') → ∀ n ctx, (∀ y ∈ seen, y ∈ ctx.keys) → ∃ r, specFields S fs n ctx = .ok r
  | .nil => fun seen c seen' h n ctx _ => ⟨_, rfl⟩
  | .cons name spec cap rest => fun seen c seen' h n ctx hinv => by
    obtain ⟨m, seen1, m', seen2, c2, hs, hcap, hrest, -⟩ := compileFields_cons_ok h
    simp only [specFields]
    cases getField n name with
    | none => exact ⟨_, rfl⟩
    | some fv =>
      obtain ⟨r0, hr0⟩ := fspec_total K S spec seen m seen1 hs fv ctx hinv
      simp only [hr0]
      cases r0 with
      | none => exact ⟨_, rfl⟩
      | some c0 =>
        obtain ⟨r2, hr2⟩ := fields_total K S rest seen2 c2 seen' hrest n _
          (inv_step seen seen1 seen2 spec.caps spec.capsR cap ctx c0 fv
            (fspec_seen K spec seen m seen1 hs).1 (applyCap_seen m cap seen1 m' seen2 hcap).1
            (fspec_keys S spec fv ctx c0 hr0) (fspec_perm spec) hinv)
        simp only [hr2]
        cases r2 <;> exact ⟨_, rfl⟩
theorem fspec_total (K : CEnv) (S : Sem) : ∀ (spec : FSpec) (seen : List Str) (m : Matcher) (seen' : List Str),
    compileFSpec K spec seen = .ok (m, seen') → ∀ v ctx, (∀ y ∈ seen, y ∈ ctx.keys) → ∃ r, specFSpec S spec v ctx = .ok r
  | .any => fun seen m seen' h v ctx _ => ⟨_, rfl⟩
  | .val pv => fun seen m seen' h v ctx hinv => val_total K S pv seen m seen' h v ctx hinv
  | .seq items tail => fun seen m seen' h v ctx hinv => by
    obtain ⟨ms, seen1, hi, -⟩ := compileFSpec_seq_ok h
    cases v with
    | tup xs =>
      obtain ⟨r0, hr0⟩ := items_total K S items seen ms seen1 hi xs ctx hinv
      cases tail with
      | none =>
        simp only [specFSpec, hr0]
        split <;> exact ⟨_, rfl⟩
      | some t =>
        simp only [specFSpec, hr0]
        split
        · cases r0 <;> exact ⟨_, rfl⟩
        · exact ⟨_, rfl⟩
    | _ => exact ⟨_, rfl⟩
theorem items_total (K : CEnv) (S : Sem) : ∀ (items : Items) (seen : List Str) (ms : Matchers) (seen' : List Str),
    compileItems K items seen = .ok (ms, seen') → ∀ xs ctx, (∀ y ∈ seen, y ∈ ctx.keys) → ∃ r, specItems S items xs ctx = .ok r
  | .nil => fun seen ms seen' h xs ctx _ => ⟨_, rfl⟩
  | .cons pv cap rest => fun seen ms seen' h xs ctx hinv => by
    obtain ⟨m, seen1, m', seen2, ms2, hv, hcap, hrest, -⟩ := compileItems_cons_ok h
    cases xs with
    | nil => exact ⟨_, rfl⟩
    | cons x xs' =>
      obtain ⟨r0, hr0⟩ := val_total K S pv seen m seen1 hv x ctx hinv
      simp only [specItems, hr0]
      cases r0 with
      | none => exact ⟨_, rfl⟩
      | some c0 =>
        obtain ⟨r2, hr2⟩ := items_total K S rest seen2 ms2 seen' hrest xs' _
          (inv_step seen seen1 seen2 pv.caps pv.capsR cap ctx c0 x
            (val_seen K pv seen m seen1 hv).1 (applyCap_seen m cap seen1 m' seen2 hcap).1
            (val_keys S pv x ctx c0 hr0) (val_perm pv) hinv)
        simp only [hr2]
        cases r2 <;> exact ⟨_, rfl⟩
theorem val_total (K : CEnv) (S : Sem) : ∀ (pv : PVal) (seen : List Str) (m : Matcher) (seen' : List Str),
    compileVal K pv seen = .ok (m, seen') → ∀ v ctx, (∀ y ∈ seen, y ∈ ctx.keys) → ∃ r, specVal S pv v ctx = .ok r
  | .tree p => fun seen m seen' h v ctx hinv => pat_total K S p seen m seen' h v ctx hinv
  | .var x => fun seen m seen' h v ctx hinv => by
    obtain ⟨c, hc⟩ := lookup_of_mem_keys ctx x (hinv x (compileVal_var_ok h).1)
    simp only [specVal, hc]
    exact ⟨_, rfl⟩
  | .none => fun seen m seen' h v ctx _ => ⟨_, rfl⟩
  | .re s => fun seen m seen' h v ctx _ => ⟨_, rfl⟩
end

theorem compile_ok {K : CEnv} {p : Pat} {m : Matcher} (h : compile K p = .ok m) :
    ∃ seen', compilePat K p [] = .ok (m, seen') := by
  simp only [compile] at h
  split at h
  · cases h
  · cases h; exact ⟨_, ‹_›⟩

/-- **model = specification.**  For every pattern the interpreter accepts, every value and every
context, `matcher.match(value, ctx)` returns exactly what the documented semantics prescribes:
`(True, captures)` on a match — the captures being the very objects (`MVal.node n` carries the
node's identity `uid`) —, `(False, {})` on a mismatch, and the definition error where the
specification has one. -/
theorem run_eq_spec (K : CEnv) (S : Sem) (p : Pat) (m : Matcher) (h : compile K p = .ok m)
    (v : MVal) (ctx : Ctx) : m.run S v ctx = (specPat S p v ctx).map specRes := by
  obtain ⟨seen', hc⟩ := compile_ok h
  obtain ⟨hn, -, hcore⟩ := pat_ok K S p [] m seen' hc
  rw [Matcher.run, hn, hcore, wrap_map]
  cases specPat S p v ctx with
  | error e => rfl
  | ok o => cases o <;> rfl

/-- `NodeMatcher.from_pattern(text)[0].match(node)` -/
theorem match_eq_spec (K : CEnv) (S : Sem) (p : Pat) (m : Matcher) (h : compile K p = .ok m) (n : Node) :
    matchNode S m n = (specMatch S p n).map specRes :=
  run_eq_spec K S p m h (.node n) []

theorem match_iff (K : CEnv) (S : Sem) (p : Pat) (m : Matcher) (h : compile K p = .ok m) (n : Node) (caps : Ctx) :
    matchNode S m n = .ok (true, caps) ↔ specMatch S p n = .ok (some caps) := by
  rw [match_eq_spec K S p m h n]
  cases specMatch S p n with
  | error e => simp [Except.map]
  | ok o => cases o <;> simp [Except.map, specRes]

/-- a failed match returns the empty capture dict (any matcher, any value, any context) -/
theorem fail_empty (S : Sem) (m : Matcher) (v : MVal) (ctx caps : Ctx)
    (h : m.run S v ctx = .ok (false, caps)) : caps = [] := by
  simp only [Matcher.run, wrap] at h
  split at h
  · contradiction
  · injection h with h; injection h with _ h; exact h.symm
  · split at h <;> (injection h with h; injection h with h _; cases h)

theorem multi_eq_spec (K : CEnv) (S : Sem) (defs : List (Str × Pat)) (tbl : List (Str × Matcher))
    (htbl : ∀ r, match defs.lookup r, tbl.lookup r with
      | some p, some m => compile K p = .ok m
      | none, none => True
      | _, _ => False)
    (order : List Str) (n : Node) :
    multiMatch S tbl order n = specMulti S defs order n := by
  induction order with
  | nil => rfl
  | cons r rest ih =>
    have := htbl r
    simp only [multiMatch, specMulti]
    rcases hd : defs.lookup r with _ | p <;> rcases ht : tbl.lookup r with _ | m <;> simp only [hd, ht] at this
    · rfl
    · simp only [match_eq_spec K S p m this n]
      rcases specMatch S p n with e | _ | c
      · rfl
      · exact ih
      · rfl

/-- **first matching rule in the given order**: the result is rule `r` with captures `caps` exactly
when `r`'s pattern matches with `caps` and every rule listed before it does not match -/
theorem multi_first (S : Sem) (defs : List (Str × Pat)) (order : List Str) (n : Node) (r : Str) (caps : Ctx) :
    specMulti S defs order n = .ok (some (r, caps)) ↔
      ∃ pre post, order = pre ++ r :: post
        ∧ (∀ q ∈ pre, ∃ p, defs.lookup q = some p ∧ specMatch S p n = .ok none)
        ∧ ∃ p, defs.lookup r = some p ∧ specMatch S p n = .ok (some caps) := by
  constructor
  · intro h
    induction order with
    | nil => cases h
    | cons q rest ih =>
      simp only [specMulti] at h
      split at h
      · cases h
      rename_i p hp
      split at h
      · cases h
      · rename_i c hc
        cases h
        exact ⟨[], rest, rfl, nofun, p, hp, hc⟩
      · rename_i hc
        obtain ⟨pre, post, rfl, hpre, hr⟩ := ih h
        exact ⟨q :: pre, post, rfl, List.forall_mem_cons.2 ⟨⟨p, hp, hc⟩, hpre⟩, hr⟩
  · rintro ⟨pre, post, rfl, hpre, p, hp, hm⟩
    induction pre with
    | nil => simp only [List.nil_append, specMulti, hp, hm]
    | cons q pre ih =>
      obtain ⟨⟨pq, hq, hmq⟩, hpre'⟩ := List.forall_mem_cons.1 hpre
      simp only [List.cons_append, specMulti, hq, hmq]
      exact ih hpre'

/-- **no unbound variable at match time**: for an accepted pattern the specification (and so the
matcher) never ends in the definition error -/
theorem no_unbound (K : CEnv) (S : Sem) (p : Pat) (m : Matcher) (h : compile K p = .ok m) (n : Node) :
    ∃ r, specMatch S p n = .ok r ∧ matchNode S m n = .ok (specRes r) := by
  obtain ⟨seen', hc⟩ := compile_ok h
  obtain ⟨r, hr⟩ : ∃ r, specMatch S p n = .ok r := pat_total K S p [] m seen' hc (.node n) [] nofun
  exact ⟨r, hr, by rw [match_eq_spec K S p m h n, hr]; rfl⟩

/-- the capture names of an accepted pattern are pairwise distinct, and a successful match binds
exactly these names, each once (so the association list *is* a dict: nothing is shadowed) -/
theorem caps_nodup (K : CEnv) (S : Sem) (p : Pat) (m : Matcher) (h : compile K p = .ok m) (n : Node) (caps : Ctx)
    (hs : specMatch S p n = .ok (some caps)) :
    p.caps.Nodup ∧ caps.keys.Nodup ∧ caps.keys.Perm p.caps := by
  obtain ⟨seen', hc⟩ := compile_ok h
  obtain ⟨e, hn⟩ := pat_seen K p [] m seen' hc
  have hnd : p.caps.Nodup := by
    have := hn List.nodup_nil
    rw [e, List.append_nil] at this
    exact (List.reverse_perm p.caps).nodup_iff.mp this
  have hk := pat_keys S p (.node n) [] caps hs
  have hp := pat_perm p
  exact ⟨hnd, by rw [hk]; exact hp.nodup_iff.mpr hnd, by rw [hk]; exact hp⟩

/-- three small patterns unfolded, as instances of "captures are the very objects matched": `@f -> c` binds `c` to the
value stored in field `f`, `[* -> t]` binds `t` to the whole tuple, and `[(*) -> c * -> t]` binds `c` to the first
element and `t` to the tuple of the others.  For every pattern: `cap_field`, `cap_item`, `cap_tail` (C08Captures.lean). -/
theorem captures_exact (S : Sem) (n : Node) (f c : Str) (fv : MVal) (ctx : Ctx) (hf : getField n f = some fv) :
    specFields S (.cons f .any (some c) .nil) n ctx = .ok (some [(c, fv)])
    ∧ (∀ xs t, specFSpec S (.seq .nil (some (some t))) (.tup xs) ctx = .ok (some [(t, .tup xs)]))
    ∧ (∀ x xs t, specFSpec S (.seq (.cons (.tree (.mk .any .nil)) (some c) .nil) (some (some t))) (.tup (.node x :: xs)) ctx
        = .ok (some [(t, .tup xs), (c, .node x)])) := by
  refine ⟨by simp only [specFields, hf]; rfl, fun xs t => rfl, fun x xs t => ?_⟩
  simp [specFSpec, specItems, specVal, specPat, classOk, specFields, Items.length, tailVars, Ctx.update, bindCap]

/-- `replace(SequenceMatcher, name=…)` keeps the tail (finding F8) -/
theorem setName_keeps_tail (nm : Option Str) (ms : Matchers) (t : Option Str) (c : Str) :
    (Matcher.seq nm ms (some t)).setName c = .ok (.seq (some c) ms (some t)) := rfl

/-- a sequence with a `*` tail does not match a tuple with fewer elements than it lists (finding F7) -/
theorem tail_length_exact (S : Sem) (nm : Option Str) (ms : Matchers) (t : Option Str) (xs : List MVal) (ctx : Ctx)
    (h : xs.length < ms.length) : (Matcher.seq nm ms (some t)).run S (.tup xs) ctx = .ok (false, []) := by
  simp [Matcher.run, Matcher.core, h, wrap]

section Examples

def exK : CEnv := { cls := fun c => if c = ['L'] ∨ c = ['T'] then .node else .unknown, rxOk := fun _ => true }
def exS : Sem := { rx := fun p t => p.isPrefixOf t, ceq := fun a b => a.cls == b.cls, neq := fun a b => a.uid == b.uid,
                   aeq := fun _ _ => false }
def exLeaf (u : Nat) : Node := .mk { uid := u, cls := ['L'], mro := [['L']], org := ⟨0, []⟩, props := [], truthy := true } []
def exTup (ns : List Node) : Node :=
  .mk { uid := 0, cls := ['T'], mro := [['T']], org := ⟨0, []⟩, props := [], truthy := true } [.mk ['i'] true ns]
def leafP : PVal := .tree (.mk (.names ['L'] []) .nil)
/-- `(T @i=[(L) (L) *])` -/
def exP7 : Pat := .mk (.names ['T'] []) (.cons ['i'] (.seq (.cons leafP none (.cons leafP none .nil)) (some none)) none .nil)
/-- `(T @i=[*] -> c)` -/
def exP8 : Pat := .mk (.names ['T'] []) (.cons ['i'] (.seq .nil (some none)) (some ['c']) .nil)
/-- `(T @i=[(L) -> a $a * -> r])` -/
def exP9 : Pat := .mk (.names ['T'] [])
  (.cons ['i'] (.seq (.cons leafP (some ['a']) (.cons (.var ['a']) none .nil)) (some (some ['r']))) none .nil)

def okTrue : Res → Bool
  | .ok (true, _) => true
  | _ => false
def okFalse : Res → Bool
  | .ok (false, []) => true
  | _ => false
def capKeys : Res → List Str
  | .ok (_, c) => c.keys
  | _ => []

example : ∃ m, compile exK exP7 = .ok m ∧ okFalse (matchNode exS m (exTup [exLeaf 1])) = true
    ∧ okTrue (matchNode exS m (exTup [exLeaf 1, exLeaf 2])) = true := ⟨_, rfl, by decide, by decide⟩
example : ∃ m, compile exK exP8 = .ok m ∧ okTrue (matchNode exS m (exTup [exLeaf 1, exLeaf 2])) = true
    ∧ capKeys (matchNode exS m (exTup [exLeaf 1, exLeaf 2])) = [['c']] := ⟨_, rfl, by decide, by decide⟩
example : ∃ m, compile exK exP9 = .ok m
    ∧ capKeys (matchNode exS m (exTup [exLeaf 1, exLeaf 2, exLeaf 3])) = [['r'], ['a']]
    ∧ okFalse (matchNode exS m (exTup [exLeaf 1])) = true := ⟨_, rfl, by decide, by decide⟩
-- a variable used before its capture, a repeated capture name, an unknown class are rejected
example : compile exK (.mk .any (.cons ['i'] (.val (.var ['a'])) none .nil)) = .error .unboundVar := rfl
example : compile exK (.mk .any (.cons ['i'] .any (some ['a']) (.cons ['j'] .any (some ['a']) .nil))) = .error .dupCapture := rfl
example : compile exK (.mk (.names ['X'] []) .nil) = .error .unknownClass := rfl
-- the hypotheses of `multi_eq_spec` / `multi_first` are satisfiable
example : (match specMulti exS [(['p'], exP7), (['q'], exP8)] [['p'], ['q']] (exTup [exLeaf 1]) with
    | .ok (some (r, c)) => (r, c.keys)
    | _ => ([], [])) = (['q'], [['c']]) := by decide

end Examples

end C08
end PyOak
