/-
C16 — "with key sorting every nested mapping lists the type tag FIRST and the remaining keys
sorted" (cf. AUDIT.md C16 §4 (i), (ii)).

`C16.SortedMap` only says "after dropping a LEADING tag the keys are sorted"; a mapping with the tag
in second position and sorted keys satisfies it (`sortedMap_too_weak`).  Here:

  TagFirstSorted fs   keys fs = __type :: rest, rest sorted, __type ∉ rest
  STShape g fs        fs is  {}                              (a `No*` placeholder)
                          |  {idx}          only if SOURCE_OPTIMIZED is on (index reference)
                          |  {source}       only under the AST_TEST dialect (the patched origin of a
                                            node whose origin is `NoOrigin`: `out.get("origin", {})["source"] = …`)
                          |  TagFirstSorted
  sorted_tagged_all   sortOn ∧ ¬skipOn ∧ OriginOK o ∧ NoTagFields o ⇒ EVERY nested mapping of the
                      output satisfies `STShape g` — all AST dialects, all mashumaro dialects, with
                      or without index-based sources
  sorted_tagged_plain … and outside AST_TEST / SOURCE_OPTIMIZED only `{}` and tag-first remain
                      (`EmptyOrTagFirst`)
  sorted_tagged_top   the top-level mapping itself: its class tag first, the rest sorted
  sorted_untagged_all sortOn ∧ skipOn (the AST_TEST combination): ALL keys sorted, no tag anywhere
                      (`SortedNoTag`)
  sorted_tagged_strict_fails   without the `{source}` shape the statement is false of model and library
  nested_tag_is_class / nested_source_is_idx
                      the tag VALUE is the class name at every depth; every reached source is written
                      `{idx: n}` under SOURCE_OPTIMIZED (corollaries of `nested_same_options`)
-/
import PyOak.Props.C16
namespace PyOak
namespace C16
open SerOpts

def TagFirstSorted (fs : List JF) : Prop :=
  ∃ rest, keys fs = TYPE_KEY :: rest ∧ SortedK rest ∧ TYPE_KEY ∉ rest

/-- the four shapes a mapping can have in a key-sorted, tagged serialization under `g` -/
def STShape (g : G) (fs : List JF) : Prop :=
  fs = [] ∨ (g.opts.srcOn = true ∧ keys fs = [idxKey]) ∨
  (g.opts.ast = some .test ∧ keys fs = [sourceKey]) ∨ TagFirstSorted fs

/-- `SortedMap` accepts a mapping whose tag is NOT first -/
theorem sortedMap_too_weak :
    SortedMap [.mk "ARGS".toList (.lit []), .mk TYPE_KEY (.str []), .mk "a".toList (.lit [])] ∧
    ¬ TagFirstSorted [.mk "ARGS".toList (.lit []), .mk TYPE_KEY (.str []), .mk "a".toList (.lit [])] := by
  refine ⟨by decide, ?_⟩
  rintro ⟨rest, h, -⟩
  exact absurd (List.cons.inj h).1 (by decide)

/-- a tag-first mapping is in particular `SortedMap`, and (`head`) starts with the tag as the third
shape of `TaggedMap` asks -/
theorem TagFirstSorted.sortedMap {fs : List JF} (h : TagFirstSorted fs) : SortedMap fs := by
  obtain ⟨rest, hk, hs, -⟩ := h
  simpa [SortedMap, hk, dropTagK] using hs

theorem TagFirstSorted.head {fs : List JF} (h : TagFirstSorted fs) : (keys fs).head? = some TYPE_KEY := by
  obtain ⟨rest, hk, -, -⟩ := h
  simp [hk]

theorem TagFirstSorted.count {fs : List JF} (h : TagFirstSorted fs) : (keys fs).count TYPE_KEY = 1 := by
  obtain ⟨rest, hk, -, hn⟩ := h
  simp [hk, List.count_eq_zero.mpr hn]

theorem HookShape.tagFirstSorted {o : Opts} {cls : Str} {ks : List Str} {fs : List JF}
    (h : HookShape o cls ks fs) (hs : o.sortOn = true) (hk : o.skipOn = false)
    (hn : TYPE_KEY ∉ ks) : TagFirstSorted fs := by
  obtain ⟨rest, rfl, hsub, hsorted⟩ := h
  rw [if_neg (by simp [hk])]
  refine ⟨keys rest, rfl, hsorted hs, fun hm => ?_⟩
  rcases hsub _ hm with e | hm
  · exact childrenKey_ne_tag e.symm
  · exact hn hm

theorem stShape_setSource (g : G) (ht : g.opts.ast = some .test) (dm : J) (fs : List JF)
    (h : fs = [] ∨ sourceKey ∈ keys fs) (hsh : STShape g fs) : STShape g (setKey sourceKey dm fs) := by
  rcases h with rfl | h
  · exact .inr (.inr (.inl ⟨ht, rfl⟩))
  · rcases hsh with rfl | hsh
    · cases h
    · refine .inr ?_
      unfold TagFirstSorted
      rw [keys_setKey_of_mem sourceKey dm fs h]
      exact hsh

mutual
theorem allObj_and (a b : SObj → Bool) (o : SObj) (ha : allObj a o = true) (hb : allObj b o = true) :
    allObj (fun x => a x && b x) o = true := by
  match o with
  | .empty => rfl
  | .mk k c i fs cn =>
    rw [allObj_mk] at ha hb ⊢
    exact ⟨Bool.and_eq_true_iff.2 ⟨ha.1, hb.1⟩, allObjFs_and a b fs ha.2 hb.2⟩
theorem allObjFs_and (a b : SObj → Bool) (fs : List SField) (ha : allObjFs a fs = true)
    (hb : allObjFs b fs = true) : allObjFs (fun x => a x && b x) fs = true := by
  match fs with
  | [] => rfl
  | f :: r =>
    rw [allObjFs_cons] at ha hb ⊢
    exact ⟨allObjF_and a b f ha.1 hb.1, allObjFs_and a b r ha.2 hb.2⟩
theorem allObjF_and (a b : SObj → Bool) (f : SField) (ha : allObjF a f = true)
    (hb : allObjF b f = true) : allObjF (fun x => a x && b x) f = true := by
  match f with
  | .mk _ v => exact allObjV_and a b v ha hb
theorem allObjV_and (a b : SObj → Bool) (v : SVal) (ha : allObjV a v = true)
    (hb : allObjV b v = true) : allObjV (fun x => a x && b x) v = true := by
  match v with
  | .atom _ _ => rfl
  | .bomb => rfl
  | .seq xs => exact allObjVs_and a b xs ha hb
  | .obj o => exact allObj_and a b o ha hb
theorem allObjVs_and (a b : SObj → Bool) (xs : List SVal) (ha : allObjVs a xs = true)
    (hb : allObjVs b xs = true) : allObjVs (fun x => a x && b x) xs = true := by
  match xs with
  | [] => rfl
  | x :: r =>
    rw [allObjVs_cons] at ha hb ⊢
    exact ⟨allObjV_and a b x ha.1 hb.1, allObjVs_and a b r ha.2 hb.2⟩
end

/-- **With key sorting (and tags not suppressed) every nested mapping lists the type tag FIRST,
the remaining keys in sorted order, and the tag only once** — except the three tag-less shapes
that the library writes by design: the empty `No*` placeholder, the index reference of a source
(only under SOURCE_OPTIMIZED) and `{source: …}` (only under AST_TEST, the patched `NoOrigin`).
For every object tree, every AST dialect, every mashumaro dialect. -/
theorem sorted_tagged_all (g : G) (hs : g.opts.sortOn = true) (hk : g.opts.skipOn = false)
    (o : SObj) (j : J) (hw : OriginOK o) (hn : NoTagFields o) (h : serObj g o = .ok j) :
    AllMaps (STShape g) j := by
  refine serObj_allMaps (STShape g) (fun x => originOK1 x && noTagField1 x) g (.inl rfl)
    (fun hsrc n => .inr (.inl ⟨hsrc, rfl⟩)) ?_ o j (allObj_and _ _ o hw hn) h
  intro kind cls idx fields cn d hwf hser hd
  have hwf := Bool.and_eq_true_iff.1 hwf
  refine ⟨.inr (.inr (.inr ((hookShape_post g.opts kind cls cn d).tagFirstSorted hs hk
      (not_mem_keys_of_fields g fields d hser TYPE_KEY hwf.2)))),
    allMapsF_post (STShape g) g.opts kind cls cn d hd fun hkind ht =>
      ⟨allMaps_testSource _ _ (.inr (.inr (.inr ((hookShape_postMixin g.opts _ _).tagFirstSorted
          hs hk tag_not_mem_testSource_keys)))),
        fun fs hm hfs => stShape_setSource g ht _ fs ?_ hfs⟩⟩
  subst hkind
  exact origin_entry_shape g cls idx fields cn d hwf.1 hser fs hm

section imp
variable {P Q : List JF → Prop} (hPQ : ∀ fs, P fs → Q fs)
include hPQ
mutual
theorem AllMaps.imp (j : J) (h : AllMaps P j) : AllMaps Q j := by
  match j with
  | .str _ => trivial
  | .lit _ => trivial
  | .arr xs => exact AllMapsL.imp xs h
  | .map fs => exact ⟨hPQ _ h.1, AllMapsF.imp fs h.2⟩
theorem AllMapsL.imp (l : List J) (h : AllMapsL P l) : AllMapsL Q l := by
  match l with
  | [] => trivial
  | x :: r => exact ⟨AllMaps.imp x h.1, AllMapsL.imp r h.2⟩
theorem AllMapsF.imp (l : List JF) (h : AllMapsF P l) : AllMapsF Q l := by
  match l with
  | [] => trivial
  | .mk k v :: r => exact ⟨AllMaps.imp v h.1, AllMapsF.imp r h.2⟩
end
end imp

def EmptyOrTagFirst (fs : List JF) : Prop := fs = [] ∨ TagFirstSorted fs

/-- outside AST_TEST and without index-based sources (e.g. SORT_KEYS alone, or with the explorer
dialect) only the placeholder `{}` is tag-less -/
theorem sorted_tagged_plain (g : G) (hs : g.opts.sortOn = true) (hk : g.opts.skipOn = false)
    (ht : g.opts.ast ≠ some .test) (hsrc : g.opts.srcOn = false)
    (o : SObj) (j : J) (hw : OriginOK o) (hn : NoTagFields o) (h : serObj g o = .ok j) :
    AllMaps EmptyOrTagFirst j := by
  refine AllMaps.imp ?_ j (sorted_tagged_all g hs hk o j hw hn h)
  rintro fs (h | ⟨h, -⟩ | ⟨h, -⟩ | h)
  · exact .inl h
  · rw [hsrc] at h; cases h
  · exact absurd h ht
  · exact .inr h

/-- the serialized top-level object itself (not a placeholder, not an index reference): tag
first — its class name —, the remaining keys sorted -/
theorem sorted_tagged_top (g : G) (hs : g.opts.sortOn = true) (hk : g.opts.skipOn = false)
    (kind : Kind) (cls : Str) (idx : Nat) (fs : List SField) (cn : List Str) (j : J)
    (hidx : ¬ (kind = .source ∧ g.opts.srcOn = true))
    (hw : OriginOK (.mk kind cls idx fs cn)) (hn : NoTagFields (.mk kind cls idx fs cn))
    (h : serObj g (.mk kind cls idx fs cn) = .ok j) :
    ∃ rest, j = .map (.mk TYPE_KEY (.str cls) :: rest) ∧ SortedK (keys rest) ∧ TYPE_KEY ∉ keys rest := by
  obtain ⟨d, hd, rfl⟩ := (serObj_mk_ok hidx).1 h
  have hshape := hookShape_post g.opts kind cls cn d
  obtain ⟨rest, hr⟩ := post_head g.opts hk kind cls cn d
  obtain ⟨r, h1, h2, h3⟩ := hshape.tagFirstSorted hs hk
    (not_mem_keys_of_fields g fs d hd TYPE_KEY ((allObj_mk _ kind cls idx fs cn).1 hn).1)
  rw [hr] at h1 ⊢
  cases h1
  exact ⟨rest, rfl, h2, h3⟩

/-! ### SORT_KEYS together with SKIP_CLASS (the AST_TEST combination): all keys sorted, no tag -/

def SortedNoTag (fs : List JF) : Prop := SortedK (keys fs) ∧ TYPE_KEY ∉ keys fs

theorem sortedNoTag_of (fs : List JF) (h1 : SortedMap fs) (h2 : NoTag fs) : SortedNoTag fs := by
  refine ⟨?_, h2⟩
  unfold SortedMap at h1
  unfold NoTag at h2
  cases hk : keys fs with
  | nil => exact List.Pairwise.nil
  | cons k r =>
    rw [hk] at h1 h2
    have : k ≠ TYPE_KEY := fun e => h2 (by simp [e])
    simpa [dropTagK, this] using h1

mutual
theorem AllMaps.and {P Q : List JF → Prop} (j : J) (h : AllMaps P j) (g : AllMaps Q j) :
    AllMaps (fun fs => P fs ∧ Q fs) j := by
  match j with
  | .str _ => trivial
  | .lit _ => trivial
  | .arr xs => exact AllMapsL.and xs h g
  | .map fs => exact ⟨⟨h.1, g.1⟩, AllMapsF.and fs h.2 g.2⟩
theorem AllMapsL.and {P Q : List JF → Prop} (l : List J) (h : AllMapsL P l) (g : AllMapsL Q l) :
    AllMapsL (fun fs => P fs ∧ Q fs) l := by
  match l with
  | [] => trivial
  | x :: r => exact ⟨AllMaps.and x h.1 g.1, AllMapsL.and r h.2 g.2⟩
theorem AllMapsF.and {P Q : List JF → Prop} (l : List JF) (h : AllMapsF P l) (g : AllMapsF Q l) :
    AllMapsF (fun fs => P fs ∧ Q fs) l := by
  match l with
  | [] => trivial
  | .mk k v :: r => exact ⟨AllMaps.and v h.1 g.1, AllMapsF.and r h.2 g.2⟩
end

/-- **With key sorting and tag suppression every nested mapping has ALL its keys in sorted order
and no type tag** — every dialect (this is what the AST_TEST front end asks for) -/
theorem sorted_untagged_all (g : G) (hs : g.opts.sortOn = true) (hk : g.opts.skipOn = true)
    (o : SObj) (j : J) (hw : OriginOK o) (hn : NoTagFields o) (h : serObj g o = .ok j) :
    AllMaps SortedNoTag j :=
  AllMaps.imp (fun fs hh => sortedNoTag_of fs hh.1 hh.2) j
    (AllMaps.and j (sorted_all g hs o j hw h) (untagged_all g hk o j hn h))

/-! ### the tag VALUE and the index references, at every depth -/

/-- **every object the serialization reaches** (not a placeholder, not an index reference) is
written somewhere in the output as a mapping whose first entry is `__type: <its class name>` -/
theorem nested_tag_is_class (g : G) (hk : g.opts.skipOn = false) (ht : g.opts.ast ≠ some .test)
    (o : SObj) (j : J) (hw : allObj noChildrenField1 o = true) (h : serObj g o = .ok j)
    (kind : Kind) (cls : Str) (idx : Nat) (fs : List SField) (cn : List Str)
    (ho : SObj.mk kind cls idx fs cn ∈ subObjs g o)
    (hidx : ¬ (kind = .source ∧ g.opts.srcOn = true)) :
    ∃ rest, J.map (.mk TYPE_KEY (.str cls) :: rest) ∈ subsJ j := by
  obtain ⟨j', hj', hs'⟩ := nested_same_options g ht o j hw h _ ho
  obtain ⟨rest, rfl⟩ := mk_carries_class_tag g hk kind cls idx fs cn j' hidx hs'
  exact ⟨rest, hj'⟩

/-- under SOURCE_OPTIMIZED **every** reached source is written as `{idx: <registry index>}` -/
theorem nested_source_is_idx (g : G) (hsrc : g.opts.srcOn = true) (ht : g.opts.ast ≠ some .test)
    (o : SObj) (j : J) (hw : allObj noChildrenField1 o = true) (h : serObj g o = .ok j)
    (cls : Str) (idx : Nat) (fs : List SField) (cn : List Str)
    (ho : SObj.mk .source cls idx fs cn ∈ subObjs g o) :
    J.map [.mk idxKey (.lit (natStr idx))] ∈ subsJ j := by
  obtain ⟨j', hj', hs'⟩ := nested_same_options g ht o j hw h _ ho
  simp only [serObj, hsrc, and_self, if_true] at hs'
  cases hs'
  exact hj'

def gSort : G := { opts := { sort := some true } }
def gSortTest : G := { opts := { sort := some true, ast := some .test, src := some true } }
def gSortSkip : G := { opts := { sort := some true, skip := some true, ast := some .test } }

example : ∃ j, serObj gSort good = .ok j ∧ AllMaps EmptyOrTagFirst j :=
  ⟨_, rfl, sorted_tagged_plain gSort rfl rfl (by decide) rfl good _ good_originOK good_noTagFields rfl⟩
example : ∃ j, serObj gSortExplorer good = .ok j ∧ AllMaps EmptyOrTagFirst j :=
  ⟨_, rfl, sorted_tagged_plain gSortExplorer rfl rfl (by decide) rfl good _ good_originOK good_noTagFields
    rfl⟩
example : ∃ j, serObj gSortTest good = .ok j ∧ AllMaps (STShape gSortTest) j :=
  ⟨_, rfl, sorted_tagged_all gSortTest rfl rfl good _ good_originOK good_noTagFields rfl⟩
example : ∃ j, serObj gSortSkip good = .ok j ∧ AllMaps SortedNoTag j :=
  ⟨_, rfl, sorted_untagged_all gSortSkip rfl rfl good _ good_originOK good_noTagFields rfl⟩
/-- the output is a mapping whose entry `origin` is a mapping with the single key `source` -/
def hasBareSourceOrigin : J → Bool
  | .map fs => fs.any fun f => f.key == originKey &&
      (match f.val with | .map m => keys m == [sourceKey] | _ => false)
  | _ => false

/-- the `{source}` shape really occurs (AST_TEST, a leaf whose origin is `NoOrigin`) -/
theorem test_patches_noOrigin :
    ∃ j, serObj gSortTest (demoLeaf (at1 "z")) = .ok j ∧ hasBareSourceOrigin j = true :=
  ⟨_, rfl, by decide +kernel⟩

/-- the STRICT reading of the property text ("with key sorting EVERY nested mapping lists the type
tag first", allowing only the placeholder `{}` and the index reference) is false of the model — and
of the library (checked on /repo: `Leaf().as_dict(serialization_options={SORT_KEYS: True,
AST_SERIALIZE_DIALECT_KEY: AST_TEST})["origin"] == {"source": {...}}`, no `__type`): under AST_TEST
the `NoOrigin` of a node is patched into `{source: …}`.  Hence the third shape of `STShape`. -/
theorem sorted_tagged_strict_fails :
    ∃ j, serObj gSortTest (demoLeaf (at1 "z")) = .ok j ∧
      ¬ AllMaps (fun fs => fs = [] ∨ keys fs = [idxKey] ∨ TagFirstSorted fs) j := by
  obtain ⟨j, hj, hw⟩ := test_patches_noOrigin
  refine ⟨j, hj, fun h => ?_⟩
  -- the `origin` mapping has the keys `[source]`: none of the three shapes
  cases j with
  | map fs =>
    obtain ⟨⟨k, v⟩, hf, hm⟩ := List.any_eq_true.1 hw
    have hv := (allMapsF_iff _ _).1 h.2 _ hf
    cases v with
    | map m =>
      have hm : keys m = [sourceKey] := by simpa [JF.val] using (Bool.and_eq_true_iff.1 hm).2
      rcases hv.1 with h0 | h1 | ⟨rest, h2, -, -⟩
      · rw [h0] at hm; cases hm
      · rw [hm] at h1; exact absurd h1 (by decide +kernel)
      · rw [hm] at h2; exact sourceKey_ne_tag (List.cons.inj h2).1
    | _ => simp [JF.val] at hm
  | _ => cases hw

example (j : J) (h : serObj gSortExplorer good = .ok j) :
    ∃ rest, J.map (.mk TYPE_KEY (.str "Leaf".toList) :: rest) ∈ subsJ j :=
  nested_tag_is_class gSortExplorer rfl (by decide) good j good_noChildrenFields h .node _ 0 _ []
    leaf_reached (by decide)
/-- NoTagFields is needed: a class with a field called `__type` gets the tag twice -/
example : ∃ fs, serObj gSort (.mk .other "C".toList 0 [fld "__type" (at1 "x")] []) = .ok (.map fs) ∧
    ¬ TagFirstSorted fs := by
  refine ⟨_, rfl, ?_⟩
  rintro ⟨rest, h, -, hn⟩
  have h' : TYPE_KEY :: [TYPE_KEY] = TYPE_KEY :: rest := h
  injection h' with _ h'
  exact hn (by rw [← h']; simp)

end C16
end PyOak
