/-
C15 — `concat_origins` as a statement about the OPERAND LIST.

`concat_origins(o, *os)` folds `+`.  The accumulated value can fuse with the next operand only while it is still ONE code
origin, i.e. only at the head of the list of non-empty operands.  So (all for flat operands; no validity hypothesis):

* `concat_eq_merge_fuse`:  `concat o os = merge (fuseLive (live (o :: os)))` where `live` drops the NoOrigin operands and
  `fuseLive` replaces, left to right, the first two operands by their hull while they are fusable code origins
  (same source, overlapping or touching);
* `concat_eq_merge_iff`:   `concat o os = merge (o :: os)`  IFF  the first two non-empty operands are not fusable;
* `concat_eq_merge`:       in particular whenever no two adjacent non-empty operands are fusable;
  `concat_eq_merge_adjacent_fails`: "adjacent" must be read after dropping NoOrigin (witness `[c02, NoOrigin, c24]`);
  `concat_inner_not_fused`: fusable neighbours that are NOT at the head are listed unfused (`[xB, c02, c24]`);
* `concat_lists_operands`: the result lists exactly the operands with NoOrigin dropped and multi-origins flattened, in
  order (`(o :: os).flatMap leaves`), when the head is not fusable; `concat_lists_fused` in general.
-/
import PyOak.Props.C15Total
namespace PyOak.C15
open PyOak.Gen PyOak.OriginAlg

def live (xs : List Origin) : List Origin := xs.filter (fun o => !o.isNone)

/-- fuse `a` with the following operands as long as the next one is fusable with what has been accumulated -/
def fuseFrom : Origin → List Origin → List Origin
  | a, [] => [a]
  | a, b :: r => if mergeable a b then fuseFrom (fuse a b) r else a :: b :: r

/-- head fusion on a list of non-empty operands -/
def fuseLive : List Origin → List Origin
  | [] => []
  | a :: r => fuseFrom a r

def headFusable (xs : List Origin) : Bool :=
  match live xs with
  | a :: b :: _ => mergeable a b
  | _ => false

def adjFusable : List Origin → Bool
  | a :: b :: r => mergeable a b || adjFusable (b :: r)
  | _ => false

theorem flat_none : Flat .none := trivial

theorem add_none_right (a : Origin) (ha : Flat a) : add a .none = .ok a := by
  have hm : mergeable a .none = false := by cases a <;> rfl
  rw [add_eq_merge a .none hm, merge_flat_spec [a, .none] (forall_mem_pair ha flat_none)]
  simpa [leaves] using flat_pack_leaves a ha

theorem add_none_left (b : Origin) (hb : Flat b) : add .none b = .ok b := by
  rw [add_eq_merge .none b rfl, merge_flat_spec [.none, b] (forall_mem_pair flat_none hb)]
  simpa [leaves] using flat_pack_leaves b hb

theorem flat_leaves_ne (a : Origin) (ha : Flat a) (hn : a.isNone = false) : 1 ≤ (leaves a).length := by
  cases a with
  | none => cases hn
  | code g s r => exact Nat.le_refl 1
  | other k s p => exact Nat.le_refl 1
  | multi s p os =>
    match os, ha.2 with
    | x :: y :: r, _ => exact Nat.le_add_left 1 _

/-- a `+` that does not fuse, on flat operands: returns a flat origin listing both listings -/
theorem add_unfused (a b : Origin) (ha : Flat a) (hb : Flat b) (hm : mergeable a b = false) :
    ∃ r, add a b = .ok r ∧ Flat r ∧ leaves r = leaves a ++ leaves b := by
  rw [add_eq_merge a b hm]
  obtain ⟨r, hr⟩ := merge_ok [a, b]
  exact ⟨r, hr, by simpa using merge_flat [a, b] (forall_mem_pair ha hb) r hr⟩

/-! ### the listing of `concat_origins` as a function of the operand list

On flat operands both operations are `pack` of a listing (`concat_eq_pack`, `merge_flat_spec`), so everything below is
about the two listings: the fold of `specStep` and `flatMap leaves`. -/

theorem concat_eq_pack (o : Origin) (os : List Origin) (ho : Flat o) (hf : ∀ b ∈ os, Flat b) :
    concat o os = pack (os.foldl specStep (leaves o)) := by
  obtain ⟨r, hr⟩ := concat_total o os
  have h := concat_flat o os ho hf r hr
  rw [hr, ← h.2, flat_pack_leaves r h.1]

theorem specStep_none (acc : List Origin) : specStep acc .none = acc := by
  unfold specStep
  split
  · rename_i h; cases h
  · exact List.append_nil _

/-- a listing of two or more is no longer a single code origin: nothing fuses with it -/
theorem specStep_long (acc : List Origin) (b : Origin) (h : 2 ≤ acc.length) : specStep acc b = acc ++ leaves b := by
  unfold specStep
  split
  · exact absurd h (Nat.not_succ_le_self 1)
  · rfl

theorem foldl_specStep_long (os : List Origin) (acc : List Origin) (h : 2 ≤ acc.length) :
    os.foldl specStep acc = acc ++ os.flatMap leaves := by
  induction os generalizing acc with
  | nil => exact (List.append_nil acc).symm
  | cons b t ih =>
    rw [List.foldl_cons, specStep_long acc b h, ih _ (by rw [List.length_append]; omega), List.flatMap_cons,
      List.append_assoc]

theorem live_cons (b : Origin) (t : List Origin) : live (b :: t) = if b.isNone then live t else b :: live t := by
  cases hb : b.isNone <;> simp [live, hb]

theorem live_flat (xs : List Origin) (hf : ∀ b ∈ xs, Flat b) : ∀ b ∈ live xs, Flat b ∧ b.isNone = false := by
  intro b hb
  simp only [live, List.mem_filter, Bool.not_eq_eq_eq_not, Bool.not_true] at hb
  exact ⟨hf b hb.1, hb.2⟩

theorem isNone_eq (b : Origin) (h : b.isNone = true) : b = .none := by
  cases b <;> first | rfl | cases h

theorem foldl_specStep_live (os : List Origin) (acc : List Origin) :
    os.foldl specStep acc = (live os).foldl specStep acc := by
  induction os generalizing acc with
  | nil => rfl
  | cons b t ih =>
    rw [live_cons, List.foldl_cons, ih]
    cases hb : b.isNone
    · rfl
    · rw [isNone_eq b hb, specStep_none]; rfl

theorem flatMap_leaves_live (xs : List Origin) : (live xs).flatMap leaves = xs.flatMap leaves := by
  induction xs with
  | nil => rfl
  | cons b t ih =>
    rw [live_cons, List.flatMap_cons, ← ih]
    cases hb : b.isNone
    · rfl
    · rw [isNone_eq b hb]; rfl

theorem foldl_specStep_fuseFrom (a : Origin) (r : List Origin) (h : ∀ b ∈ a :: r, Flat b ∧ b.isNone = false) :
    r.foldl specStep (leaves a) = (fuseFrom a r).flatMap leaves := by
  induction r generalizing a with
  | nil => exact (List.flatMap_singleton ..).symm
  | cons b t ih =>
    have ⟨ha, h'⟩ := List.forall_mem_cons.mp h
    have ⟨hb, ht⟩ := List.forall_mem_cons.mp h'
    rw [List.foldl_cons, specStep_leaves a b ha.1, fuseFrom]
    by_cases hm : mergeable a b = true
    · have fl := fuse_leaf a b hm
      rw [if_pos hm, if_pos hm, ← fl.2.2]
      exact ih (fuse a b) (List.forall_mem_cons.mpr ⟨⟨fl.2.1, fl.1⟩, ht⟩)
    · have l1 := flat_leaves_ne a ha.1 ha.2
      have l2 := flat_leaves_ne b hb.1 hb.2
      rw [if_neg hm, if_neg hm, foldl_specStep_long t _ (by rw [List.length_append]; omega), List.flatMap_cons,
        List.flatMap_cons, List.append_assoc]

theorem foldl_specStep_head (o : Origin) (os : List Origin) :
    os.foldl specStep (leaves o) = match live (o :: os) with
      | [] => []
      | a :: r => r.foldl specStep (leaves a) := by
  rw [foldl_specStep_live, live_cons]
  cases hn : o.isNone
  · rfl
  · rw [isNone_eq o hn]; cases live os <;> rfl

theorem foldl_specStep_fuseLive (o : Origin) (os : List Origin) (ho : Flat o) (hf : ∀ b ∈ os, Flat b) :
    os.foldl specStep (leaves o) = (fuseLive (live (o :: os))).flatMap leaves := by
  have hl := live_flat (o :: os) (List.forall_mem_cons.mpr ⟨ho, hf⟩)
  rw [foldl_specStep_head]
  match h : live (o :: os) with
  | [] => rfl
  | a :: r => exact foldl_specStep_fuseFrom a r (h ▸ hl)

theorem fuseFrom_flat (a : Origin) (t : List Origin) (h : ∀ b ∈ a :: t, Flat b) : ∀ b ∈ fuseFrom a t, Flat b := by
  induction t generalizing a with
  | nil => exact h
  | cons c t ih =>
    have ⟨_, h'⟩ := List.forall_mem_cons.mp h
    rw [fuseFrom]
    by_cases hm : mergeable a c = true
    · rw [if_pos hm]
      exact ih (fuse a c) (List.forall_mem_cons.mpr ⟨(fuse_leaf a c hm).2.1, (List.forall_mem_cons.mp h').2⟩)
    · rw [if_neg hm]; exact h

theorem fuseLive_flat (xs : List Origin) (hf : ∀ b ∈ xs, Flat b) : ∀ b ∈ fuseLive (live xs), Flat b := by
  have hl : ∀ b ∈ live xs, Flat b := fun b hb => (live_flat xs hf b hb).1
  match hlv : live xs with
  | [] => exact fun b hb => nomatch hb
  | a :: t => exact fuseFrom_flat a t (hlv ▸ hl)

/-- **`concat_origins` = `merge_origins` after head fusion, as a function of the operand list** (flat operands):
drop the NoOrigin operands; while the first two remaining operands are code origins of `==` sources whose ranges
overlap or touch, replace them by one `CodeOrigin` over the hull (left source); merge what is left. -/
theorem concat_eq_merge_fuse (o : Origin) (os : List Origin) (ho : Flat o) (hf : ∀ b ∈ os, Flat b) :
    concat o os = merge (fuseLive (live (o :: os))) := by
  rw [concat_eq_pack o os ho hf, merge_flat_spec _ (fuseLive_flat _ (List.forall_mem_cons.mpr ⟨ho, hf⟩)),
    foldl_specStep_fuseLive o os ho hf]

theorem concat_live_tail (a : Origin) (t : List Origin) (ha : Flat a) (hf : ∀ b ∈ t, Flat b) :
    concat a t = concat a (live t) := by
  rw [concat_eq_pack a t ha hf, concat_eq_pack a _ ha (fun b hb => (live_flat t hf b hb).1), foldl_specStep_live]

theorem concat_live (o : Origin) (os : List Origin) (ho : Flat o) (hf : ∀ b ∈ os, Flat b) :
    concat o os = (match live (o :: os) with
      | [] => .ok .none
      | a :: r => concat a r) := by
  have hl := live_flat (o :: os) (List.forall_mem_cons.mpr ⟨ho, hf⟩)
  rw [concat_eq_pack o os ho hf, foldl_specStep_head]
  match h : live (o :: os) with
  | [] => rfl
  | a :: r =>
    have ⟨ha, hr⟩ := List.forall_mem_cons.mp (h ▸ hl)
    exact (concat_eq_pack a r ha.1 (fun c hc => (hr c hc).1)).symm

theorem concat_fuseFrom (a : Origin) (r : List Origin) (ha : Flat a) (hn : a.isNone = false)
    (hf : ∀ b ∈ r, Flat b ∧ b.isNone = false) : concat a r = merge (fuseFrom a r) := by
  have hfr : ∀ b ∈ r, Flat b := fun b hb => (hf b hb).1
  rw [concat_eq_pack a r ha hfr, foldl_specStep_fuseFrom a r (List.forall_mem_cons.mpr ⟨⟨ha, hn⟩, hf⟩),
    merge_flat_spec _ (fuseFrom_flat a r (List.forall_mem_cons.mpr ⟨ha, hfr⟩))]

theorem merge_live (xs : List Origin) (hf : ∀ b ∈ xs, Flat b) : merge (live xs) = merge xs := by
  rw [merge_flat_spec xs hf, merge_flat_spec (live xs) (fun b hb => (live_flat xs hf b hb).1), flatMap_leaves_live]

/-- an accumulated multi-origin never fuses again -/
theorem concat_multi (a : Origin) (os : List Origin) (ha : Flat a) (h2 : 2 ≤ (leaves a).length)
    (hf : ∀ b ∈ os, Flat b) : concat a os = pack (leaves a ++ os.flatMap leaves) := by
  rw [concat_eq_pack a os ha hf, foldl_specStep_long os _ h2]

theorem headFusable_true {xs : List Origin} (h : headFusable xs = true) :
    ∃ a b r, live xs = a :: b :: r ∧ mergeable a b = true := by
  unfold headFusable at h
  split at h
  · exact ⟨_, _, _, ‹_›, h⟩
  · cases h

theorem fuseLive_of_not_headFusable (xs : List Origin) (h : headFusable xs = false) : fuseLive (live xs) = live xs := by
  match hl : live xs with
  | [] => rfl
  | [a] => rfl
  | a :: b :: r =>
    rw [headFusable, hl] at h
    rw [fuseLive, fuseFrom, show mergeable a b = false from h]; rfl

/-- fusion never lengthens the listing … -/
theorem fuseFrom_length (a : Origin) (r : List Origin) :
    ((fuseFrom a r).flatMap leaves).length ≤ ((a :: r).flatMap leaves).length := by
  induction r generalizing a with
  | nil => exact Nat.le_refl _
  | cons b t ih =>
    rw [fuseFrom]
    by_cases hm : mergeable a b = true
    · rw [if_pos hm]
      refine Nat.le_trans (ih (fuse a b)) ?_
      obtain ⟨ga, sa, ra, gb, sb, rb, rfl, rfl⟩ := mergeable_code a b hm
      simp [fuse, leaves, List.flatMap_cons]
    · rw [if_neg hm]; exact Nat.le_refl _

/-- … and a fusable head shortens it -/
theorem fuseLive_length_lt (xs : List Origin) (h : headFusable xs = true) :
    ((fuseLive (live xs)).flatMap leaves).length < (xs.flatMap leaves).length := by
  obtain ⟨a, b, r, hl, hm⟩ := headFusable_true h
  rw [← flatMap_leaves_live xs, hl, fuseLive, fuseFrom, if_pos hm]
  refine Nat.lt_of_le_of_lt (fuseFrom_length (fuse a b) r) ?_
  obtain ⟨ga, sa, ra, gb, sb, rb, rfl, rfl⟩ := mergeable_code a b hm
  simp [fuse, leaves, List.flatMap_cons]

/-- `concat_origins` on flat operands lists the head-fused operands -/
theorem concat_lists_fused (o : Origin) (os : List Origin) (ho : Flat o) (hf : ∀ b ∈ os, Flat b) :
    ∃ r, concat o os = .ok r ∧ Flat r ∧ leaves r = (fuseLive (live (o :: os))).flatMap leaves := by
  obtain ⟨r, hr⟩ := concat_total o os
  have h := concat_flat o os ho hf r hr
  exact ⟨r, hr, h.1, h.2.trans (foldl_specStep_fuseLive o os ho hf)⟩

/-- **exact boundary**: on flat operands `concat_origins(o, *os)` and `merge_origins(o, *os)` agree IFF the first two
non-empty operands are not fusable code origins -/
theorem concat_eq_merge_iff (o : Origin) (os : List Origin) (ho : Flat o) (hf : ∀ b ∈ os, Flat b) :
    concat o os = merge (o :: os) ↔ headFusable (o :: os) = false := by
  have hfa := List.forall_mem_cons.mpr ⟨ho, hf⟩
  constructor
  · intro heq
    cases hh : headFusable (o :: os) with
    | false => rfl
    | true =>
      -- the same origin would list both the fused and the unfused operands
      obtain ⟨r, hr, _, h1⟩ := concat_lists_fused o os ho hf
      have h2 := (merge_flat (o :: os) hfa r (heq.symm.trans hr)).2
      have hlt := fuseLive_length_lt (o :: os) hh
      rw [← h1, h2] at hlt
      exact absurd hlt (Nat.lt_irrefl _)
  · intro hh
    rw [concat_eq_merge_fuse o os ho hf, fuseLive_of_not_headFusable (o :: os) hh, merge_live (o :: os) hfa]

theorem headFusable_adj (xs : List Origin) (h : headFusable xs = true) : adjFusable (live xs) = true := by
  obtain ⟨a, b, r, hl, hm⟩ := headFusable_true h
  rw [hl, adjFusable, hm]; rfl

/-- **`concat_origins` = `merge_origins` whenever no two adjacent non-empty operands are fusable code origins** -/
theorem concat_eq_merge (o : Origin) (os : List Origin) (ho : Flat o) (hf : ∀ b ∈ os, Flat b)
    (h : adjFusable (live (o :: os)) = false) : concat o os = merge (o :: os) := by
  apply (concat_eq_merge_iff o os ho hf).mpr
  cases hh : headFusable (o :: os) with
  | false => rfl
  | true => rw [headFusable_adj _ hh] at h; cases h

/-- **"lists the non-empty operands in order" about the operand list**: when the head is not fusable the result of
`concat_origins` on flat operands is flat and lists exactly the operands with NoOrigin dropped and multi-origins
flattened, in order; NoOrigin when nothing remains, the operand itself when one remains, else the MultiOrigin of them -/
theorem concat_lists_operands (o : Origin) (os : List Origin) (ho : Flat o) (hf : ∀ b ∈ os, Flat b)
    (h : headFusable (o :: os) = false) :
    ∃ r, concat o os = .ok r ∧ Flat r ∧ leaves r = (o :: os).flatMap leaves ∧
      concat o os = pack ((o :: os).flatMap leaves) := by
  have hfa := List.forall_mem_cons.mpr ⟨ho, hf⟩
  have he := (concat_eq_merge_iff o os ho hf).mpr h
  obtain ⟨r, hr⟩ := merge_ok (o :: os)
  have := merge_flat (o :: os) hfa r hr
  exact ⟨r, he.trans hr, this.1, this.2, by rw [he, merge_flat_spec (o :: os) hfa]⟩

/-- "adjacent" has to be read after dropping NoOrigin: `[c02, NoOrigin, c24]` has no two adjacent fusable operands, yet
concat fuses (one code origin 0-4) where merge lists two -/
theorem concat_eq_merge_adjacent_fails :
    adjFusable [c02, .none, c24] = false ∧
    (concat c02 [.none, c24]).toOption.map leaves = some [.code false sA ⟨⟨0, 1, 0⟩, ⟨4, 1, 4⟩⟩] ∧
    (merge [c02, .none, c24]).toOption.map leaves = some [c02, c24] ∧
    concat c02 [.none, c24] ≠ merge [c02, .none, c24] := by
  refine ⟨by decide, rfl, rfl, fun h => ?_⟩
  exact absurd ((concat_eq_merge_iff c02 [.none, c24] trivial (forall_mem_pair trivial trivial)).mp h) (by decide)

/-- fusable neighbours that are not at the head stay unfused: `concat_origins(xB, c02, c24)` lists three origins -/
theorem concat_inner_not_fused :
    adjFusable (live [xB, c02, c24]) = true ∧ headFusable [xB, c02, c24] = false ∧
    (concat xB [c02, c24]).toOption.map leaves = some [xB, c02, c24] := by
  refine ⟨by decide, by decide, rfl⟩

example : headFusable [c02, .none, c24] = true ∧ fuseLive (live [.none, c02, .none, c24, xB, c57]) =
    [.code false sA ⟨⟨0, 1, 0⟩, ⟨4, 1, 4⟩⟩, xB, c57] := ⟨by decide, rfl⟩
example : adjFusable (live [c02, xB, c57, .none]) = false ∧ headFusable [c02, c57, c24] = false := by decide
example : (concat c02 [xB, c57, .none]).toOption.map leaves = some [c02, xB, c57] := rfl

end PyOak.C15
