/-
C09 — Visitor dispatch and transformation follow the rules and keep untouched parts.

Model: `Model/Visitor.lean` (implementation-shaped: `accept` lookup, the flat loop of
`_transform_children` with its dict and changed-set, `generic_visit`, fuel).
Specification: `Spec/Visitor.lean` (`nearest`, and the bottom-up rewrite `T` by structural recursion).

Theorems (all visitors = all rule tables, strict and non-strict; all trees, no size bound):

* dispatch: `dispatch_strict`, `dispatch_eq_nearest`, `dispatch_nearest`, `dispatch_generic`,
  `dispatch_skips_last` (the last MRO entry, `object`, is never consulted);
* `transform_eq_spec`: the implementation-shaped model = `T` on every well-formed tree value
  (`wf`: field names of a node pairwise distinct, a single field holds at most one node) and the
  fuel `n.size` is sufficient;
* `unchanged_identity` / `unchanged_tree_returns_itself` / `quiet_same`: a subtree in which no rule
  other than generic (keep, return-the-node-itself) fires is returned as the very same object and
  nothing is allocated;
* `generic_result_same_or_new`: a node that calls `generic_visit` is returned itself or as a NEW
  object (identity from the counter, never used before) of the same class (`C09Fresh`: so is every
  ancestor of a change, `changed_ancestors_new`);
* `removed_dropped_in_order`, `anyChanged_of_removed`, `removed_single_none`, `unchanged_field_kept`;
* `input_untouched`: the output consists of newly allocated objects and of literally unchanged
  node values of the input / of replacement nodes (no existing identity ever carries new content).

`C09Rw`, `C09Dispatch`, `C09Fresh` build on `T_ok` and the list inversions, `counter_mono`, `quiet`,
`Below`, `subs`, `Repl`.

Identities: `uid`s are object identities.  Theorems that say "new object" assume the counter is
fresh (`uidsLt c n`: every identity in the tree is `< c`), which is how the harness calls the model.
-/
import PyOak.Spec.Visitor
import PyOak.Lemmas.Framing
namespace PyOak
namespace C09

@[simp] theorem Node.uid_mk (h : Head) (ks : List Kid) : (Node.mk h ks).uid = h.uid := rfl
@[simp] theorem Node.hd_mk (h : Head) (ks : List Kid) : (Node.mk h ks).hd = h := rfl
@[simp] theorem Node.kids_mk (h : Head) (ks : List Kid) : (Node.mk h ks).kids = ks := rfl

theorem dispatch_strict (v : Visitor) (h : Head) (hs : v.strict = true) :
    v.method h = v.getattr h.cls := by
  simp [Visitor.method, hs]

theorem findSome_eq_nearest (has : Str → Option Rule) (l : List Str) :
    l.findSome? has = nearest has l := by
  induction l with
  | nil => rfl
  | cons c r ih =>
    simp only [List.findSome?_cons, nearest]
    cases has c <;> simp [ih]

theorem dispatch_eq_nearest (v : Visitor) (h : Head) (hs : v.strict = false) :
    v.method h = nearest v.getattr h.mro.dropLast := by
  simp [Visitor.method, hs, findSome_eq_nearest]

theorem nearest_some_iff (has : Str → Option Rule) (l : List Str) (r : Rule) :
    nearest has l = some r ↔
      ∃ pre c post, l = pre ++ c :: post ∧ has c = some r ∧ ∀ d ∈ pre, has d = none := by
  rw [← findSome_eq_nearest]; exact List.findSome?_eq_some_iff

theorem nearest_none_iff (has : Str → Option Rule) (l : List Str) :
    nearest has l = none ↔ ∀ c ∈ l, has c = none := by
  rw [← findSome_eq_nearest]; exact List.findSome?_eq_none_iff

/-- non-strict: the method called is the one of the NEAREST class in `mro[:-1]` that has one -/
theorem dispatch_nearest (v : Visitor) (h : Head) (hs : v.strict = false) (r : Rule) :
    v.method h = some r ↔
      ∃ pre c post, h.mro.dropLast = pre ++ c :: post ∧ v.getattr c = some r ∧
        ∀ d ∈ pre, v.getattr d = none := by
  rw [dispatch_eq_nearest v h hs, nearest_some_iff]

/-- `generic_visit` is called exactly when no (admissible) class has a method -/
theorem dispatch_generic (v : Visitor) (h : Head) :
    v.method h = none ↔
      (if v.strict then v.getattr h.cls = none else ∀ c ∈ h.mro.dropLast, v.getattr c = none) := by
  cases hs : v.strict with
  | true => simp [dispatch_strict v h hs]
  | false => simp [dispatch_eq_nearest v h hs, nearest_none_iff]

/-- the last MRO entry (`object`) is never consulted -/
theorem dispatch_skips_last (v : Visitor) (h : Head) (init : List Str) (a b : Str) :
    v.method { h with mro := init ++ [a] } = v.method { h with mro := init ++ [b] } := by
  simp [Visitor.method]


/-! ### the implementation-shaped loop equals the specification -/

/-- `TNodes` with the visit function as a parameter -/
def nodesS (visit : Node → Nat → VRes) : List Node → Nat → Except Err (List Node × Bool × Nat)
  | [], c => .ok ([], false, c)
  | x :: r, c =>
    match visit x c with
    | .error e => .error e
    | .ok (rx, c1) =>
      match nodesS visit r c1 with
      | .error e => .error e
      | .ok (out, chg, c2) => .ok (rx.toList ++ out, !(sameObj rx x) || chg, c2)

/-- per-field record: the field, the new children, whether it changed -/
structure KR where
  k : Kid
  out : List Node
  chg : Bool

def kidsR (visit : Node → Nat → VRes) : List Kid → Nat → Except Err (List KR × Nat)
  | [], c => .ok ([], c)
  | k :: r, c =>
    match nodesS visit k.nodes c with
    | .error e => .error e
    | .ok (out, chg, c1) =>
      match kidsR visit r c1 with
      | .error e => .error e
      | .ok (rs, c2) => .ok (⟨k, out, chg⟩ :: rs, c2)

def KR.chgVal (r : KR) : Chg := if r.k.coll then .seq r.out else .single r.out.head?
def KR.entry (r : KR) : Dict := if r.k.nodes = [] then [] else [(r.k.name, r.chgVal)]
def KR.newKid (r : KR) : Kid := if r.chg then .mk r.k.name r.k.coll r.out else r.k

theorem TNodes_eq (v : Visitor) (ns : List Node) (c : Nat) : TNodes v ns c = nodesS (T v) ns c := by
  induction ns generalizing c with
  | nil => simp [TNodes, nodesS]
  | cons x r ih =>
    simp only [TNodes, nodesS]
    cases T v x c with
    | error e => rfl
    | ok p => simp only [ih] <;> rfl

theorem TKids_eq (v : Visitor) (ks : List Kid) (c : Nat) :
    TKids v ks c = match kidsR (T v) ks c with
      | .error e => .error e
      | .ok (rs, c') => .ok (rs.map KR.newKid, rs.any (·.chg), c') := by
  induction ks generalizing c with
  | nil => simp [TKids, kidsR]
  | cons k r ih =>
    cases k with
    | mk name coll ns =>
      simp only [TKids, kidsR, TKid, TNodes_eq, Kid.nodes]
      cases nodesS (T v) ns c with
      | error e => rfl
      | ok p =>
        obtain ⟨out, chg, c1⟩ := p
        simp only [ih]
        cases kidsR (T v) r c1 with
        | error e => rfl
        | ok q =>
          obtain ⟨rs, c2⟩ := q
          cases chg <;> simp [KR.newKid, Kid.name, Kid.coll]

theorem nodesS_congr (f g : Node → Nat → VRes) (ns : List Node)
    (h : ∀ x ∈ ns, ∀ c, f x c = g x c) (c : Nat) : nodesS f ns c = nodesS g ns c := by
  induction ns generalizing c with
  | nil => rfl
  | cons x r ih =>
    simp only [nodesS, h x (by simp)]
    cases g x c with
    | error e => rfl
    | ok p => simp only [ih (fun y hy => h y (by simp [hy]))]

theorem nodesS_facts (f : Node → Nat → VRes) (ns : List Node) (c : Nat) (out : List Node) (chg : Bool)
    (c' : Nat) (h : nodesS f ns c = .ok (out, chg, c')) :
    out.length ≤ ns.length ∧ (ns = [] → chg = false) := by
  induction ns generalizing c out chg c' with
  | nil => simp [nodesS] at h; simp [h]
  | cons x r ih =>
    unfold nodesS at h
    split at h
    · simp at h
    · rename_i rx c1 _
      split at h
      · simp at h
      · rename_i out' chg' c2 hr
        simp at h; obtain ⟨rfl, _, _⟩ := h
        have := (ih c1 out' chg' c2 hr).1
        cases rx <;> simp <;> omega

theorem has_append (D E : Dict) (f : Str) : Dict.has (D ++ E) f = (D.has f || E.has f) := by
  simp [Dict.has]

theorem has_single (f g : Str) (x : Chg) : Dict.has [(g, x)] f = (g == f) := by
  simp [Dict.has]

theorem push_nohas (D : Dict) (f : Str) (y : Node) (h : D.has f = false) : D.push f y = D := by
  induction D with
  | nil => rfl
  | cons e r ih =>
    simp only [Dict.has, List.any_cons, Bool.or_eq_false_iff] at h
    simp only [Dict.push, List.map_cons, h.1, Bool.false_eq_true, if_false]
    congr 1
    exact ih (by simpa [Dict.has] using h.2)

theorem push_last (D : Dict) (f : Str) (acc : List Node) (y : Node) (h : D.has f = false) :
    (D ++ [(f, Chg.seq acc)]).push f y = D ++ [(f, Chg.seq (acc ++ [y]))] := by
  have := push_nohas D f y h
  simp only [Dict.push] at this
  simp only [Dict.push, List.map_append, this, List.map_cons, List.map_nil, BEq.rfl, if_true]

theorem set_nohas (D : Dict) (f : Str) (x : Chg) (h : D.has f = false) : D.set f x = D ++ [(f, x)] := by
  simp [Dict.set, h]

theorem mem_setAdd (s : List Str) (k x : Str) : x ∈ setAdd s k ↔ x ∈ s ∨ x = k := by
  unfold setAdd
  split
  · rename_i h; simp at h
    constructor
    · exact .inl
    · rintro (h' | rfl) <;> assumption
  · simp

theorem setAdd_idem (s : List Str) (k : Str) : setAdd (setAdd s k) k = setAdd s k := by
  unfold setAdd
  by_cases h : k ∈ s <;> simp [h]

theorem tcLoop_append (visit : Node → Nat → VRes) (a b : List (Node × Edge)) (st : TC) :
    tcLoop visit (a ++ b) st = match tcLoop visit a st with
      | .error e => .error e
      | .ok st' => tcLoop visit b st' := by
  induction a generalizing st with
  | nil => simp [tcLoop]
  | cons x r ih =>
    simp only [List.cons_append, tcLoop]
    cases tcStep visit st x with
    | error e => rfl
    | ok st' => exact ih st'

/-- the loop over the elements of ONE sequence field, entered with the list already in the dict -/
theorem seq_loop (visit : Node → Nat → VRes) (f : Str) (D : Dict) (hD : D.has f = false) :
    ∀ (ns : List Node) (i : Nat) (acc : List Node) (chd : List Str) (c : Nat),
    tcLoop visit ((enumFrom i ns).map fun p => (p.2, (⟨f, some p.1⟩ : Edge)))
        ⟨D ++ [(f, Chg.seq acc)], chd, c⟩ =
      match nodesS visit ns c with
      | .error e => .error e
      | .ok (out, chg, c') =>
        .ok ⟨D ++ [(f, Chg.seq (acc ++ out))], if chg then setAdd chd f else chd, c'⟩
  | [], i, acc, chd, c => by simp [enumFrom, tcLoop, nodesS]
  | x :: r, i, acc, chd, c => by
    have hh : Dict.has (D ++ [(f, Chg.seq acc)]) f = true := by simp [has_append, has_single]
    simp only [enumFrom, List.map_cons, tcLoop, tcStep, nodesS, hh, if_true]
    cases hv : visit x c with
    | error e => rfl
    | ok p =>
      obtain ⟨rx, c1⟩ := p
      cases rx with
      | none =>
        simp only []
        rw [seq_loop visit f D hD r (i + 1) acc (setAdd chd f) c1]
        cases nodesS visit r c1 with
        | error e => rfl
        | ok q =>
          obtain ⟨out, chg, c2⟩ := q
          cases chg <;> simp [sameObj, setAdd_idem]
      | some y =>
        simp only [push_last D f acc y hD]
        rw [seq_loop visit f D hD r (i + 1) (acc ++ [y])]
        cases nodesS visit r c1 with
        | error e => rfl
        | ok q =>
          obtain ⟨out, chg, c2⟩ := q
          by_cases hy : y.uid = x.uid <;> cases chg <;> simp [sameObj, hy, setAdd_idem]


theorem kid_loop (visit : Node → Nat → VRes) (k : Kid) (hk : k.coll = false → k.nodes.length ≤ 1)
    (D : Dict) (hD : D.has k.name = false) (chd : List Str) (c : Nat) :
    tcLoop visit k.edges ⟨D, chd, c⟩ =
      match nodesS visit k.nodes c with
      | .error e => .error e
      | .ok (out, chg, c') =>
        .ok ⟨D ++ KR.entry ⟨k, out, chg⟩, if chg then setAdd chd k.name else chd, c'⟩ := by
  cases k with
  | mk f coll ns =>
    simp only [Kid.name, Kid.coll, Kid.nodes] at hk hD ⊢
    cases coll with
    | true =>
      cases ns with
      | nil => simp [Kid.edges, enumFrom, tcLoop, nodesS, KR.entry, Kid.nodes]
      | cons x r =>
        have h0 := seq_loop visit f D hD (x :: r) 0 [] chd c
        have hh : Dict.has (D ++ [(f, Chg.seq [])]) f = true := by simp [has_append, has_single]
        have : tcLoop visit (Kid.edges (.mk f true (x :: r))) ⟨D, chd, c⟩ =
            tcLoop visit ((enumFrom 0 (x :: r)).map fun p => (p.2, (⟨f, some p.1⟩ : Edge)))
              ⟨D ++ [(f, Chg.seq [])], chd, c⟩ := by
          simp only [Kid.edges, enumFrom, List.map_cons, tcLoop, tcStep, hD, hh]
          rfl
        rw [this, h0]
        cases nodesS visit (x :: r) c with
        | error e => rfl
        | ok q =>
          obtain ⟨out, chg, c2⟩ := q
          simp [KR.entry, KR.chgVal, Kid.nodes, Kid.coll, Kid.name]
    | false =>
      have hl := hk rfl
      cases ns with
      | nil => simp [Kid.edges, tcLoop, nodesS, KR.entry, Kid.nodes]
      | cons x r =>
        cases r with
        | cons y r' => simp at hl
        | nil =>
          simp only [Kid.edges, List.map_cons, List.map_nil, tcLoop, tcStep, nodesS]
          cases hv : visit x c with
          | error e => rfl
          | ok p =>
            obtain ⟨rx, c1⟩ := p
            simp only [set_nohas D f _ hD]
            cases hs : sameObj rx x <;>
              cases rx <;> simp [KR.entry, KR.chgVal, Kid.nodes, Kid.coll, Kid.name]

/-- the entries `_transform_children` hands back: those of the fields marked as changed -/
def kept (st : TC) : Dict := st.changes.filter fun e => st.changed.contains e.1

def KR.kept (r : KR) : Dict := if r.chg then [(r.k.name, r.chgVal)] else []

theorem transformChildren_eq (visit : Node → Nat → VRes) (n : Node) (c : Nat) :
    transformChildren visit n c =
      (tcLoop visit n.edges ⟨[], [], c⟩).map fun st => (kept st, st.ctr) := by
  rw [transformChildren]
  cases tcLoop visit n.edges ⟨[], [], c⟩ with
  | error e => rfl
  | ok st =>
    obtain ⟨D, chd, c'⟩ := st
    cases chd with
    | nil =>
      exact congrArg (fun x => Except.ok (x, c'))
        (List.filter_eq_nil_iff.mpr fun _ _ h => Bool.noConfusion h).symm
    | cons a t => rfl

theorem kept_step (D : Dict) (chd : List Str) (c c' : Nat) (r : KR) (hD : D.has r.k.name = false)
    (hc : r.k.name ∉ chd) (hn : r.k.nodes = [] → r.chg = false) :
    kept ⟨D ++ r.entry, if r.chg then setAdd chd r.k.name else chd, c'⟩ =
      kept ⟨D, chd, c⟩ ++ r.kept := by
  have hD' : ∀ e ∈ D, e.1 ≠ r.k.name := by simpa [Dict.has] using hD
  unfold kept KR.kept KR.entry
  cases hchg : r.chg
  · by_cases hnn : r.k.nodes = [] <;> simp [hnn, hc]
  · have hnn : r.k.nodes ≠ [] := fun e => by rw [hn e] at hchg; cases hchg
    have : setAdd chd r.k.name = chd ++ [r.k.name] := by simp [setAdd, hc]
    simp only [hnn, this, if_true, if_false, List.filter_append]
    congr 1
    · exact List.filter_congr fun e he => by simp [hD' e he]
    · simp

/-- the whole flat loop of `_transform_children` -/
theorem kids_loop (visit : Node → Nat → VRes) :
    ∀ (ks : List Kid), (∀ k ∈ ks, k.coll = false → k.nodes.length ≤ 1) → (ks.map Kid.name).Nodup →
    ∀ (D : Dict) (chd : List Str) (c : Nat), (∀ k ∈ ks, D.has k.name = false ∧ k.name ∉ chd) →
    (tcLoop visit (ks.flatMap Kid.edges) ⟨D, chd, c⟩).map (fun st => (kept st, st.ctr)) =
      match kidsR visit ks c with
      | .error e => .error e
      | .ok (rs, c') => .ok (kept ⟨D, chd, c⟩ ++ rs.flatMap KR.kept, c')
  | [], _, _, D, chd, c, _ => by simp [tcLoop, kidsR, Except.map]
  | k :: r, hwf, hnd, D, chd, c, hD => by
    rw [List.flatMap_cons, tcLoop_append, kidsR,
      kid_loop visit k (hwf k List.mem_cons_self) D (hD k List.mem_cons_self).1 chd c]
    cases hn : nodesS visit k.nodes c with
    | error e => rfl
    | ok q =>
      obtain ⟨out, chg, c1⟩ := q
      rw [List.map_cons, List.nodup_cons] at hnd
      have hne : ∀ k' ∈ r, k.name ≠ k'.name := fun k' hk' e => hnd.1 (e ▸ List.mem_map_of_mem hk')
      dsimp only
      rw [kids_loop visit r (fun k' hk' => hwf k' (List.mem_cons_of_mem _ hk')) hnd.2]
      · cases kidsR visit r c1 with
        | error e => rfl
        | ok q2 =>
          obtain ⟨rs, c2⟩ := q2
          dsimp only
          rw [kept_step D chd c c1 ⟨k, out, chg⟩ (hD k List.mem_cons_self).1 (hD k List.mem_cons_self).2
            (nodesS_facts visit k.nodes c out chg c1 hn).2, List.flatMap_cons, List.append_assoc]
      · intro k' hk'
        obtain ⟨h1, h2⟩ := hD k' (List.mem_cons_of_mem _ hk')
        refine ⟨?_, ?_⟩
        · rw [has_append, h1, KR.entry]
          split
          · rfl
          · simp [has_single, hne k' hk']
        · cases chg
          · exact h2
          · exact fun hm => ((mem_setAdd _ _ _).mp hm).elim h2 fun e => hne k' hk' e.symm

theorem kidsR_facts (visit : Node → Nat → VRes) (ks : List Kid) (c : Nat) (rs : List KR) (c' : Nat)
    (h : kidsR visit ks c = .ok (rs, c')) :
    rs.map (·.k) = ks ∧ ∀ r ∈ rs, r.out.length ≤ r.k.nodes.length := by
  induction ks generalizing c rs c' with
  | nil => simp [kidsR] at h; simp [h]
  | cons k t ih =>
    unfold kidsR at h
    split at h
    · simp at h
    · rename_i out chg c1 hn
      split at h
      · simp at h
      · rename_i rs' c2 hr
        simp at h; obtain ⟨rfl, _⟩ := h
        obtain ⟨i1, i2⟩ := ih c1 rs' c2 hr
        have := nodesS_facts visit k.nodes c out chg c1 hn
        refine ⟨by simp [i1], ?_⟩
        intro r hr
        simp at hr
        rcases hr with rfl | hr
        · exact this.1
        · exact i2 r hr

theorem chgVal_nodes (r : KR) (h : r.k.coll = false → r.out.length ≤ 1) : r.chgVal.nodes = r.out := by
  unfold KR.chgVal
  cases hc : r.k.coll
  · have := h hc
    simp only [Bool.false_eq_true, if_false, Chg.nodes]
    cases ho : r.out with
    | nil => rfl
    | cons a t => cases t <;> simp_all
  · simp [Chg.nodes]

theorem kept_isEmpty (rs : List KR) : (rs.flatMap KR.kept).isEmpty = !rs.any (·.chg) := by
  induction rs with
  | nil => rfl
  | cons r t ih => cases hc : r.chg <;> simp [KR.kept, hc, ih]

theorem lookup_kept (rs : List KR) (x : Str) :
    (rs.flatMap KR.kept).lookup x = (rs.find? fun r => r.chg && r.k.name == x).map KR.chgVal := by
  induction rs with
  | nil => rfl
  | cons r t ih =>
    rw [List.flatMap_cons, List.lookup_append, List.find?_cons, ih, KR.kept]
    by_cases hx : r.k.name = x
    · subst hx; cases r.chg <;> simp
    · have h1 : (x == r.k.name) = false := beq_eq_false_iff_ne.mpr fun e => hx e.symm
      have h2 : (r.k.name == x) = false := beq_eq_false_iff_ne.mpr hx
      cases r.chg <;> simp [h1, h2, List.lookup_cons]

theorem find_kept (rs : List KR) (hnd : (rs.map (·.k.name)).Nodup) (r : KR) (hr : r ∈ rs) :
    (rs.find? fun r' => r'.chg && r'.k.name == r.k.name) = if r.chg then some r else none := by
  cases hf : rs.find? fun r' => r'.chg && r'.k.name == r.k.name with
  | none =>
    have := List.find?_eq_none.mp hf r hr
    cases hc : r.chg
    · rfl
    · rw [hc, Bool.true_and, beq_self_eq_true] at this; exact absurd rfl this
  | some r' =>
    have hp := List.find?_some hf
    simp only [Bool.and_eq_true, beq_iff_eq] at hp
    cases Framing.eq_of_nodup_map (·.k.name) rs hnd r' (List.mem_of_find?_eq_some hf) r hr hp.2
    rw [if_pos hp.1]

/-- `generic_visit` with the flat loop = rebuild from the per-field records -/
theorem genericVisit_eq (visit : Node → Nat → VRes) (h : Head) (ks : List Kid)
    (hwf : ∀ k ∈ ks, k.coll = false → k.nodes.length ≤ 1) (hnd : (ks.map Kid.name).Nodup) (c : Nat) :
    genericVisit visit (.mk h ks) c =
      rebuilt h ks (match kidsR visit ks c with
        | .error e => .error e
        | .ok (rs, c') => .ok (rs.map KR.newKid, rs.any (·.chg), c')) := by
  have hl := kids_loop visit ks hwf hnd [] [] c fun k _ => ⟨rfl, List.not_mem_nil⟩
  rw [genericVisit, transformChildren_eq, Node.edges, Node.kids_mk, hl]
  cases hk : kidsR visit ks c with
  | error e => rfl
  | ok q =>
    obtain ⟨rs, c'⟩ := q
    obtain ⟨hmap, hfacts⟩ := kidsR_facts visit ks c rs c' hk
    have hndr : (rs.map (·.k.name)).Nodup := by
      have : rs.map (·.k.name) = (rs.map (·.k)).map Kid.name := by simp
      rw [this, hmap]; exact hnd
    simp only [kept, List.filter_nil, List.nil_append, kept_isEmpty, rebuilt]
    cases hany : rs.any (·.chg) with
    | false => rfl
    | true =>
      simp only [Bool.not_true, Bool.false_eq_true, if_false, if_true]
      congr 3
      simp only [dcReplace, Node.hd_mk, Node.kids_mk, Node.mk.injEq, true_and]
      rw [← hmap, List.map_map]
      apply List.map_congr_left
      intro r hr
      simp only [Function.comp, lookup_kept, find_kept rs hndr r hr, KR.newKid]
      cases hc : r.chg
      · rfl
      · have hlen : r.k.coll = false → r.out.length ≤ 1 := fun hcoll =>
          Nat.le_trans (hfacts r hr) (hwf r.k (hmap ▸ List.mem_map_of_mem hr) hcoll)
        simp [chgVal_nodes r hlen]

theorem kidsR_congr (f g : Node → Nat → VRes) (ks : List Kid)
    (h : ∀ k ∈ ks, ∀ x ∈ k.nodes, ∀ c, f x c = g x c) (c : Nat) : kidsR f ks c = kidsR g ks c := by
  induction ks generalizing c with
  | nil => rfl
  | cons k r ih =>
    simp only [kidsR, nodesS_congr f g k.nodes (h k (by simp))]
    cases nodesS g k.nodes c with
    | error e => rfl
    | ok q =>
      obtain ⟨out, chg, c1⟩ := q
      simp only [ih (fun k' hk' => h k' (by simp [hk']))]

theorem wfNodes_mem (ns : List Node) (h : wfNodes ns = true) : ∀ x ∈ ns, wf x = true := by
  induction ns with
  | nil => simp
  | cons n r ih =>
    simp only [wfNodes, Bool.and_eq_true] at h
    intro x hx; simp at hx; rcases hx with rfl | hx
    · exact h.1
    · exact ih h.2 x hx

theorem wfKids_mem (ks : List Kid) (h : wfKids ks = true) :
    ∀ k ∈ ks, (k.coll = false → k.nodes.length ≤ 1) ∧ ∀ x ∈ k.nodes, wf x = true := by
  induction ks with
  | nil => simp
  | cons k r ih =>
    simp only [wfKids, Bool.and_eq_true] at h
    intro k' hk'; simp at hk'; rcases hk' with rfl | hk'
    · cases k' with
      | mk name coll ns =>
        simp only [wfKid, Bool.and_eq_true, Bool.or_eq_true, decide_eq_true_eq] at h
        refine ⟨fun hc => ?_, wfNodes_mem ns h.1.2⟩
        simp only [Kid.coll] at hc
        rcases h.1.1 with h' | h'
        · rw [hc] at h'; cases h'
        · exact h'
    · exact ih h.2 k' hk'

theorem size_mem_nodes (ns : List Node) : ∀ x ∈ ns, x.size ≤ nodesSize ns := by
  induction ns with
  | nil => simp
  | cons n r ih =>
    intro x hx; simp at hx
    simp only [nodesSize]
    rcases hx with rfl | hx
    · omega
    · have := ih x hx; omega

theorem size_mem_kids (ks : List Kid) : ∀ k ∈ ks, ∀ x ∈ k.nodes, x.size ≤ kidsSize ks := by
  induction ks with
  | nil => simp
  | cons k r ih =>
    intro k' hk' x hx; simp at hk'
    simp only [kidsSize]
    rcases hk' with rfl | hk'
    · cases k' with
      | mk name coll ns =>
        have := size_mem_nodes ns x hx
        simp only [Kid.size]; omega
    · have := ih k' hk' x hx; omega

theorem visitF_eq (v : Visitor) : ∀ (fuel : Nat) (n : Node) (c : Nat),
    wf n = true → n.size ≤ fuel → visitF v fuel n c = T v n c := by
  intro fuel
  induction fuel with
  | zero => intro n c _ hs; have := Node.size_pos n; omega
  | succ fuel ih =>
    intro n c hw hs
    cases n with
    | mk h ks =>
      simp only [wf, Bool.and_eq_true, decide_eq_true_eq] at hw
      have hk := wfKids_mem ks hw.2
      have hg : genericVisit (visitF v fuel) (.mk h ks) c = rebuilt h ks (TKids v ks c) := by
        rw [genericVisit_eq _ h ks (fun k hk' => (hk k hk').1) hw.1, TKids_eq]
        rw [kidsR_congr (visitF v fuel) (T v) ks]
        intro k hk' x hx c'
        apply ih x c' ((hk k hk').2 x hx)
        have := size_mem_kids ks k hk' x hx
        simp only [Node.size] at hs
        omega
      unfold visitF T
      simp only [Node.hd_mk]
      cases v.action h <;> simp only [hg]

/-- **transform_eq_spec**: for every visitor and every (well-formed) tree the implementation-shaped
model (flat loop, dict, changed-set, fuel) computes exactly the bottom-up rewrite `T`; the fuel
handed to it is always sufficient. -/
theorem transform_eq_spec (v : Visitor) (n : Node) (c : Nat) (hw : wf n = true) :
    transform v n c = T v n c :=
  visitF_eq v n.size n c hw (Nat.le_refl _)

mutual
/-- only methods that return the node they are given are called in the subtree (`quiet_same`) -/
def quiet (v : Visitor) : Node → Bool
  | .mk h ks => match v.action h with
    | .keep => true
    | .replaceBy k => k.uid == h.uid
    | .generic => quietKids v ks
    | _ => false
termination_by structural n => n
def quietKids (v : Visitor) : List Kid → Bool
  | [] => true
  | k :: r => quietKid v k && quietKids v r
termination_by structural ks => ks
def quietKid (v : Visitor) : Kid → Bool
  | .mk _ _ ns => quietNodes v ns
termination_by structural k => k
def quietNodes (v : Visitor) : List Node → Bool
  | [] => true
  | n :: r => quiet v n && quietNodes v r
termination_by structural ns => ns
end

theorem uidsLt_mk (c : Nat) (h : Head) (ks : List Kid) :
    uidsLt c (.mk h ks) = true ↔ h.uid < c ∧ uidsLtKids c ks = true := by
  rw [uidsLt, Bool.and_eq_true, decide_eq_true_eq]

mutual
theorem uidsLt_mono {c c' : Nat} (h : c ≤ c') : ∀ n, uidsLt c n = true → uidsLt c' n = true
  | .mk hd ks, hu => by
    rw [uidsLt_mk] at hu ⊢
    exact ⟨Nat.lt_of_lt_of_le hu.1 h, uidsLtKids_mono h ks hu.2⟩
termination_by structural n => n
theorem uidsLtKids_mono {c c' : Nat} (h : c ≤ c') : ∀ ks, uidsLtKids c ks = true → uidsLtKids c' ks = true
  | [], _ => rfl
  | k :: r, hu => by
    rw [uidsLtKids, Bool.and_eq_true] at hu ⊢
    exact ⟨uidsLtKid_mono h k hu.1, uidsLtKids_mono h r hu.2⟩
termination_by structural ks => ks
theorem uidsLtKid_mono {c c' : Nat} (h : c ≤ c') : ∀ k, uidsLtKid c k = true → uidsLtKid c' k = true
  | .mk _ _ ns, hu => uidsLtNodes_mono h ns hu
termination_by structural k => k
theorem uidsLtNodes_mono {c c' : Nat} (h : c ≤ c') : ∀ ns, uidsLtNodes c ns = true → uidsLtNodes c' ns = true
  | [], _ => rfl
  | n :: r, hu => by
    rw [uidsLtNodes, Bool.and_eq_true] at hu ⊢
    exact ⟨uidsLt_mono h n hu.1, uidsLtNodes_mono h r hu.2⟩
termination_by structural ns => ns
end

theorem sameObj_self (n : Node) : sameObj (some n) n = true := beq_self_eq_true n.uid

theorem sameObj_fresh {n' n : Node} (h : n.uid < n'.uid) : sameObj (some n') n = false :=
  beq_false_of_ne (Nat.ne_of_gt h)

theorem setProp_some {n : Node} {p : PropV} {u : Nat} {n' : Node} (h : setProp n p u = some n') :
    ∃ ps, n' = .mk { n.hd with uid := u, props := ps } n.kids := by
  rw [setProp] at h
  split at h
  · exact ⟨_, (Option.some.inj h).symm⟩
  · cases h

theorem rebuilt_ok {h : Head} {ks : List Kid} {res : Except Err (List Kid × Bool × Nat)}
    {r : Option Node} {c' : Nat} (e : rebuilt h ks res = .ok (r, c')) :
    ∃ ks' chg c1, res = .ok (ks', chg, c1) ∧
      ((chg = true ∧ r = some (.mk { h with uid := c1 } ks') ∧ c' = c1 + 1) ∨
       (chg = false ∧ r = some (.mk h ks) ∧ c' = c1)) := by
  match res, e with
  | .ok (ks', true, c1), e => cases e; exact ⟨ks', true, _, rfl, .inl ⟨rfl, rfl, rfl⟩⟩
  | .ok (ks', false, c1), e => cases e; exact ⟨ks', false, _, rfl, .inr ⟨rfl, rfl, rfl⟩⟩

/-- a `rewriteProp` method is `generic_visit` followed by `dataclasses.replace` on its result `n1` -/
theorem T_ok {v : Visitor} {h : Head} {ks : List Kid} {c c' : Nat} {r : Option Node}
    (ht : T v (.mk h ks) c = .ok (r, c')) :
    (v.action h = .keep ∧ r = some (.mk h ks) ∧ c' = c) ∨
    (∃ k, v.action h = .replaceBy k ∧ r = some k ∧ c' = c) ∨
    (v.action h = .remove ∧ r = none ∧ c' = c) ∨
    (v.action h = .generic ∧ rebuilt h ks (TKids v ks c) = .ok (r, c')) ∨
    (∃ p n1 c1 ps, v.action h = .rewriteProp p ∧ rebuilt h ks (TKids v ks c) = .ok (some n1, c1) ∧
      r = some (.mk { n1.hd with uid := c1, props := ps } n1.kids) ∧ c' = c1 + 1) := by
  rw [T] at ht
  cases ha : v.action h <;> simp only [ha] at ht
  case generic => exact .inr (.inr (.inr (.inl ⟨rfl, ht⟩)))
  case keep => cases ht; exact .inl ⟨rfl, rfl, rfl⟩
  case rewriteProp p =>
    match hg : rebuilt h ks (TKids v ks c), ht with
    | .ok (some n1, c1), ht =>
      rw [finishRewrite] at ht
      split at ht
      · rename_i n2 hs
        obtain ⟨ps, rfl⟩ := setProp_some hs
        cases ht
        exact .inr (.inr (.inr (.inr ⟨p, n1, c1, ps, rfl, rfl, rfl, rfl⟩)))
      · cases ht
  case replaceBy k => cases ht; exact .inr (.inl ⟨_, rfl, rfl, rfl⟩)
  case remove => cases ht; exact .inr (.inr (.inl ⟨rfl, rfl, rfl⟩))
  case raise => cases ht

theorem TKids_cons_ok {v : Visitor} {k : Kid} {r ks' : List Kid} {c c' : Nat} {chg : Bool}
    (ht : TKids v (k :: r) c = .ok (ks', chg, c')) :
    ∃ k' chg1 c1 r' chg2, TKid v k c = .ok (k', chg1, c1) ∧ TKids v r c1 = .ok (r', chg2, c') ∧
      ks' = k' :: r' ∧ chg = (chg1 || chg2) := by
  unfold TKids at ht
  split at ht
  · cases ht
  · rename_i k' chg1 c1 hk
    split at ht
    · cases ht
    · rename_i r' chg2 c2 hr
      cases ht
      exact ⟨k', chg1, c1, r', chg2, hk, hr, rfl, rfl⟩

theorem TKid_ok {v : Visitor} {name : Str} {coll : Bool} {ns : List Node} {k' : Kid} {c c' : Nat}
    {chg : Bool} (ht : TKid v (.mk name coll ns) c = .ok (k', chg, c')) :
    ∃ out, TNodes v ns c = .ok (out, chg, c') ∧
      k' = if chg then .mk name coll out else .mk name coll ns := by
  unfold TKid at ht
  split at ht
  · cases ht
  · rename_i out chg1 c1 hn
    cases ht
    exact ⟨out, hn, rfl⟩

theorem TNodes_cons_ok {v : Visitor} {x : Node} {r out : List Node} {c c' : Nat} {chg : Bool}
    (ht : TNodes v (x :: r) c = .ok (out, chg, c')) :
    ∃ rx c1 out' chg', T v x c = .ok (rx, c1) ∧ TNodes v r c1 = .ok (out', chg', c') ∧
      out = rx.toList ++ out' ∧ chg = (!(sameObj rx x) || chg') := by
  unfold TNodes at ht
  split at ht
  · cases ht
  · rename_i rx c1 hx
    split at ht
    · cases ht
    · rename_i out' chg' c2 hr
      cases ht
      exact ⟨rx, c1, out', chg', hx, hr, rfl, rfl⟩

theorem TKids_nil_ok {v : Visitor} {ks' : List Kid} {c c' : Nat} {chg : Bool}
    (ht : TKids v [] c = .ok (ks', chg, c')) : ks' = [] ∧ chg = false ∧ c' = c := by
  cases ht; exact ⟨rfl, rfl, rfl⟩

theorem TNodes_nil_ok {v : Visitor} {out : List Node} {c c' : Nat} {chg : Bool}
    (ht : TNodes v [] c = .ok (out, chg, c')) : out = [] ∧ chg = false ∧ c' = c := by
  cases ht; exact ⟨rfl, rfl, rfl⟩

/-! ### the result is the same object exactly on quiet subtrees -/

mutual
theorem core_T (v : Visitor) : ∀ (n : Node) (c : Nat) (r : Option Node) (c' : Nat),
    uidsLt c n = true → T v n c = .ok (r, c') →
    c ≤ c' ∧ sameObj r n = quiet v n ∧ (quiet v n = true → c' = c)
  | .mk h ks, c, r, c', hu, ht => by
    rw [uidsLt_mk] at hu
    have hg : ∀ {r c'}, rebuilt h ks (TKids v ks c) = .ok (r, c') →
        c ≤ c' ∧ sameObj r (.mk h ks) = quietKids v ks ∧ (quietKids v ks = true → c' = c) := by
      intro r c' e
      obtain ⟨ks', chg, c1, hk, hcase⟩ := rebuilt_ok e
      obtain ⟨h1, h2, h3⟩ := core_TKids v ks c ks' chg c1 hu.2 hk
      rcases hcase with ⟨rfl, rfl, rfl⟩ | ⟨rfl, rfl, rfl⟩
      · have hq : quietKids v ks = false := by simpa using h2
        rw [hq]
        exact ⟨Nat.le_succ_of_le h1, sameObj_fresh (Nat.lt_of_lt_of_le hu.1 h1), fun h => by cases h⟩
      · have hq : quietKids v ks = true := by simpa using h2
        rw [hq]
        exact ⟨h1, sameObj_self _, fun _ => h3 hq⟩
    rw [quiet]
    rcases T_ok ht with ⟨ha, rfl, rfl⟩ | ⟨k, ha, rfl, rfl⟩ | ⟨ha, rfl, rfl⟩ | ⟨ha, e⟩ |
      ⟨p, n1, c1, ps, ha, e, rfl, rfl⟩ <;> rw [ha]
    · exact ⟨Nat.le_refl _, sameObj_self _, fun _ => rfl⟩
    · exact ⟨Nat.le_refl _, rfl, fun _ => rfl⟩
    · exact ⟨Nat.le_refl _, rfl, fun _ => rfl⟩
    · exact hg e
    · have h1 := (hg e).1
      exact ⟨Nat.le_succ_of_le h1, sameObj_fresh (Nat.lt_of_lt_of_le hu.1 h1), fun h => by cases h⟩
termination_by structural n => n
theorem core_TKids (v : Visitor) : ∀ (ks : List Kid) (c : Nat) (ks' : List Kid) (chg : Bool) (c' : Nat),
    uidsLtKids c ks = true → TKids v ks c = .ok (ks', chg, c') →
    c ≤ c' ∧ chg = !quietKids v ks ∧ (quietKids v ks = true → c' = c)
  | [], c, ks', chg, c', _, ht => by
    obtain ⟨_, rfl, rfl⟩ := TKids_nil_ok ht
    exact ⟨Nat.le_refl _, rfl, fun _ => rfl⟩
  | k :: r, c, ks', chg, c', hu, ht => by
    rw [uidsLtKids, Bool.and_eq_true] at hu
    obtain ⟨k', chg1, c1, r', chg2, hk, hr, _, rfl⟩ := TKids_cons_ok ht
    obtain ⟨a1, rfl, a3⟩ := core_TKid v k c k' chg1 c1 hu.1 hk
    obtain ⟨b1, rfl, b3⟩ := core_TKids v r c1 r' chg2 c' (uidsLtKids_mono a1 r hu.2) hr
    rw [quietKids, Bool.and_eq_true, Bool.not_and]
    exact ⟨Nat.le_trans a1 b1, rfl, fun hq => by rw [← a3 hq.1]; exact b3 hq.2⟩
termination_by structural ks => ks
theorem core_TKid (v : Visitor) : ∀ (k : Kid) (c : Nat) (k' : Kid) (chg : Bool) (c' : Nat),
    uidsLtKid c k = true → TKid v k c = .ok (k', chg, c') →
    c ≤ c' ∧ chg = !quietKid v k ∧ (quietKid v k = true → c' = c)
  | .mk name coll ns, c, k', chg, c', hu, ht => by
    obtain ⟨out, hn, _⟩ := TKid_ok ht
    exact core_TNodes v ns c out chg c' hu hn
termination_by structural k => k
theorem core_TNodes (v : Visitor) : ∀ (ns : List Node) (c : Nat) (out : List Node) (chg : Bool) (c' : Nat),
    uidsLtNodes c ns = true → TNodes v ns c = .ok (out, chg, c') →
    c ≤ c' ∧ chg = !quietNodes v ns ∧ (quietNodes v ns = true → c' = c)
  | [], c, out, chg, c', _, ht => by
    obtain ⟨_, rfl, rfl⟩ := TNodes_nil_ok ht
    exact ⟨Nat.le_refl _, rfl, fun _ => rfl⟩
  | x :: r, c, out, chg, c', hu, ht => by
    rw [uidsLtNodes, Bool.and_eq_true] at hu
    obtain ⟨rx, c1, out', chg', hx, hr, _, rfl⟩ := TNodes_cons_ok ht
    obtain ⟨a1, a2, a3⟩ := core_T v x c rx c1 hu.1 hx
    obtain ⟨b1, rfl, b3⟩ := core_TNodes v r c1 out' chg' c' (uidsLtNodes_mono a1 r hu.2) hr
    rw [quietNodes, Bool.and_eq_true, Bool.not_and, a2]
    exact ⟨Nat.le_trans a1 b1, rfl, fun hq => by rw [← a3 hq.1]; exact b3 hq.2⟩
termination_by structural ns => ns
end

def childrenOf (n : Node) : List Node := n.kids.flatMap Kid.nodes

/-- `Below v a d`: `d` is visited strictly below `a`, every node on the way (from `a` to the parent of
`d`) being dispatched to `generic_visit` -/
inductive Below (v : Visitor) : Node → Node → Prop where
  | child {a x : Node} : v.action a.hd = .generic → x ∈ childrenOf a → Below v a x
  | trans {a x d : Node} : v.action a.hd = .generic → x ∈ childrenOf a → Below v x d → Below v a d

theorem quietNodes_mem (v : Visitor) (ns : List Node) (h : quietNodes v ns = true) :
    ∀ x ∈ ns, quiet v x = true := by
  induction ns with
  | nil => intro x hx; cases hx
  | cons n r ih =>
    rw [quietNodes, Bool.and_eq_true] at h
    intro x hx
    rcases List.mem_cons.mp hx with rfl | hx
    · exact h.1
    · exact ih h.2 x hx

theorem quietKids_mem (v : Visitor) (ks : List Kid) (h : quietKids v ks = true) :
    ∀ x ∈ ks.flatMap Kid.nodes, quiet v x = true := by
  induction ks with
  | nil => intro x hx; cases hx
  | cons k r ih =>
    rw [quietKids, Bool.and_eq_true] at h
    intro x hx
    rw [List.flatMap_cons, List.mem_append] at hx
    rcases hx with hx | hx
    · cases k with
      | mk name coll ns => exact quietNodes_mem v ns h.1 x hx
    · exact ih h.2 x hx

theorem not_quiet_of_child (v : Visitor) (a x : Node) (ha : v.action a.hd = .generic)
    (hx : x ∈ childrenOf a) (hq : quiet v x = false) : quiet v a = false := by
  cases a with
  | mk h ks =>
    rw [Node.hd_mk] at ha
    rw [quiet, ha]
    exact Bool.eq_false_iff.mpr fun hk => by rw [quietKids_mem v ks hk x hx] at hq; cases hq

/-- **a node dispatched to `generic_visit` is returned either as the very same object (and then
nothing was created at all) or as a NEW object** (identity not used before the call) of the same
class, origin and properties. -/
theorem generic_result_same_or_new (v : Visitor) (h : Head) (ks : List Kid) (c c' : Nat)
    (r : Option Node) (ha : v.action h = .generic) (hu : uidsLt c (.mk h ks) = true)
    (ht : T v (.mk h ks) c = .ok (r, c')) :
    (r = some (.mk h ks) ∧ c' = c ∧ quiet v (.mk h ks) = true) ∨
    (∃ ks' u, r = some (.mk { h with uid := u } ks') ∧ c ≤ u ∧ u < c' ∧ quiet v (.mk h ks) = false) := by
  obtain ⟨_, h2, h3⟩ := core_T v _ c r c' hu ht
  rw [T, ha] at ht
  obtain ⟨ks', chg, c1, hk, hcase⟩ := rebuilt_ok ht
  rw [uidsLt_mk] at hu
  obtain ⟨k1, _, _⟩ := core_TKids v ks c ks' chg c1 hu.2 hk
  rcases hcase with ⟨_, rfl, rfl⟩ | ⟨_, rfl, rfl⟩
  · exact .inr ⟨ks', c1, rfl, k1, Nat.lt_succ_self _,
      h2.symm.trans (sameObj_fresh (Nat.lt_of_lt_of_le hu.1 k1))⟩
  · have hq := h2.symm.trans (sameObj_self _)
    exact .inl ⟨rfl, h3 hq, hq⟩

/-- **every subtree in which nothing changed is returned as the very same object**: if the visit of
`n` fires only `generic` / `keep` rules (or rules that return the node they are given), the result
is `n` itself and no object is created. -/
theorem quiet_same (v : Visitor) (n : Node) (c c' : Nat) (r : Option Node)
    (hu : uidsLt c n = true) (ht : T v n c = .ok (r, c')) :
    (sameObj r n = true ↔ quiet v n = true) ∧ (quiet v n = true → c' = c) := by
  obtain ⟨_, h2, h3⟩ := core_T v n c r c' hu ht
  exact ⟨by rw [h2], h3⟩

/-! ### unchanged subtrees (syntactic form) -/

mutual
/-- no rule other than `generic` (or `keep`) fires in the subtree -/
def still (v : Visitor) : Node → Bool
  | .mk h ks => match v.action h with
    | .keep => true
    | .generic => stillKids v ks
    | _ => false
termination_by structural n => n
def stillKids (v : Visitor) : List Kid → Bool
  | [] => true
  | k :: r => stillKid v k && stillKids v r
termination_by structural ks => ks
def stillKid (v : Visitor) : Kid → Bool
  | .mk _ _ ns => stillNodes v ns
termination_by structural k => k
def stillNodes (v : Visitor) : List Node → Bool
  | [] => true
  | n :: r => still v n && stillNodes v r
termination_by structural ns => ns
end

mutual
/-- **unchanged_identity**: a subtree in which no rule other than generic/keep fires is returned as
the very same object — the same value, in particular the same `uid` — and no object is created.
No hypothesis on identities is needed. -/
theorem unchanged_identity (v : Visitor) (c : Nat) :
    ∀ n : Node, still v n = true → T v n c = .ok (some n, c)
  | .mk h ks, hs => by
    rw [still] at hs
    rw [T]
    cases ha : v.action h with
    | generic => rw [ha] at hs; rw [still_TKids v c ks hs]; rfl
    | keep => rfl
    | _ => rw [ha] at hs; cases hs
termination_by structural n => n
theorem still_TKids (v : Visitor) (c : Nat) :
    ∀ ks : List Kid, stillKids v ks = true → TKids v ks c = .ok (ks, false, c)
  | [], _ => rfl
  | k :: r, hs => by
    rw [stillKids, Bool.and_eq_true] at hs
    rw [TKids, still_TKid v c k hs.1]
    simp only [still_TKids v c r hs.2, Bool.or_self]
termination_by structural ks => ks
theorem still_TKid (v : Visitor) (c : Nat) :
    ∀ k : Kid, stillKid v k = true → TKid v k c = .ok (k, false, c)
  | .mk name coll ns, hs => by
    rw [TKid, still_TNodes v c ns hs]; rfl
termination_by structural k => k
theorem still_TNodes (v : Visitor) (c : Nat) :
    ∀ ns : List Node, stillNodes v ns = true → TNodes v ns c = .ok (ns, false, c)
  | [], _ => rfl
  | n :: r, hs => by
    rw [stillNodes, Bool.and_eq_true] at hs
    rw [TNodes, unchanged_identity v c n hs.1]
    simp only [still_TNodes v c r hs.2, sameObj_self, Option.toList_some, List.cons_append,
      List.nil_append, Bool.not_true, Bool.or_self]
termination_by structural ns => ns
end

/-- **an unchanged tree returns itself** — stated for the implementation-shaped model -/
theorem unchanged_tree_returns_itself (v : Visitor) (n : Node) (c : Nat) (hw : wf n = true)
    (hs : still v n = true) : transform v n c = .ok (some n, c) := by
  rw [transform_eq_spec v n c hw]; exact unchanged_identity v c n hs

/-- the results of visiting the children of one field, left to right, with the counter threaded -/
inductive Visits (v : Visitor) : List Node → Nat → List (Option Node) → Nat → Prop where
  | nil (c : Nat) : Visits v [] c [] c
  | cons {x : Node} {r : List Node} {c c1 c2 : Nat} {rx : Option Node} {rs : List (Option Node)} :
      T v x c = .ok (rx, c1) → Visits v r c1 rs c2 → Visits v (x :: r) c (rx :: rs) c2

/-- is some result not the very same object as the child it was computed from -/
def anyChanged : List Node → List (Option Node) → Bool
  | x :: r, rx :: rs => !(sameObj rx x) || anyChanged r rs
  | _, _ => false

/-- **removed tuple elements are dropped, the others keep their order** and the field counts as
changed iff some element's result is not the element itself (in particular when one is removed) -/
theorem removed_dropped_in_order (v : Visitor) (ns : List Node) (c : Nat) (out : List Node)
    (chg : Bool) (c' : Nat) (ht : TNodes v ns c = .ok (out, chg, c')) :
    ∃ rs, Visits v ns c rs c' ∧ rs.length = ns.length ∧ out = rs.filterMap id ∧
      chg = anyChanged ns rs := by
  induction ns generalizing c out chg c' with
  | nil =>
    obtain ⟨rfl, rfl, rfl⟩ := TNodes_nil_ok ht
    exact ⟨[], .nil _, rfl, rfl, rfl⟩
  | cons x r ih =>
    obtain ⟨rx, c1, out', chg', hx, hr, rfl, rfl⟩ := TNodes_cons_ok ht
    obtain ⟨rs, hv, hl, rfl, rfl⟩ := ih c1 out' chg' c' hr
    refine ⟨rx :: rs, .cons hx hv, congrArg (· + 1) hl, ?_, rfl⟩
    cases rx <;> rfl

/-- a removed element makes the field changed -/
theorem anyChanged_of_removed (ns : List Node) (rs : List (Option Node)) (hl : rs.length = ns.length)
    (h : none ∈ rs) : anyChanged ns rs = true := by
  induction ns generalizing rs with
  | nil => cases rs with
    | nil => cases h
    | cons _ _ => cases hl
  | cons x r ih =>
    cases rs with
    | nil => cases h
    | cons rx rs =>
      rw [anyChanged, Bool.or_eq_true]
      rcases List.mem_cons.mp h with rfl | h
      · exact .inl rfl
      · exact .inr (ih rs (Nat.succ.inj hl) h)

/-- **a removed single child becomes `None`** (the field is empty in the new node) -/
theorem removed_single_none (v : Visitor) (f : Str) (x : Node) (c c1 : Nat)
    (hx : T v x c = .ok (none, c1)) :
    TKid v (.mk f false [x]) c = .ok (.mk f false [], true, c1) := by
  rw [TKid, TNodes, hx]; rfl

/-- **a field none of whose children changed keeps its old value** -/
theorem unchanged_field_kept (v : Visitor) (k k' : Kid) (c c' : Nat)
    (ht : TKid v k c = .ok (k', false, c')) : k' = k := by
  cases k with
  | mk name coll ns =>
    obtain ⟨_, _, rfl⟩ := TKid_ok ht
    rfl

/-! ### the input is untouched: no old identity ever carries new content -/

mutual
def subs : Node → List Node
  | .mk h ks => .mk h ks :: subsKids ks
termination_by structural n => n
def subsKids : List Kid → List Node
  | [] => []
  | k :: r => subsKid k ++ subsKids r
termination_by structural ks => ks
def subsKid : Kid → List Node
  | .mk _ _ ns => subsNodes ns
termination_by structural k => k
def subsNodes : List Node → List Node
  | [] => []
  | n :: r => subs n ++ subsNodes r
termination_by structural ns => ns
end

/-- `m` is a sub-node of a node some rule returns as a replacement -/
def Repl (v : Visitor) (m : Node) : Prop := ∃ h k, v.action h = .replaceBy k ∧ m ∈ subs k

/-- where a node of the output comes from: created by the call, or a node *value* of the input,
or of a replacement node -/
def Origin (v : Visitor) (c c' : Nat) (olds : List Node) (m : Node) : Prop :=
  (c ≤ m.uid ∧ m.uid < c') ∨ m ∈ olds ∨ Repl v m

theorem Origin.widen {v : Visitor} {c c' d d' : Nat} {olds olds' : List Node} {m : Node}
    (h : Origin v c c' olds m) (h1 : d ≤ c) (h2 : c' ≤ d') (h3 : ∀ x ∈ olds, x ∈ olds') :
    Origin v d d' olds' m := by
  rcases h with ⟨a, b⟩ | h | h
  · exact .inl ⟨Nat.le_trans h1 a, Nat.lt_of_lt_of_le b h2⟩
  · exact .inr (.inl (h3 _ h))
  · exact .inr (.inr h)

theorem subs_eq (n : Node) : subs n = n :: subsKids n.kids := by
  cases n; rfl

theorem self_mem_subs (n : Node) : n ∈ subs n := by
  rw [subs_eq]; exact List.mem_cons_self

mutual
theorem frame_T (v : Visitor) : ∀ (n : Node) (c : Nat) (r : Option Node) (c' : Nat),
    T v n c = .ok (r, c') →
    c ≤ c' ∧ ∀ n', r = some n' → ∀ m ∈ subs n', Origin v c c' (subs n) m
  | .mk h ks, c, r, c', ht => by
    have hg : ∀ {r c'}, rebuilt h ks (TKids v ks c) = .ok (r, c') →
        c ≤ c' ∧ ∀ n', r = some n' → ∀ m ∈ subs n', Origin v c c' (subs (.mk h ks)) m := by
      intro r c' e
      obtain ⟨ks', chg, c1, hk, hcase⟩ := rebuilt_ok e
      obtain ⟨h1, h2⟩ := frame_TKids v ks c ks' chg c1 hk
      rcases hcase with ⟨_, rfl, rfl⟩ | ⟨_, rfl, rfl⟩
      · refine ⟨Nat.le_succ_of_le h1, fun n' hn m hm => ?_⟩
        cases hn
        rcases List.mem_cons.mp hm with rfl | hm
        · exact .inl ⟨h1, Nat.lt_succ_self _⟩
        · exact (h2 m hm).widen (Nat.le_refl _) (Nat.le_succ _) fun x hx => List.mem_cons_of_mem _ hx
      · exact ⟨h1, fun n' hn m hm => by cases hn; exact .inr (.inl hm)⟩
    rcases T_ok ht with ⟨ha, rfl, rfl⟩ | ⟨k, ha, rfl, rfl⟩ | ⟨ha, rfl, rfl⟩ | ⟨ha, e⟩ |
      ⟨p, n1, c1, ps, ha, e, rfl, rfl⟩
    · exact ⟨Nat.le_refl _, fun n' hn m hm => by cases hn; exact .inr (.inl hm)⟩
    · exact ⟨Nat.le_refl _, fun n' hn m hm => by cases hn; exact .inr (.inr ⟨h, k, ha, hm⟩)⟩
    · exact ⟨Nat.le_refl _, fun n' hn => by cases hn⟩
    · exact hg e
    · obtain ⟨h1, h2⟩ := hg e
      refine ⟨Nat.le_succ_of_le h1, fun n' hn m hm => ?_⟩
      cases hn
      rcases List.mem_cons.mp hm with rfl | hm
      · exact .inl ⟨h1, Nat.lt_succ_self _⟩
      · exact (h2 n1 rfl m (subs_eq n1 ▸ List.mem_cons_of_mem _ hm)).widen (Nat.le_refl _)
          (Nat.le_succ _) fun _ hx => hx
termination_by structural n => n
theorem frame_TKids (v : Visitor) : ∀ (ks : List Kid) (c : Nat) (ks' : List Kid) (chg : Bool) (c' : Nat),
    TKids v ks c = .ok (ks', chg, c') →
    c ≤ c' ∧ ∀ m ∈ subsKids ks', Origin v c c' (subsKids ks) m
  | [], c, ks', chg, c', ht => by
    obtain ⟨rfl, _, rfl⟩ := TKids_nil_ok ht
    exact ⟨Nat.le_refl _, fun m hm => by cases hm⟩
  | k :: r, c, ks', chg, c', ht => by
    obtain ⟨k', chg1, c1, r', chg2, hk, hr, rfl, _⟩ := TKids_cons_ok ht
    obtain ⟨a1, a2⟩ := frame_TKid v k c k' chg1 c1 hk
    obtain ⟨b1, b2⟩ := frame_TKids v r c1 r' chg2 c' hr
    refine ⟨Nat.le_trans a1 b1, fun m hm => ?_⟩
    rcases List.mem_append.mp hm with hm | hm
    · exact (a2 m hm).widen (Nat.le_refl _) b1 fun x hx => List.mem_append_left _ hx
    · exact (b2 m hm).widen a1 (Nat.le_refl _) fun x hx => List.mem_append_right _ hx
termination_by structural ks => ks
theorem frame_TKid (v : Visitor) : ∀ (k : Kid) (c : Nat) (k' : Kid) (chg : Bool) (c' : Nat),
    TKid v k c = .ok (k', chg, c') →
    c ≤ c' ∧ ∀ m ∈ subsKid k', Origin v c c' (subsKid k) m
  | .mk name coll ns, c, k', chg, c', ht => by
    obtain ⟨out, hn, rfl⟩ := TKid_ok ht
    obtain ⟨a1, a2⟩ := frame_TNodes v ns c out chg c' hn
    refine ⟨a1, fun m hm => ?_⟩
    cases chg
    · exact .inr (.inl hm)
    · exact a2 m hm
termination_by structural k => k
theorem frame_TNodes (v : Visitor) : ∀ (ns : List Node) (c : Nat) (out : List Node) (chg : Bool) (c' : Nat),
    TNodes v ns c = .ok (out, chg, c') →
    c ≤ c' ∧ ∀ m ∈ subsNodes out, Origin v c c' (subsNodes ns) m
  | [], c, out, chg, c', ht => by
    obtain ⟨rfl, _, rfl⟩ := TNodes_nil_ok ht
    exact ⟨Nat.le_refl _, fun m hm => by cases hm⟩
  | x :: r, c, out, chg, c', ht => by
    obtain ⟨rx, c1, out', chg', hx, hr, rfl, _⟩ := TNodes_cons_ok ht
    obtain ⟨a1, a2⟩ := frame_T v x c rx c1 hx
    obtain ⟨b1, b2⟩ := frame_TNodes v r c1 out' chg' c' hr
    have hb : ∀ m ∈ subsNodes out', Origin v c c' (subsNodes (x :: r)) m := fun m hm =>
      (b2 m hm).widen a1 (Nat.le_refl _) fun y hy => List.mem_append_right _ hy
    refine ⟨Nat.le_trans a1 b1, fun m hm => ?_⟩
    cases rx with
    | none => exact hb m hm
    | some y =>
      rcases List.mem_append.mp hm with hm | hm
      · exact (a2 y rfl m hm).widen (Nat.le_refl _) b1 fun z hz => List.mem_append_left _ hz
      · exact hb m hm
termination_by structural ns => ns
end

/-- **input_untouched** (model side): every node of the output is either an object created by this
call (identity in `[c, c')`) or *literally* a node value of the input tree or of a replacement node
returned by a rule.  With fresh `c` (all existing identities `< c`) this says that no existing
identity ever appears with different content: the call only allocates, it never modifies.
(The real-code side — re-reading every field of every input object after the call, also when a
method raised — is done by the harness.) -/
theorem input_untouched (v : Visitor) (n : Node) (c c' : Nat) (n' : Node)
    (ht : T v n c = .ok (some n', c')) :
    ∀ m ∈ subs n', (c ≤ m.uid ∧ m.uid < c') ∨ m ∈ subs n ∨ Repl v m :=
  (frame_T v n c (some n') c' ht).2 n' rfl

/-- counters only grow: identities handed out by one call are never handed out again -/
theorem counter_mono (v : Visitor) (n : Node) (c c' : Nat) (r : Option Node)
    (ht : T v n c = .ok (r, c')) : c ≤ c' :=
  (frame_T v n c r c' ht).1

/-- a visitor without `visit_*` methods sends every node to `generic_visit` -/
theorem no_rule_fires_of_empty_table (strict : Bool) (h : Head) :
    (⟨strict, []⟩ : Visitor).action h = .generic := by
  have : ∀ l : List Str, l.findSome? (⟨strict, []⟩ : Visitor).getattr = none := fun l =>
    List.findSome?_eq_none_iff.mpr fun _ _ => rfl
  cases strict
  · simp only [Visitor.action, Visitor.method, this, Bool.false_eq_true, if_false]
  · rfl

/-! ### non-vacuity: concrete trees and visitors -/
namespace Ex
def sLeaf : Str := ['L','e','a','f']
def sLeaf2 : Str := ['L','e','a','f','2']
def sExpr : Str := ['E','x','p','r']
def sTup : Str := ['T','u','p']
def sOpt : Str := ['O','p','t']
def sAST : Str := ['A','S','T','N','o','d','e']
def sObj : Str := ['o','b','j','e','c','t']
def pV (i : Int) : PropV :=
  { name := ['v'], ty := ['i'], txt := ['0'], canon := .int i, compare := true, init := true }
def hd (u : Nat) (cls : Str) (mro : List Str) (props : List PropV := []) : Head :=
  { uid := u, cls := cls, mro := mro, org := default, props := props, truthy := true }
def leaf (u : Nat) : Node := .mk (hd u sLeaf [sLeaf, sExpr, sAST, sObj] [pV 0]) []
def leaf2 (u : Nat) : Node := .mk (hd u sLeaf2 [sLeaf2, sLeaf, sExpr, sAST, sObj] [pV 0]) []
def tup (u : Nat) (xs : List Node) : Node :=
  .mk (hd u sTup [sTup, sExpr, sAST, sObj]) [.mk ['i','t','e','m','s'] true xs]
def opt (u : Nat) (x : List Node) : Node := .mk (hd u sOpt [sOpt, sExpr, sAST, sObj]) [.mk ['c'] false x]
/-- `Tup#0(items=(Leaf#1, Opt#2(c=Leaf2#3), Leaf#4))` -/
def tree : Node := tup 0 [leaf 1, opt 2 [leaf2 3], leaf 4]
/-- only `visit_Leaf` exists (a base class of `Leaf2`): remove object `u`, otherwise generic -/
def vRemove (u : Nat) (strict : Bool := false) : Visitor :=
  { strict := strict, rules := [(sLeaf, { dflt := .generic, per := [(u, .remove)] })] }
/-- only `visit_Expr`: act on object `u` -/
def vExpr (u : Nat) (a : Act) : Visitor :=
  { strict := false, rules := [(sExpr, { dflt := .generic, per := [(u, a)] })] }
def vRaise : Visitor := { strict := false, rules := [(sLeaf2, { dflt := .raise })] }
def vNoop : Visitor :=
  { strict := false, rules := [(sExpr, { dflt := .generic }), (sObj, { dflt := .remove })] }
def vObject : Visitor := { strict := false, rules := [(sObj, { dflt := .remove })] }

def isRemove : Act → Bool | .remove => true | _ => false
def isGeneric : Act → Bool | .generic => true | _ => false

/-- observable summary of a result: identity of the result, of its children and grandchildren -/
def obs (r : VRes) : Option (Option (Nat × List (Nat × List Nat)) × Nat) :=
  match r with
  | .ok (some n, c) =>
    some (some (n.uid, (childrenOf n).map fun x => (x.uid, (childrenOf x).map Node.uid)), c)
  | .ok (none, c) => some (none, c)
  | .error _ => none

theorem wf_tree : wf tree = true := by decide
theorem uidsLt_tree : uidsLt 10 tree = true := by decide
example : wf tree = true := wf_tree
example : uidsLt 10 tree = true := uidsLt_tree

-- dispatch: non-strict `Leaf2` → `visit_Leaf` (nearest base), strict → `generic_visit`;
-- a `visit_object` method is never used
example : isRemove ((vRemove 3).action (leaf2 3).hd) = true := by decide
example : isGeneric ((vRemove 3 true).action (leaf2 3).hd) = true := by decide
example : isGeneric (vObject.action (leaf 1).hd) = true := by decide
example : ∃ r, (vRemove 3).method (leaf2 3).hd = some r :=
  ⟨_, (dispatch_nearest (vRemove 3) (leaf2 3).hd rfl _).mpr
        ⟨[sLeaf2], sLeaf, [sExpr, sAST], by decide, rfl, by decide⟩⟩
example : (vRemove 3 true).method (leaf2 3).hd = none :=
  (dispatch_generic _ _).mpr (by decide)
example : vObject.method (leaf 1).hd = none := (dispatch_generic _ _).mpr (by decide)

-- removals at the first / middle / last tuple position: dropped, order kept, parent new (#10)
example : obs (transform (vRemove 1) tree 10) = some (some (10, [(2, [3]), (4, [])]), 11) := by decide +kernel
example : obs (transform (vExpr 2 .remove) tree 10) = some (some (10, [(1, []), (4, [])]), 11) := by decide +kernel
example : obs (transform (vRemove 4) tree 10) = some (some (10, [(1, []), (2, [3])]), 11) := by decide +kernel
-- removal in an optional single field: `Opt#2` is rebuilt as #10 with `c=None`, the root as #11,
-- the untouched siblings #1 and #4 are the same objects
example : obs (transform (vRemove 3) tree 10) = some (some (11, [(1, []), (10, []), (4, [])]), 12) := by decide +kernel
-- rewrite of a property deep in the tree: all ancestors new, siblings kept
example : obs (transform (vExpr 3 (.rewriteProp (pV 5))) tree 10) =
    some (some (12, [(1, []), (11, [10]), (4, [])]), 13) := by decide +kernel
-- replace by another node / by itself
example : obs (transform (vExpr 1 (.replaceBy (leaf 7))) tree 10) =
    some (some (10, [(7, []), (2, [3]), (4, [])]), 11) := by decide +kernel
example : obs (transform (vExpr 1 (.replaceBy (leaf 1))) tree 10) =
    some (some (0, [(1, []), (2, [3]), (4, [])]), 10) := by decide +kernel
-- strict: `visit_Leaf` does not apply to `Leaf2#3`: nothing changes
example : obs (transform (vRemove 3 true) tree 10) = some (some (0, [(1, []), (2, [3]), (4, [])]), 10) := by
  decide +kernel
-- a raising method
example : obs (transform vRaise tree 10) = none := by decide
-- the root removed
example : obs (transform (vExpr 0 .remove) tree 10) = some (none, 10) := by decide

-- unchanged_identity / unchanged_tree_returns_itself are not vacuous
example : still vNoop tree = true := by decide
example : transform vNoop tree 10 = .ok (some tree, 10) :=
  unchanged_tree_returns_itself vNoop tree 10 wf_tree (by decide)

-- removed_dropped_in_order is not vacuous
example : ((TNodes (vRemove 1) [leaf 1, leaf 4] 10).toOption.map fun r => (r.1.map Node.uid, r.2.1)) =
    some ([4], true) := by decide
-- the hypothesis of removed_single_none
example : (T (vRemove 3) (leaf2 3) 10).toOption.map (fun r => (r.1.map Node.uid, r.2)) = some (none, 10) := by
  decide
-- input_untouched, instantiated
example (n' : Node) (c' : Nat) (h : T (vRemove 1) tree 10 = .ok (some n', c')) :
    ∀ m ∈ subs n', (10 ≤ m.uid ∧ m.uid < c') ∨ m ∈ subs tree ∨ Repl (vRemove 1) m :=
  input_untouched _ _ _ _ _ h
end Ex

end C09
end PyOak
