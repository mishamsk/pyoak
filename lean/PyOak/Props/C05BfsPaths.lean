/-
C05, `bfs` by PATHS, for every tree (shared objects allowed), every prune and filter.

`Trav.bfsTrails P n` lists the trails below `n` level by level (`Trav.levelTrails`).  Its ends are
the `bfs` stream (`bfs_eq_trails`); its members are those of `trails P n` (`mem_bfsTrails_iff`);
its paths increase for the level order `ShortLex` = (length, then pre-order of paths)
(`bfsPaths_sorted`), irreflexive under `WellKeyed` (`shortLex_irrefl`).
`bfs_enumerates_paths`: under `WellKeyed n` only, the unpruned, unfiltered `bfs()` stream
enumerates the non-empty valid paths exactly once, shorter paths first, paths of one length in
declaration order — "level by level" for trees with shared objects.
-/
import PyOak.Props.C05Paths
namespace PyOak
namespace C05P
open C05 C05X C05T Trav

variable (P : Item → Bool)

/-- a trail is shorter than the tree is large -/
theorem isTrail_length (n : Node) (t : List Item) (h : IsTrail n t) :
    t.length + (endNode n t).size ≤ n.size := by
  induction t generalizing n with
  | nil => simp [endNode]
  | cons a r ih =>
    have := ih a.node h.2
    have := items_size n a h.1
    simp only [List.length_cons, endNode]
    omega

/-- level by level, the same trails as depth first -/
theorem mem_bfsTrails_iff (n : Node) (t : List Item) : t ∈ bfsTrails P n ↔ t ∈ trails P n := by
  rw [mem_trails_iff]
  simp only [bfsTrails, List.mem_flatMap, List.mem_range, mem_levelTrails_iff]
  constructor
  · rintro ⟨k, _, hl, h⟩
    exact ⟨List.ne_nil_of_length_eq_add_one hl, h⟩
  · rintro ⟨hne, htr, hp⟩
    have h1 := isTrail_length n t htr
    have h2 := (endNode n t).size_pos
    have h3 : 0 < t.length := List.length_pos_iff.mpr hne
    exact ⟨t.length - 1, by omega, by omega, htr, hp⟩

/-- **`bfs(prune, filter)` by trails**: the stream is the list of ends of the trails listed level by
level, filtered -/
theorem bfs_eq_trails (F : Item → Bool) (n : Node) :
    bfsImpl P F n = ((bfsTrails P n).map trailEnd).filter F := by
  rw [bfs_levels]
  unfold bfs bfsTrails
  congr 1
  rw [List.map_flatMap]
  apply Framing.flatMap_congr'
  intro k _
  exact (levelTrails_end P n k).symm

/-! ### order -/

theorem pathLt_append (n : Node) (p q a b : List Edge) (h : PathLt n p q) (hl : p.length = q.length) :
    PathLt n (p ++ a) (q ++ b) := by
  induction h with
  | pre n e p => simp at hl
  | fork n e1 e2 p q hs => exact PathLt.fork n e1 e2 _ _ hs
  | down n c e p q hm _ ih => exact PathLt.down n c e _ _ hm (ih (by simpa using hl))

theorem pathLt_extend (n : Node) (t : List Item) (e e' : Edge) (ht : IsTrail n t)
    (hs : [e, e'].Sublist ((endNode n t).edges.map (·.2))) :
    PathLt n (pathOf t ++ [e]) (pathOf t ++ [e']) := by
  induction t generalizing n with
  | nil => exact PathLt.fork n e e' [] [] hs
  | cons a r ih =>
    exact PathLt.down n a.node a.edge _ _ ((mem_items_iff n a).mp ht.1).2 (ih a.node ht.2 hs)

theorem endNode_eq_trailEnd (n : Node) (t : List Item) (h : t ≠ []) :
    endNode n t = (trailEnd t).node := by
  obtain ⟨t', x, rfl⟩ := Framing.exists_snoc h
  rw [endNode_snoc, trailEnd_snoc]

/-- inside one level the paths are in the pre-order of paths (declaration order) -/
theorem levelPaths_sorted (n : Node) (k : Nat) :
    ((levelTrails P n k).map pathOf).Pairwise (PathLt n) := by
  induction k with
  | zero =>
    simp only [levelTrails, List.map_map, List.pairwise_map]
    exact (items_pairwise_sublist n).imp (fun h => PathLt.fork n _ _ [] [] h)
  | succ k ih =>
    simp only [levelTrails, List.map_flatMap, List.map_map]
    refine List.pairwise_flatMap.mpr ⟨?_, ?_⟩
    · intro t ht
      obtain ⟨hl, htr, _⟩ := (mem_levelTrails_iff P n k t).mp (List.mem_filter.mp ht).1
      have hne : t ≠ [] := List.ne_nil_of_length_eq_add_one hl
      rw [List.pairwise_map]
      have := items_pairwise_sublist (trailEnd t).node
      refine this.imp ?_
      intro a b hab
      simp only [Function.comp, pathOf, List.map_append, List.map_cons, List.map_nil]
      rw [← endNode_eq_trailEnd n t hne] at hab
      exact pathLt_extend n t a.edge b.edge htr hab
    · rw [List.pairwise_map] at ih
      have ih' := ih.sublist (List.filter_sublist (p := fun t => !P (trailEnd t)))
      refine List.Pairwise.imp_of_mem ?_ ih'
      intro t t' ht ht' hlt x hx y hy
      obtain ⟨hl, _, _⟩ := (mem_levelTrails_iff P n k t).mp (List.mem_filter.mp ht).1
      obtain ⟨hl', _, _⟩ := (mem_levelTrails_iff P n k t').mp (List.mem_filter.mp ht').1
      obtain ⟨c, _, rfl⟩ := List.mem_map.mp hx
      obtain ⟨c', _, rfl⟩ := List.mem_map.mp hy
      simp only [Function.comp, pathOf, List.map_append]
      exact pathLt_append n _ _ _ _ hlt (by simp [hl, hl'])

/-- **level order of paths**: shorter paths first, equal lengths in declaration order -/
theorem bfsPaths_sorted (n : Node) : ((bfsTrails P n).map pathOf).Pairwise (ShortLex n) := by
  unfold bfsTrails
  rw [List.map_flatMap]
  refine List.pairwise_flatMap.mpr ⟨?_, ?_⟩
  · intro k _
    have := levelPaths_sorted P n k
    rw [List.pairwise_map] at this ⊢
    refine List.Pairwise.imp_of_mem ?_ this
    intro t t' ht ht' h
    have hl := ((mem_levelTrails_iff P n k t).mp ht).1
    have hl' := ((mem_levelTrails_iff P n k t').mp ht').1
    exact Or.inr ⟨by simp [pathOf, hl, hl'], h⟩
  · refine List.pairwise_lt_range.imp ?_
    intro a b hab x hx y hy
    obtain ⟨t, ht, rfl⟩ := List.mem_map.mp hx
    obtain ⟨t', ht', rfl⟩ := List.mem_map.mp hy
    have hl := ((mem_levelTrails_iff P n a t).mp ht).1
    have hl' := ((mem_levelTrails_iff P n b t').mp ht').1
    exact Or.inl (by simp [pathOf, hl, hl']; omega)

theorem shortLex_irrefl (n : Node) (hW : WellKeyed n) (p q : List Edge) (h : ShortLex n p q) :
    p ≠ q := by
  rcases h with h | ⟨_, h⟩
  · intro heq; subst heq; omega
  · exact pathLt_irrefl n hW p q h

/-- **`bfs()` with sharing: each position exactly once, level by level** — under `WellKeyed n`
only, the unpruned, unfiltered `bfs()` stream is, position by position, the list of ends of trails
whose paths are pairwise distinct, are listed shorter first and in declaration order within one
length, and are all the non-empty valid paths below the start node -/
theorem bfs_enumerates_paths (n : Node) (hW : WellKeyed n) :
    ∃ ts : List (List Item),
      ts.map trailEnd = bfsImpl (fun _ => false) (fun _ => true) n ∧
      (∀ t ∈ ts, t ≠ [] ∧ IsTrail n t) ∧
      (ts.map pathOf).Nodup ∧
      (ts.map pathOf).Pairwise (ShortLex n) ∧
      (∀ p, p ∈ ts.map pathOf ↔ p ≠ [] ∧ ValidPath n p) ∧
      (ts.map pathOf).length + 1 = n.size := by
  have hend : (bfsTrails (fun _ => false) n).map trailEnd = bfsImpl (fun _ => false) (fun _ => true) n := by
    rw [bfs_eq_trails]; symm; simp
  refine ⟨bfsTrails (fun _ => false) n, hend, ?_, ?_, bfsPaths_sorted _ n, ?_, ?_⟩
  · intro t ht
    exact (mem_trails_noprune n t).mp ((mem_bfsTrails_iff _ n t).mp ht)
  · exact (bfsPaths_sorted _ n).imp (fun h => shortLex_irrefl n hW _ _ h)
  · intro p
    rw [← mem_paths_iff]
    simp only [List.mem_map, mem_bfsTrails_iff]
  · have h1 := (all_orders_length n).2
    rw [← hend] at h1
    simpa using h1

/-- the same enumeration pruned: the trails yielded by `bfs(prune)` are exactly those of
`dfs(prune)`, in level order -/
theorem bfs_pruned_paths (n : Node) (hW : WellKeyed n) :
    ∃ ts : List (List Item),
      ts.map trailEnd = bfsImpl P (fun _ => true) n ∧
      (∀ t, t ∈ ts ↔ t ≠ [] ∧ IsTrail n t ∧ ∀ y ∈ t.dropLast, P y = false) ∧
      (ts.map pathOf).Nodup ∧ (ts.map pathOf).Pairwise (ShortLex n) := by
  refine ⟨bfsTrails P n, by rw [bfs_eq_trails]; symm; simp, ?_, ?_, bfsPaths_sorted P n⟩
  · intro t; rw [mem_bfsTrails_iff]; exact mem_trails_iff P n t
  · exact (bfsPaths_sorted P n).imp (fun h => shortLex_irrefl n hW _ _ h)

private def hd (u : Nat) (c : Str) : Head :=
  { uid := u, cls := c, mro := [c], org := ⟨0, []⟩, props := [], truthy := true }
private def leaf (u : Nat) : Node := .mk (hd u ['L']) []
private def mid : Node := .mk (hd 2 ['M']) [.mk ['x'] false [leaf 3], .mk ['y'] true [leaf 5, leaf 6]]
private def shared : Node := .mk (hd 0 ['R']) [.mk ['a'] true [mid, mid], .mk ['b'] false [leaf 4]]

example : WellKeyed shared := by unfold WellKeyed EdgesNodup; decide +kernel
example : (bfsTrails (fun _ => false) shared).map pathOf =
    [[⟨['a'], some 0⟩], [⟨['a'], some 1⟩], [⟨['b'], none⟩],
     [⟨['a'], some 0⟩, ⟨['x'], none⟩], [⟨['a'], some 0⟩, ⟨['y'], some 0⟩],
     [⟨['a'], some 0⟩, ⟨['y'], some 1⟩],
     [⟨['a'], some 1⟩, ⟨['x'], none⟩], [⟨['a'], some 1⟩, ⟨['y'], some 0⟩],
     [⟨['a'], some 1⟩, ⟨['y'], some 1⟩]] := by decide +kernel
example : (bfsImpl (fun _ => false) (fun _ => true) shared).map (·.node.uid) =
    [2, 2, 4, 3, 5, 6, 3, 5, 6] := by decide

#print axioms mem_bfsTrails_iff
#print axioms bfs_eq_trails
#print axioms levelPaths_sorted
#print axioms bfsPaths_sorted
#print axioms shortLex_irrefl
#print axioms bfs_enumerates_paths
#print axioms bfs_pruned_paths

end C05P
end PyOak
