/-
C16 — "…and to nothing afterwards, whether the earlier call returned or raised part-way": what the
explicit `try … finally` of Model/SerOptsF.lean (`callF`, Props/C16.lean §1) is needed for
(cf. AUDIT.md C16 §4 (iii)).

  later_call_default               after ANY call that reached the wrapper a call of the library's own
                                   code produces the output of its own arguments
  callNoFinally_fails / callNoResetDeser_fails   the two calibration mutants violate `reset_afterF`
  reentrant_hook_breaks_options    what the library does NOT guarantee (and the real code shows the same):
                                   a user hook that makes a nested public call resets the options
                                   of the outer call part-way
-/
import PyOak.Props.C16
namespace PyOak
namespace C16
open SerOpts

/-- the same statement as `reset_after`, which is the `noHook noDHook` instance of `reset_afterF` -/
theorem reset_after_via_finally (g : G) (c : Call) (h : c.input ≠ .unparsable) : (call g c).1 = {} :=
  reset_after g c h

/-- **a later call without options produces the default output whether the earlier call returned
or raised part-way**: after ANY call that reached the wrapper (any options, any dialect, any hooks,
any entered state), a call of the library's own code is the body under exactly its own arguments -/
theorem later_call_default (hook : Hook) (dhook : DHook) (g : G) (c c' : Call)
    (h : c.input ≠ .unparsable) :
    (callF noHook noDHook (callF hook dhook g c).1 c').2 =
      body { opts := c'.opts.getD {}, md := effMd c'.kind c'.md } c'.input := by
  rw [reset_afterF hook dhook g c h, callF_eq_call, call_depends_on_own_args]

/-! ### the calibration mutants are refuted -/

def firstKey : Except Unit Out → Option Str
  | .ok (.j (.map (.mk k _ :: _))) => some k
  | _ => none

/-- mutant `ser_opts_no_finally` (reset skipped when the body raises): a call with options that
raises two levels down leaves them set … -/
theorem callNoFinally_fails :
    (cAll bombed).input ≠ .unparsable ∧
    (callNoFinally noHook noDHook {} (cAll bombed)).2 = .error () ∧
    (callNoFinally noHook noDHook {} (cAll bombed)).1 ≠ {} := by
  refine ⟨by simp [cAll], rfl, by decide⟩

/-- … and the next call WITHOUT options then writes no type tag (first key `content_id` instead of
`__type`): not the default output -/
theorem callNoFinally_later_call_fails :
    ((runSeqWith (callNoFinally noHook noDHook) {} [cAll bombed, cPlain good]).1.map
        fun x => firstKey x.1) = [none, some "content_id".toList] ∧
    firstKey (body {} (.ser good)) = some TYPE_KEY := by decide +kernel

/-- the same history under the real wrapper: default output -/
example : ((runSeqF noHook noDHook {} [cAll bombed, cPlain good]).1.map fun x => firstKey x.1)
    = [none, some TYPE_KEY] := by decide +kernel

/-- mutant `ser_opts_not_cleared_on_deser` (`as_obj` without the reset): a successful `from_msgpck`
with options leaves them set -/
theorem callNoResetDeser_fails :
    (callNoResetDeser noHook noDHook {} (cDeser (.node false [.plain]))).2 = .ok (.seen []) ∧
    (callNoResetDeser noHook noDHook {} (cDeser (.node false [.plain]))).1 ≠ {} := by
  refine ⟨rfl, by decide⟩

/-! ### hooks that write or raise: non-vacuity of the quantification over hooks -/

/-- a hook that overwrites the globals at every `Leaf` -/
def hookWrite : Hook := fun o => match o with
  | .mk .node cls _ _ _ => if cls = "Leaf".toList then M.write gAll else M.pure ()
  | _ => M.pure ()
/-- a hook that raises at every code point -/
def hookRaise : Hook := fun o => match o with
  | .mk .point _ _ _ _ => M.raise
  | _ => M.pure ()
/-- a user `__post_serialize__` that makes a nested public call (whose `finally` resets the slots) -/
def hookReenter : Hook := fun o => match o with
  | .mk .node cls _ _ _ => if cls = "Leaf".toList then resetM else M.pure ()
  | _ => M.pure ()

-- the body really leaves a dirty state behind when the hook writes …
example : (bodyM hookWrite noDHook (.ser good) {}).1 = gAll := by decide +kernel
-- … and the call resets it all the same
example : (callF hookWrite noDHook {} (cPlain good)).1 = {} :=
  reset_afterF hookWrite noDHook {} _ (by simp [cPlain])
-- a hook that raises three levels down (origin → position → code point)
example : (callF hookRaise noDHook {} (cAll good)).2 = .error () ∧
    (callF hookRaise noDHook {} (cAll good)).1 = {} :=
  ⟨rfl, reset_afterF hookRaise noDHook {} _ (by simp [cAll])⟩

def keysOf : J → List Str
  | .map fs => keys fs
  | _ => []
def itemsKeys : Except Unit Out → List (List Str)
  | .ok (.j (.map fs)) => fs.flatMap fun f => match f with
      | .mk _ (.arr xs) => xs.map keysOf
      | _ => []
  | _ => []

/-- NOT guaranteed — and the unchanged library behaves the same (checked on /repo: a user
`__post_serialize__` that calls `Other().as_dict()` makes the enclosing `as_dict(SKIP_CLASS)` write
`__type` on everything serialized after it): with a re-entrant hook the options of the call do not
reach every nested object.  The call asks for tag suppression; with the library's own hooks the
root mapping starts with `id`, with the re-entrant hook at the leaves it starts with `__type`.
The slots are nevertheless reset after the call.  (Outside the property's quantifier, which ranges
over SEQUENCES of calls; it is the reason why Model/SerOpts.lean may treat the body as a function
of the entered state only for the library's own hooks.) -/
theorem reentrant_hook_breaks_options :
    let c : Call := { kind := .asDict, opts := some { skip := some true }, md := none, input := .ser good }
    firstKey (callF noHook noDHook {} c).2 = some "id".toList ∧
    firstKey (callF hookReenter noDHook {} c).2 = some TYPE_KEY ∧
    (callF hookReenter noDHook {} c).1 = {} := by
  intro c
  exact ⟨by decide +kernel, by decide +kernel, reset_afterF hookReenter noDHook {} c (by simp [c])⟩

end C16
end PyOak
