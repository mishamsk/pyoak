/-
C19 / C18 — the invariant survives a REJECTED operation, so histories may mix accepted and rejected
operations (cf. AUDIT.md, C18/C19).

The theorems of Props/C19.lean need `Inv s` and give `Frame s s'`; `Frame` is silent about the garbage record that
a rejected constructor leaves beyond `s.size`, over which `Inv.wf / noDangling / noSelf / closed` range, so `Inv s'`
needs the description of that garbage (`Garbage`).

  inv_of_frame             generic: `Inv s`, `Frame s s'` and well-formed, unlinked garbage beyond `s.size`
                           (`Garbage s s'`) give `Inv s'`
  construct_fail_garbage, replace_fail_garbage, …   the garbage left by each rejected operation
  FrameAll.garbage         `replace_with` rejected with ASTNodeReplaceWithError restores EVERY record (not only
                           those below `size`), every lookup, and the size (`fail_frameAll_rwith`, Props/C19.lean):
                           it leaves no garbage at all
  Documented               the errors of one operation that are rejections in the sense of the property:
                           everything except `hang` (the call does not return) — and, for `replace_with`,
                           the error must be ASTNodeReplaceWithError (see `rwith_err_kind_partial` in
                           Props/C19RwithErr.lean for what is proved about the other exits)
  fail_frame_step          ONE uniform frame theorem: `step … = (s', .raised e)`, `Documented op e` ⇒ the
                           pre-existing records and registry entries are untouched (`FrameN`; `Frame` for every
                           operation but `duplicate`, `fail_frame_step_nodup`)
  inv_step_rejected        `Inv s`, `LOp.proved s op`, `step … = (s', .raised e)`, `Documented op e` ⇒ `Inv s'`
  inv_step_any             one step, accepted or rejected
  MixedRun / inv_run_mixed histories of accepted-or-rejected steps keep the invariant (from any state / from `init`)
  frame_run_rejected       a block of consecutive rejected operations changes no pre-existing record
-/
import PyOak.Props.C19
namespace PyOak.Legacy.C19
open PyOak PyOak.Legacy LState

variable (H Hc : Str → Str)

/-- beyond `size` an `Inv` state holds unlinked, well-formed junk -/
theorem inv_beyond {s : LState} (hI : Inv Hc s) {v : Nat} (hv : s.size ≤ v) :
    (s.obj v).pid = none ∧ (s.obj v).wf :=
  ⟨hI.pid_none fun ha => absurd (att_lt hI ha) (by omega), hI.wf v⟩

/-- what a rejected call may leave beyond the old `size`: records that store no parent link, have
well-formed child fields, and (as far as they count as existing) existing children -/
structure Garbage (s s' : LState) : Prop where
  size : s.size ≤ s'.size
  pid : ∀ v, s.size ≤ v → (s'.obj v).pid = none
  wf : ∀ v, s.size ≤ v → (s'.obj v).wf
  closed : ∀ v, s.size ≤ v → v < s'.size → ∀ c ∈ (s'.obj v).kidList, c < s'.size

theorem Garbage.refl {s : LState} (hI : Inv Hc s) : Garbage s s :=
  ⟨Nat.le_refl _, fun _ hv => (inv_beyond Hc hI hv).1, fun _ hv => (inv_beyond Hc hI hv).2,
   fun v h1 h2 => by omega⟩

/-- **frame + harmless garbage ⇒ invariant** -/
theorem inv_of_frame {s s' : LState} (hI : Inv Hc s) (hF : Frame s s') (hG : Garbage s s') : Inv Hc s' := by
  obtain ⟨hlk, hobj⟩ := hF
  have hid : ∀ v, v < s.size → s'.idOf v = s.idOf v := fun v hv => by unfold LState.idOf; rw [hobj v hv]
  have hatt : ∀ v, Att s' v → v < s.size ∧ Att s v := by
    intro v hv
    unfold Att at hv
    rw [hlk] at hv
    have hlt := (hI.regSound _ _ hv).1
    exact ⟨hlt, by unfold Att; rw [← hid v hlt]; exact hv⟩
  have hpar : ∀ v, v < s.size → s'.parent v = s.parent v := by
    intro v hv; unfold LState.parent; rw [hobj v hv]; split <;> simp [hlk]
  refine ⟨?_, ?_, ?_, ?_, ?_, ?_, ?_, ?_⟩
  · intro k u hk
    rw [hlk] at hk
    obtain ⟨a, b⟩ := hI.regSound k u hk
    exact ⟨Nat.lt_of_lt_of_le a hG.size, by rw [hid u a]; exact b⟩
  · intro u hu e he _
    obtain ⟨hlt, hua⟩ := hatt u hu
    rw [hobj u hlt] at he
    obtain ⟨a, b, c, d⟩ := hI.down' u hua e he
    have hel : e.1 < s.size := att_lt hI a
    refine ⟨?_, ?_, ?_, ?_⟩
    · unfold Att; rw [hlk, hid _ hel]; exact a
    · rw [hobj _ hel, hid u hlt]; exact b
    · rw [hobj _ hel]; exact c
    · rw [hobj _ hel]; exact d
  · intro u hu p hp
    obtain ⟨hlt, hua⟩ := hatt u hu
    rw [hpar u hlt] at hp
    have hpl : p < s.size := att_lt hI (hI.of_parent hp).2.1
    rw [hobj u hlt, hobj p hpl]
    exact hI.up u hua p hp
  · intro u hu _
    obtain ⟨hlt, hua⟩ := hatt u hu
    rw [hobj u hlt, hI.cid' u hua]
    congr 1
    symm
    apply cidPre_congr rfl rfl rfl
    intro c hc
    obtain ⟨e, he, he1⟩ := (mem_kidList_iff _ _).mp hc
    have := att_lt hI (hI.down' u hua e he).1
    rw [he1] at this
    rw [hobj c this]
  · intro u k hk
    by_cases hlt : u < s.size
    · rw [hobj u hlt] at hk
      obtain ⟨a, b⟩ := hI.noDangling u k hk
      exact ⟨by unfold Att; rw [hlk, hid u hlt]; exact a, by rw [hlk]; exact b⟩
    · rw [hG.pid u (by omega)] at hk; cases hk
  · intro u hu c hc
    by_cases hlt : u < s.size
    · rw [hobj u hlt] at hc
      exact Nat.lt_of_lt_of_le (hI.closed u hlt c hc) hG.size
    · exact hG.closed u (by omega) hu c hc
  · intro u hu
    by_cases hlt : u < s.size
    · rw [hpar u hlt] at hu; exact hI.noSelf u hu
    · rw [parent_of_pid_none (hG.pid u (by omega))] at hu; cases hu
  · intro u
    by_cases hlt : u < s.size
    · rw [hobj u hlt]; exact hI.wf u
    · exact hG.wf u (by omega)

/-- a rejected construction leaves one more record: unlinked, with the child fields of the request -/
theorem construct_fail_garbage {s s' : LState} {n : NewSpec} {fuel : Nat} {e : Err}
    (h : construct H Hc fuel s n = (s', .error e)) :
    s'.size = s.size + 1 ∧ (s'.obj s.size).pid = none ∧ (s'.obj s.size).fields = n.fields := by
  have hobjn := alloc_obj_size s (newObj n)
  rcases construct_cases H Hc h with ⟨rfl, _⟩ | ⟨nid, coll, orig, _, hf⟩
  · rw [hobjn]; exact ⟨rfl, rfl, rfl⟩
  · rcases finishConstruct_cases Hc hf with ⟨_, _, hr⟩ | ⟨_, ⟨e', ha, _⟩ | ⟨s2, _, _, hr⟩⟩
    · cases hr
    · rw [attach_fail_frame Hc _ _ _ _ _ ha, modify_obj_same, hobjn]
      exact ⟨by rw [modify_size]; rfl, rfl, rfl⟩
    · cases hr

/-- the garbage of a rejected construction over existing children -/
theorem Garbage.of_construct_fail {s s' : LState} {n : NewSpec} {fuel : Nat} {e : Err} (hI : Inv Hc s)
    (hk : ∀ c ∈ n.fields.flatMap (·.kids), c < s.size) (hwf : (newObj n).wf)
    (h : construct H Hc fuel s n = (s', .error e)) : Garbage s s' := by
  obtain ⟨_, hobj⟩ := construct_fail_frame H Hc h
  obtain ⟨hsz, hpid, hfl⟩ := construct_fail_garbage H Hc h
  refine ⟨by omega, ?_, ?_, ?_⟩
  · intro v hv
    by_cases hvs : v = s.size
    · subst hvs; exact hpid
    · rw [hobj v hvs]; exact (inv_beyond Hc hI hv).1
  · intro v hv
    by_cases hvs : v = s.size
    · subst hvs
      unfold LObj.wf; rw [hfl]; exact hwf
    · rw [hobj v hvs]; exact (inv_beyond Hc hI hv).2
  · intro v hv1 hv2 c hc
    have : v = s.size := by omega
    subst this
    unfold LObj.kidList at hc; rw [hfl] at hc
    have := hk c hc; omega

theorem construct_fail_inv {s s' : LState} {n : NewSpec} {fuel : Nat} {e : Err} (hI : Inv Hc s)
    (hk : ∀ c ∈ n.fields.flatMap (·.kids), c < s.size) (hwf : (newObj n).wf)
    (h : construct H Hc fuel s n = (s', .error e)) : Inv Hc s' :=
  inv_of_frame Hc hI (.of_construct_fail H Hc h) (.of_construct_fail H Hc hI hk hwf h)

/-- `detach_self` always answers -/
theorem detachGo_onlySelf_some (s : LState) (u fuel : Nat) : ∃ b, (detachGo (fuel + 1) true s u).2 = some b := by
  unfold detachGo
  split
  · exact ⟨_, rfl⟩
  · split
    · exact ⟨_, rfl⟩
    · rw [detachKids_onlySelf]; exact ⟨_, rfl⟩

/-- the state in which `replace` constructs the new node: the old one with some parent slots cleared and
some registry keys removed -/
theorem replace_torn_shrinks {s s1 s2 : LState} {u fuel : Nat}
    (hs1 : s1 = (if (s.parent u).isSome = true then s.clearParent u else s))
    (hs2 : s2 = (if (!s1.detached u) = true then (detachGo (fuel + 1) true s1 u).1 else s1)) : Shrinks s s2 := by
  have h1 : Shrinks s s1 := by
    rw [hs1]; split
    · exact shrinks_clearParent s u
    · exact Shrinks.refl s
  rw [hs2]; split
  · obtain ⟨b, hb⟩ := detachGo_onlySelf_some s1 u fuel
    exact h1.trans (detachGo_facts (fuel + 1) true s1 u b hb).shr
  · exact h1

theorem shrinks_beyond {s s2 : LState} (hI : Inv Hc s) (hS : Shrinks s s2) {v : Nat} (hv : s.size ≤ v) :
    (s2.obj v).pid = none ∧ (s2.obj v).wf := by
  obtain ⟨a, b⟩ := inv_beyond Hc hI hv
  rcases hS.obj v with h | h
  · rw [h]; exact ⟨a, b⟩
  · rw [h]; exact ⟨rfl, b⟩

/-- a rejected `replace` (not a walk that does not end) leaves, beyond the old `size`, the unlinked record
of the rejected new node and nothing else -/
theorem replace_fail_garbage {s s' : LState} {u fuel : Nat} {ch : Changes} {e : Err} (hI : Inv Hc s)
    (hu : u < s.size) (hk : ∀ c ∈ ch.fields.flatMap (·.2), c < s.size) (hwf : ch.wfFor (s.obj u))
    (h : replace H Hc fuel s u ch = (s', .error e)) (he : e ≠ .hang) : Garbage s s' := by
  rcases replace_rejected H Hc h he with rfl | ⟨s1, s2, s3, sp, hs1, hs2, hfl, hc, hs'⟩
  · exact Garbage.refl Hc hI
  · have hS := replace_torn_shrinks hs1 hs2
    generalize (!s1.detached u) = wasAtt at hs'
    obtain ⟨hreg3, hobj3⟩ := construct_fail_frame H Hc hc
    obtain ⟨hsz3, hpid3, hfl3⟩ := construct_fail_garbage H Hc hc
    rw [hS.size] at hsz3 hpid3 hfl3 hobj3
    rw [hfl] at hfl3
    -- the roll-back touches the receiver and its children only
    have hkl3 : (s3.obj u).kidsPos.map (·.1) = (s.obj u).kidList := by
      rw [kidsPos_map_fst, hobj3 u (by omega)]; exact hS.kidList_eq u
    have hs4 : ∀ v, s.size ≤ v →
        ((if wasAtt = true then reparent u (s3.register u) (s3.obj u).kidsPos else s3).obj v) = s3.obj v := by
      intro v hv
      split
      · rw [reparent_obj_not_mem _ _ _ _ (by
          rw [hkl3]; intro hm; have := hI.closed u hu v hm; omega)]
        rfl
      · rfl
    have hs5 : ∀ v, s.size ≤ v → s'.obj v = s3.obj v := by
      intro v hv
      rw [hs']
      split
      · rw [setParent_obj]; rw [if_neg (by omega)]; exact hs4 v hv
      · exact hs4 v hv
    have hsz5 : s'.size = s.size + 1 := by
      rw [hs']
      split <;> (try rw [setParent_size]) <;> split <;> (try rw [reparent_size]) <;> exact hsz3
    have hfields : (s3.obj s.size).fields = applyFields (s.obj u).fields ch.fields := by
      rw [hfl3, hS.fields_eq]
    refine ⟨by omega, ?_, ?_, ?_⟩
    · intro v hv
      rw [hs5 v hv]
      by_cases hvs : v = s.size
      · subst hvs; exact hpid3
      · rw [hobj3 v hvs]; exact (shrinks_beyond Hc hI hS hv).1
    · intro v hv
      rw [hs5 v hv]
      by_cases hvs : v = s.size
      · subst hvs
        unfold LObj.wf
        rw [hfields, applyFields_names]
        exact ⟨(hI.wf u).1, hwf⟩
      · rw [hobj3 v hvs]; exact (shrinks_beyond Hc hI hS hv).2
    · intro v hv1 hv2 c hcm
      have : v = s.size := by omega
      subst this
      rw [hs5 _ hv1] at hcm
      unfold LObj.kidList at hcm
      rw [hfields] at hcm
      rw [hsz5]
      apply Nat.lt_succ_of_lt
      rcases C18.applyFields_kids hcm with h1 | h1
      · exact hk c h1
      · exact hI.closed u hu c h1

theorem FrameAll.garbage {s s' : LState} (hI : Inv Hc s) (h : FrameAll s s') : Garbage s s' :=
  ⟨by rw [h.2.2]; exact Nat.le_refl _, fun v hv => by rw [h.2.1]; exact (inv_beyond Hc hI hv).1,
   fun v hv => by rw [h.2.1]; exact (inv_beyond Hc hI hv).2, fun v h1 h2 => by rw [h.2.2] at h2; omega⟩

/-- the errors of an operation that are *rejections* in the sense of the property (a documented error class
comes back and the call has returned): everything except `hang` (the call does not return: the library loops
on an inadmissible argument).  For `replace_with` the rejection is ASTNodeReplaceWithError; its other exits
(`internal`, a collision raised by the re-attachment of the receiver inside the roll-back) are the subject of
`rwith_err_kind_partial` (Props/C19RwithErr.lean). -/
def Documented : LOp → Err → Prop
  | .rwith _ _, e => e = .replaceWithError
  | _, e => e ≠ .hang

instance (op : LOp) (e : Err) : Decidable (Documented op e) := by
  cases op <;> unfold Documented <;> infer_instance

def isDup : LOp → Bool
  | .dup _ _ => true
  | _ => false

/-- the frame of a rejected call modulo the objects it created itself (the three facts of `fail_frame_dup`; the
same structure as `C19T.FrameG` of Props/C19Transform.lean, see Props/C19RejectedBridge.lean) -/
structure FrameN (s s' : LState) : Prop where
  obj : ∀ v, v < s.size → s'.obj v = s.obj v
  keep : ∀ k v, s.lookup k = some v → s'.lookup k = some v
  fresh : ∀ k v, s'.lookup k = some v → s.lookup k = some v ∨ s.size ≤ v

theorem FrameN.frame_of_reg {s s' : LState} (h : FrameN s s') (hr : s'.reg = s.reg) : Frame s s' :=
  .of_reg hr h.obj

theorem frameN_of_frame {s s' : LState} (h : Frame s s') : FrameN s s' :=
  ⟨h.2, fun k v hk => by rw [h.1]; exact hk, fun k v hk => .inl (by rw [← h.1]; exact hk)⟩

theorem frameN_trans {a b c : LState} (h1 : FrameN a b) (h2 : FrameN b c) (hs : a.size ≤ b.size) : FrameN a c := by
  refine ⟨fun v hv => ?_, fun k v hk => h2.keep k v (h1.keep k v hk), fun k v hk => ?_⟩
  · rw [h2.obj v (by omega)]; exact h1.obj v hv
  · rcases h2.fresh k v hk with h | h
    · exact h1.fresh k v h
    · exact .inr (by omega)

theorem frame_trans {a b c : LState} (h1 : Frame a b) (h2 : Frame b c) (hs : a.size ≤ b.size) : Frame a c :=
  ⟨fun k => (h2.1 k).trans (h1.1 k), fun v hv => (h2.2 v (by omega)).trans (h1.2 v hv)⟩

/-- **everything about one rejected step**: the invariant survives, the pre-existing records and registry
entries are untouched (`FrameN`: modulo registry entries of objects created by the rejected call, which only
a rejected `duplicate` leaves; plain `Frame` for every other operation), objects are only added -/
theorem rejected_step {s s' : LState} {op : LOp} {e : Err} (hI : Inv Hc s) (hp : C18.LOp.proved s op)
    (h : step H Hc s op = (s', .raised e)) (hd : Documented op e) :
    Inv Hc s' ∧ FrameN s s' ∧ s.size ≤ s'.size ∧ (isDup op = false → Frame s s') := by
  have triv : s' = s → Inv Hc s' ∧ FrameN s s' ∧ s.size ≤ s'.size ∧ (isDup op = false → Frame s s') := by
    rintro rfl; exact ⟨hI, frameN_of_frame (Frame.refl _), Nat.le_refl _, fun _ => Frame.refl _⟩
  have ofFrame : Frame s s' → Garbage s s' →
      Inv Hc s' ∧ FrameN s s' ∧ s.size ≤ s'.size ∧ (isDup op = false → Frame s s') :=
    fun hF hG => ⟨inv_of_frame Hc hI hF hG, frameN_of_frame hF, hG.size, fun _ => hF⟩
  rcases step_raised H Hc h with ⟨rfl, _⟩ | ⟨hlt, hc⟩
  · exact triv rfl
  cases op with
  | new sp =>
    exact ofFrame (.of_construct_fail H Hc hc)
      (.of_construct_fail H Hc hI (fun c hc' => hlt c (by simpa [LOp.refs] using hc')) hp hc)
  | attach u => exact triv (fail_frame_attach H Hc h)
  | detach u os => exact absurd hc hd
  | replace u ch =>
    exact ofFrame (fail_frame_replace H Hc hI h hd) (replace_fail_garbage H Hc hI (hlt u (by simp [LOp.refs]))
      (fun c hc' => hlt c (by simp only [LOp.refs, List.mem_cons]; exact .inr hc')) hp hc hd)
  | rwith u n =>
    have hd' : e = .replaceWithError := hd
    subst hd'
    have hA := fail_frameAll_rwith H Hc hI h
    exact ofFrame hA.frame (hA.garbage Hc hI)
  | dup u c =>
    obtain ⟨⟨hI', hN, hs⟩, _⟩ := duplicate_all H Hc _ _ _ s u s' _ hI (NewOnly.refl s)
      (hlt u (by simp [LOp.refs])) hc
    exact ⟨hI', ⟨hN.obj, hN.keep, hN.fresh⟩, hs, fun hx => by simp [isDup] at hx⟩

/-- **the invariant also holds after a REJECTED step** -/
theorem inv_step_rejected {s s' : LState} {op : LOp} {e : Err} (hI : Inv Hc s) (hp : C18.LOp.proved s op)
    (h : step H Hc s op = (s', .raised e)) (hd : Documented op e) : Inv Hc s' :=
  (rejected_step H Hc hI hp h hd).1

/-- **one uniform frame theorem** for all operations: a rejected step leaves every pre-existing record and
every pre-existing registry entry untouched, and whatever else is registered afterwards is an object created
by the rejected call -/
theorem fail_frame_step {s s' : LState} {op : LOp} {e : Err} (hI : Inv Hc s) (hp : C18.LOp.proved s op)
    (h : step H Hc s op = (s', .raised e)) (hd : Documented op e) : FrameN s s' :=
  (rejected_step H Hc hI hp h hd).2.1

theorem fail_frame_step_nodup {s s' : LState} {op : LOp} {e : Err} (hI : Inv Hc s) (hp : C18.LOp.proved s op)
    (h : step H Hc s op = (s', .raised e)) (hd : Documented op e) (hnd : isDup op = false) : Frame s s' :=
  (rejected_step H Hc hI hp h hd).2.2.2 hnd

/-- the answer of a step is fine: the call returned, or it was rejected with a documented error -/
def FineOut (op : LOp) : LOut → Prop
  | .raised e => Documented op e
  | _ => True

instance (op : LOp) (out : LOut) : Decidable (FineOut op out) := by
  cases out <;> unfold FineOut <;> infer_instance

theorem inv_step_any {s s' : LState} {op : LOp} {out : LOut} (hI : Inv Hc s) (hp : C18.LOp.proved s op)
    (h : step H Hc s op = (s', out)) (hf : FineOut op out) : Inv Hc s' := by
  cases out with
  | raised e => exact inv_step_rejected H Hc hI hp h hf
  | none => exact C18.inv_step H Hc hI hp h rfl
  | bool b => exact C18.inv_step H Hc hI hp h rfl
  | node n => exact C18.inv_step H Hc hI hp h rfl

/-- a history each of whose steps returned or was rejected with a documented error -/
def MixedRun : LState → List LOp → Prop
  | _, [] => True
  | s, op :: r => C18.LOp.proved s op ∧ FineOut op (step H Hc s op).2 ∧ MixedRun (step H Hc s op).1 r

/-- **the invariant holds after every history of accepted and rejected operations** -/
theorem inv_run_mixed : ∀ (ops : List LOp) (s : LState), Inv Hc s → MixedRun H Hc s ops → Inv Hc (run H Hc s ops) := by
  intro ops
  induction ops with
  | nil => intro s hI _; exact hI
  | cons op r ih =>
    intro s hI hg
    obtain ⟨hp, hf, hr⟩ := hg
    unfold run
    simp only [List.foldl_cons]
    exact ih _ (inv_step_any H Hc hI hp rfl hf) hr

theorem inv_run_mixed_init (ops : List LOp) (hg : MixedRun H Hc init ops) : Inv Hc (run H Hc init ops) :=
  inv_run_mixed H Hc ops init (C18.inv_init Hc) hg

theorem mixedRun_of_goodRun : ∀ (ops : List LOp) (s : LState), C18.GoodRun H Hc s ops → MixedRun H Hc s ops := by
  intro ops
  induction ops with
  | nil => intro s _; trivial
  | cons op r ih =>
    intro s hg
    obtain ⟨hp, hok, hr⟩ := hg
    refine ⟨hp, ?_, ih _ hr⟩
    cases ho : (step H Hc s op).2 with
    | raised e => rw [ho] at hok; simp [LOut.isOk] at hok
    | none => trivial
    | bool b => trivial
    | node n => trivial

theorem MixedRun.take {ops : List LOp} {s : LState} (k : Nat) : MixedRun H Hc s ops → MixedRun H Hc s (ops.take k) :=
  C18.take_of_run (next := fun s op => (step H Hc s op).1) (fun _ => trivial) (fun h => h.2.2)
    (fun h h' => ⟨h.1, h.2.1, h'⟩) k

/-- a block of consecutive rejected operations (what the harness appends to a history) -/
def RejectedRun : LState → List LOp → Prop
  | _, [] => True
  | s, op :: r => C18.LOp.proved s op ∧ (∃ e, (step H Hc s op).2 = .raised e ∧ Documented op e) ∧
      RejectedRun (step H Hc s op).1 r

/-- **any number of consecutive rejections change nothing**: after the whole block every record and registry
entry that existed before it is untouched (and the invariant holds, so the theorems apply again) -/
theorem frame_run_rejected : ∀ (ops : List LOp) (s : LState), Inv Hc s → RejectedRun H Hc s ops →
    Inv Hc (run H Hc s ops) ∧ FrameN s (run H Hc s ops) ∧ s.size ≤ (run H Hc s ops).size ∧
      ((∀ op ∈ ops, isDup op = false) → Frame s (run H Hc s ops)) := by
  intro ops
  induction ops with
  | nil => intro s hI _; exact ⟨hI, frameN_of_frame (Frame.refl _), Nat.le_refl _, fun _ => Frame.refl _⟩
  | cons op r ih =>
    intro s hI hg
    obtain ⟨hp, ⟨e, he, hd⟩, hr⟩ := hg
    have hstep : step H Hc s op = ((step H Hc s op).1, .raised e) := by rw [← he]
    obtain ⟨a, b, c, d⟩ := rejected_step H Hc hI hp hstep hd
    obtain ⟨a', b', c', d'⟩ := ih _ a hr
    unfold run at a' b' c' d' ⊢
    simp only [List.foldl_cons]
    refine ⟨a', frameN_trans b b' c, by omega, fun hnd => ?_⟩
    exact frame_trans (d (hnd op (List.mem_cons_self ..))) (d' (fun o ho => hnd o (List.mem_cons_of_mem _ ho))) c

/-! ### non-vacuity: every theorem is applied to concrete data -/
section examples
open PyOak.Legacy.Ex PyOak.Legacy.C18

def decMixedRun : ∀ (ops : List LOp) (s : LState), Decidable (MixedRun id id s ops)
  | [], _ => isTrue trivial
  | op :: r, s =>
    have := decMixedRun r (step id id s op).1
    inferInstanceAs (Decidable
      (LOp.proved s op ∧ FineOut op (step id id s op).2 ∧ MixedRun id id (step id id s op).1 r))

instance (s : LState) (ops : List LOp) : Decidable (MixedRun id id s ops) := decMixedRun ops s

def decRejectedRun : ∀ (ops : List LOp) (s : LState), Decidable (RejectedRun id id s ops)
  | [], _ => isTrue trivial
  | op :: r, s =>
    have := decRejectedRun r (step id id s op).1
    have : Decidable (∃ e, (step id id s op).2 = .raised e ∧ Documented op e) :=
      match h : (step id id s op).2 with
      | .raised e => if hd : Documented op e then isTrue ⟨e, rfl, hd⟩
          else isFalse (fun ⟨e', he', hd'⟩ => by cases he'; exact hd hd')
      | .none => isFalse (fun ⟨_, he', _⟩ => by cases he')
      | .bool _ => isFalse (fun ⟨_, he', _⟩ => by cases he')
      | .node _ => isFalse (fun ⟨_, he', _⟩ => by cases he')
    inferInstanceAs (Decidable (LOp.proved s op ∧ (∃ e, (step id id s op).2 = .raised e ∧ Documented op e) ∧
      RejectedRun id id (step id id s op).1 r))

instance (s : LState) (ops : List LOp) : Decidable (RejectedRun id id s ops) := decRejectedRun ops s

/-- 18 operations from the empty world, 8 of them rejected (every kind of operation that can be rejected:
constructor with a repeated child / a child attached elsewhere, `replace` with repeated children,
`replace_with` a node that cannot be attached -- receiver a root and a child --, `duplicate` of a missing
object, `attach` of a tree one of whose nodes has been taken), interleaved with accepted operations; a
rejected constructor consumes an object number (the garbage record) -/
def mixed : List LOp :=
  [.new (leaf "1"), .new (leaf "2"), .new (tup [0]), .new (un 1),
   .new (tup [0, 0]), .new (tup [2, 1]), .replace 2 ⟨[], [("items".toList, [0, 0])], false⟩,
   .new (un 0 true), .rwith 3 (some 7), .rwith 1 (some 7), .dup 99 false, .attach 7,
   .detach 3 false, .new (tup [1]), .attach 3, .replace 0 ⟨[⟨"v".toList, "7".toList, true⟩], [], false⟩,
   .rwith 1 none, .dup 2 false]

private theorem out_m4 : outOf (mixed.take 4) (.new (tup [0, 0])) = .raised .dupChildren := by decide +kernel
private theorem out_m5 : outOf (mixed.take 5) (.new (tup [2, 1])) = .raised .parentCollision := by decide +kernel
private theorem out_m6 :
    outOf (mixed.take 6) (.replace 2 ⟨[], [("items".toList, [0, 0])], false⟩) = .raised .dupChildren := by decide +kernel
private theorem out_m9 : outOf (mixed.take 9) (.rwith 1 (some 7)) = .raised .replaceWithError := by decide +kernel
private theorem out_m14 : outOf (mixed.take 14) (.attach 3) = .raised .parentCollision := by decide +kernel

example : outOf (mixed.take 4) (.new (tup [0, 0])) = .raised .dupChildren ∧
    outOf (mixed.take 5) (.new (tup [2, 1])) = .raised .parentCollision ∧
    outOf (mixed.take 6) (.replace 2 ⟨[], [("items".toList, [0, 0])], false⟩) = .raised .dupChildren ∧
    outOf (mixed.take 8) (.rwith 3 (some 7)) = .raised .replaceWithError ∧
    outOf (mixed.take 9) (.rwith 1 (some 7)) = .raised .replaceWithError ∧
    outOf (mixed.take 11) (.attach 7) = .raised .parentCollision ∧
    outOf (mixed.take 14) (.attach 3) = .raised .parentCollision ∧
    outOf (mixed.take 15) (.replace 0 ⟨[⟨"v".toList, "7".toList, true⟩], [], false⟩) = .node 9 :=
  ⟨out_m4, out_m5, out_m6, by decide, out_m9, by decide, out_m14, by decide⟩

private theorem mixedRun_mixed : MixedRun id id init mixed := by decide +kernel

private theorem inv_m (n : Nat) : Inv id (st (mixed.take n)) :=
  inv_run_mixed_init id id _ (MixedRun.take id id n mixedRun_mixed)

example : MixedRun id id init mixed := mixedRun_mixed
-- … which is NOT a `GoodRun`: `inv_run` does not apply, `inv_run_mixed` does
example : ¬ GoodRun id id init mixed := fun h => by
  -- its fifth step is the rejected constructor
  have h4 : (outOf (mixed.take 4) (.new (tup [0, 0]))).isOk = true := h.ok_at (k := 4) rfl
  rw [out_m4] at h4; cases h4
theorem inv_mixed : Inv id (st mixed) := inv_run_mixed_init id id mixed mixedRun_mixed
set_option maxRecDepth 4000 in
example : (st mixed).size = 12 := by decide +kernel

-- one rejected step of each kind, from a state reached by a mixed history
example : Inv id (step id id (st (mixed.take 5)) (.new (tup [2, 1]))).1 :=
  inv_step_rejected id id (op := .new (tup [2, 1])) (e := .parentCollision) (inv_m 5) (by decide)
    (step_of_outOf out_m5) (by decide)
example : Inv id (step id id (st (mixed.take 6)) (.replace 2 ⟨[], [("items".toList, [0, 0])], false⟩)).1 :=
  inv_step_rejected id id (op := .replace 2 ⟨[], [("items".toList, [0, 0])], false⟩) (e := .dupChildren) (inv_m 6)
    (by decide +kernel) (step_of_outOf out_m6) (by decide)
example : Inv id (step id id (st (mixed.take 9)) (.rwith 1 (some 7))).1 :=
  inv_step_rejected id id (op := .rwith 1 (some 7)) (inv_m 9) trivial (step_of_outOf out_m9) rfl
example : Frame (st (mixed.take 9)) (step id id (st (mixed.take 9)) (.rwith 1 (some 7))).1 :=
  fail_frame_step_nodup id id (op := .rwith 1 (some 7)) (inv_m 9) trivial (step_of_outOf out_m9) rfl rfl
example : FrameAll (st (mixed.take 9)) (step id id (st (mixed.take 9)) (.rwith 1 (some 7))).1 :=
  fail_frameAll_rwith id id (inv_m 9) (step_of_outOf out_m9)
example : FrameN (st (mixed.take 14)) (step id id (st (mixed.take 14)) (.attach 3)).1 :=
  fail_frame_step id id (op := .attach 3) (e := .parentCollision) (inv_m 14) trivial (step_of_outOf out_m14) (by decide)
-- the garbage of a rejected `replace`: one unlinked record beyond the old size
example : Garbage (st (mixed.take 6)) (step id id (st (mixed.take 6)) (.replace 2 ⟨[], [("items".toList, [0, 0])], false⟩)).1 :=
  have h := (step_raised id id (step_of_outOf out_m6)).resolve_left fun h => by cases h.2
  replace_fail_garbage id id (inv_m 6) (h.1 2 (List.mem_cons_self ..)) (fun c hc => h.1 c (List.mem_cons_of_mem _ hc))
    (by decide +kernel) h.2 (by decide)

/-- a `duplicate` rejected for a REAL reason (not a missing object): a detached tuple over two leaves that
have become twins (the first was replaced by the second, which took its id) -- `dupChildren` is raised by the constructor of the
copy of the tuple after both children have been copied -/
def histD : List LOp :=
  [.new { leaf "1" with createDetached := true }, .new (leaf "2"),
   .new { tup [0, 1] with createDetached := true }, .rwith 0 (some 1)]
theorem out_histD : outOf histD (.dup 2 true) = .raised .dupChildren := by decide +kernel
theorem inv_histD : Inv id (st histD) := inv_run_mixed_init id id _ (by decide +kernel)
private theorem frameN_histD : FrameN (st histD) (step id id (st histD) (.dup 2 true)).1 :=
  fail_frame_step id id (op := .dup 2 true) (e := .dupChildren) inv_histD trivial (step_of_outOf out_histD) (by decide)
example : outOf histD (.dup 2 true) = .raised .dupChildren := out_histD
example : MixedRun id id init (histD ++ [.dup 2 true, .dup 2 false, .dup 2 true]) := by decide +kernel
example : Inv id (step id id (st histD) (.dup 2 true)).1 ∧ FrameN (st histD) (step id id (st histD) (.dup 2 true)).1 :=
  ⟨inv_step_rejected id id (op := .dup 2 true) (e := .dupChildren) inv_histD trivial (step_of_outOf out_histD)
    (by decide), frameN_histD⟩
-- the copies of a detached clone are never registered: here even `Frame`
example : Frame (st histD) (step id id (st histD) (.dup 2 true)).1 :=
  frameN_histD.frame_of_reg (C19T.step_dup_clone_reg id id (step_of_outOf out_histD))

/-- three consecutive rejections after a history (the shape the harness generates) -/
def tail3 : List LOp := [.new (tup [0, 0]), .rwith 3 (some 0), .replace 2 ⟨[], [("items".toList, [0, 0])], false⟩]
private theorem rejectedRun_tail3 : RejectedRun id id (st base) tail3 := by decide +kernel
example : RejectedRun id id (st base) tail3 := rejectedRun_tail3
example : Frame (st base) (run id id (st base) tail3) :=
  (frame_run_rejected id id tail3 (st base) inv_base rejectedRun_tail3).2.2.2 (by decide)
example : Inv id (run id id (st base) tail3) := (frame_run_rejected id id tail3 (st base) inv_base rejectedRun_tail3).1

example := mixedRun_of_goodRun id id hist init good_hist
example := inv_step_any id id (s := st (mixed.take 4)) (op := .new (tup [0, 0])) (out := .raised .dupChildren)
  (inv_m 4) (by decide) (step_of_outOf out_m4) (by decide)

end examples

#print axioms inv_of_frame
#print axioms rejected_step
#print axioms inv_step_rejected
#print axioms fail_frame_step
#print axioms fail_frame_step_nodup
#print axioms fail_frameAll_rwith
#print axioms inv_step_any
#print axioms inv_run_mixed
#print axioms inv_run_mixed_init
#print axioms frame_run_rejected

end PyOak.Legacy.C19
