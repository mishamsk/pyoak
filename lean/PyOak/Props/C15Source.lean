/-
C15 — `==` on sources is an equivalence; consequences for `mergeable` and for the source of a
multi-origin.

`MultiOrigin.__post_init__` (origin.py):

    if all(origin.source == self.origins[0].source for origin in self.origins[1:]):  source = origins[0].source
    else:                                         source = SourceSet(tuple([origin.source for origin in self.origins]))

so the decision compares every member with the FIRST one.  Because `==` (`SrcV.beq`: same class and same compared
fields; a `SourceSet` member-wise) is reflexive, symmetric and transitive (`srcBeq_refl/symm/trans`), that test is the
order-independent statement "all members have pairwise `==` sources" (`common_iff_pairwise`, `commonSrc_perm`).
In the common case the source is the first member's source — `==` to every member's source, and `==` to what any other
operand order would give (`mkMulti_common_perm`); otherwise it is the `SourceSet` of ALL members' sources in operand order,
duplicates included (NOT the distinct sources: `sourceSet_keeps_duplicates`).
`mkMulti_common` has both cases, `merge_source` the same for `merge_origins`.
-/
import PyOak.Props.C15
namespace PyOak.C15
open PyOak.Gen PyOak.OriginAlg

mutual
theorem srcBeq_refl : ∀ a : SrcV, SrcV.beq a a = true
  | .one s => beq_self_eq_true s.key
  | .set ms => srcBeqList_refl ms
theorem srcBeqList_refl : ∀ xs : List SrcV, SrcV.beqList xs xs = true
  | [] => rfl
  | x :: r => Bool.and_eq_true_iff.mpr ⟨srcBeq_refl x, srcBeqList_refl r⟩
end

mutual
theorem srcBeq_symm : ∀ a b : SrcV, SrcV.beq a b = SrcV.beq b a
  | .one _, .one _ => BEq.comm
  | .set xs, .set ys => srcBeqList_symm xs ys
  | .one _, .set _ => rfl
  | .set _, .one _ => rfl
theorem srcBeqList_symm : ∀ xs ys : List SrcV, SrcV.beqList xs ys = SrcV.beqList ys xs
  | [], [] => rfl
  | x :: xs, y :: ys => by
    show (SrcV.beq x y && SrcV.beqList xs ys) = (SrcV.beq y x && SrcV.beqList ys xs)
    rw [srcBeq_symm x y, srcBeqList_symm xs ys]
  | [], _ :: _ => rfl
  | _ :: _, [] => rfl
end

mutual
theorem srcBeq_trans : ∀ a b c : SrcV, SrcV.beq a b = true → SrcV.beq b c = true → SrcV.beq a c = true
  | .one s, b, c => by
      -- `==` is false across the two constructors, which disposes of the mixed cases
      cases b <;> cases c
      case one.one t u => simp only [SrcV.beq, beq_iff_eq]; intro h1 h2; exact h1.trans h2
      all_goals simp [SrcV.beq]
  | .set xs, b, c => by
      cases b <;> cases c
      case set.set ys zs => simp only [SrcV.beq]; exact srcBeqList_trans xs ys zs
      all_goals simp [SrcV.beq]
theorem srcBeqList_trans : ∀ xs ys zs : List SrcV,
    SrcV.beqList xs ys = true → SrcV.beqList ys zs = true → SrcV.beqList xs zs = true
  | [], ys, zs => by
      cases ys <;> cases zs <;> simp [SrcV.beqList]
  | x :: xs, ys, zs => by
      cases ys <;> cases zs
      case cons.cons y ys z zs =>
        simp only [SrcV.beqList, Bool.and_eq_true]
        intro h1 h2
        exact ⟨srcBeq_trans x y z h1.1 h2.1, srcBeqList_trans xs ys zs h1.2 h2.2⟩
      all_goals simp [SrcV.beqList]
end

/-- the three laws for the `==` the model actually uses (`instance : BEq SrcV := ⟨SrcV.beq⟩`) -/
theorem src_eq_refl (a : SrcV) : (a == a) = true := srcBeq_refl a
theorem src_eq_symm (a b : SrcV) : (a == b) = (b == a) := srcBeq_symm a b
theorem src_eq_trans (a b c : SrcV) (h1 : (a == b) = true) (h2 : (b == c) = true) : (a == c) = true :=
  srcBeq_trans a b c h1 h2

/-- a leaf source is `==` exactly to the leaf sources of its key … -/
theorem src_eq_one (s t : Src) : (SrcV.one s == SrcV.one t) = (s.key == t.key) := by
  show SrcV.beq _ _ = _; simp [SrcV.beq]
/-- … never to a source set … -/
theorem src_eq_one_set (s : Src) (ms : List SrcV) : (SrcV.one s == SrcV.set ms) = false ∧ (SrcV.set ms == SrcV.one s) = false :=
  ⟨by show SrcV.beq _ _ = _; simp [SrcV.beq], by show SrcV.beq _ _ = _; simp [SrcV.beq]⟩
theorem beqList_eq_isEqv : ∀ xs ys : List SrcV, SrcV.beqList xs ys = xs.isEqv ys SrcV.beq
  | [], [] => rfl
  | [], _ :: _ => rfl
  | _ :: _, [] => rfl
  | x :: xs, y :: ys => congrArg (SrcV.beq x y && ·) (beqList_eq_isEqv xs ys)

theorem srcBeqList_iff (xs ys : List SrcV) :
    SrcV.beqList xs ys = true ↔ xs.length = ys.length ∧ ∀ i (h1 : i < xs.length) (h2 : i < ys.length), (xs[i] == ys[i]) = true := by
  rw [beqList_eq_isEqv, List.isEqv_eq_decide]
  split
  · rename_i h
    simp only [decide_eq_true_eq, h, true_and]
    exact ⟨fun H i h1 _ => H i h1, fun H i h1 => H i h1 (h ▸ h1)⟩
  · rename_i h; simp [h]
/-- … and a source set exactly to the source sets that are member-wise `==` (same length) -/
theorem src_eq_set (xs ys : List SrcV) :
    (SrcV.set xs == SrcV.set ys) = true ↔
      xs.length = ys.length ∧ ∀ i (h1 : i < xs.length) (h2 : i < ys.length), (xs[i] == ys[i]) = true := by
  rw [← srcBeqList_iff]; show SrcV.beq _ _ = _ ↔ _; simp [SrcV.beq]

/-- the fusing decision of `CodeOrigin.__add__` does not depend on which operand is on the left -/
theorem mergeable_symm (a b : Origin) : mergeable a b = mergeable b a := by
  cases a <;> cases b <;> simp only [mergeable]
  rw [src_eq_symm, overlaps_symm]

/-- … and a code origin is always fusable with itself when its range is well-ordered -/
theorem mergeable_self (g : Bool) (s : SrcV) (r : CodeRange) (h : r.valid = true) :
    mergeable (.code g s r) (.code g s r) = true := by
  rw [range_valid_iff] at h
  simp only [mergeable, src_eq_refl, Bool.true_and]
  exact (overlaps_iff r r).mpr ⟨h, h⟩

/-- the test of `MultiOrigin.__post_init__`: every member after the first has a source `==` to the first one's -/
def commonSrc : List Origin → Bool
  | [] => true
  | x :: r => r.all (fun o => o.source == x.source)

/-- that test is the symmetric statement "all members have pairwise `==` sources" -/
theorem common_iff_pairwise (xs : List Origin) :
    commonSrc xs = true ↔ ∀ a ∈ xs, ∀ b ∈ xs, (a.source == b.source) = true := by
  cases xs with
  | nil => simp [commonSrc]
  | cons x r =>
    simp only [commonSrc, List.all_eq_true]
    constructor
    · intro h
      have hx : ∀ a ∈ x :: r, (a.source == x.source) = true := List.forall_mem_cons.mpr ⟨src_eq_refl _, h⟩
      intro a ha b hb
      exact src_eq_trans _ _ _ (hx a ha) (by rw [src_eq_symm]; exact hx b hb)
    · intro h o ho
      exact h o (List.mem_cons_of_mem _ ho) x (by simp)

/-- so it does not depend on the order of the members -/
theorem commonSrc_perm (xs ys : List Origin) (h : xs.Perm ys) : commonSrc xs = commonSrc ys := by
  have key : ∀ xs ys : List Origin, xs.Perm ys → commonSrc xs = true → commonSrc ys = true := by
    intro xs ys h hx
    rw [common_iff_pairwise] at hx ⊢
    exact fun a ha b hb => hx a (h.mem_iff.mpr ha) b (h.mem_iff.mpr hb)
  exact Bool.eq_iff_iff.mpr ⟨key xs ys h, key ys xs h.symm⟩

/-- **source of a constructed MultiOrigin.**  With at least two members: if all members have pairwise `==` sources the
source is the first member's source, which is `==` to the source of every member; otherwise it is the `SourceSet` of ALL
members' sources in operand order.  The position is always the `PositionSet` of the members' positions in order, and the
members are kept as they are. -/
theorem mkMulti_common (x y : Origin) (t : List Origin) :
    ((∀ a ∈ x :: y :: t, ∀ b ∈ x :: y :: t, (a.source == b.source) = true) →
        mkMulti (x :: y :: t) = .ok (.multi x.source (.set ((x :: y :: t).map Origin.position)) (x :: y :: t))) ∧
    (¬(∀ a ∈ x :: y :: t, ∀ b ∈ x :: y :: t, (a.source == b.source) = true) →
        mkMulti (x :: y :: t) = .ok (.multi (.set ((x :: y :: t).map Origin.source))
          (.set ((x :: y :: t).map Origin.position)) (x :: y :: t))) := by
  rw [← common_iff_pairwise, mkMulti_spec]
  exact ⟨fun h => by rw [commonSrc] at h; rw [if_pos h], fun h => by rw [commonSrc] at h; rw [if_neg h]⟩

/-- the source of the multi-origin a constructor call returns, as a function of the member list -/
theorem mkMulti_source (xs : List Origin) (m : Origin) (h : mkMulti xs = .ok m) :
    m.source = (if commonSrc xs then (xs.head?.map Origin.source).getD (.one noSrc) else .set (xs.map Origin.source)) ∧
    m.position = .set (xs.map Origin.position) ∧ leaves m = xs ∧ 2 ≤ xs.length := by
  match xs, h with
  | [], h => cases h
  | [_], h => cases h
  | x :: y :: t, h =>
    rw [mkMulti_spec] at h
    cases h
    refine ⟨?_, rfl, rfl, by simp⟩
    show (if _ then _ else _) = _
    rfl

theorem mkMulti_common_source (xs : List Origin) (m : Origin) (h : mkMulti xs = .ok m) (hc : commonSrc xs = true) :
    ∃ x ∈ xs, m.source = x.source := by
  match xs, h with
  | x :: y :: t, h =>
    rw [mkMulti_spec] at h
    cases h
    exact ⟨x, List.mem_cons_self, if_pos hc⟩

/-- **independence of operand order**: for two orders of the same members, either both multi-origins take a common
source — and the two (each the source of its own first member) are `==` — or both get a `SourceSet`, listing the
members' sources in the respective order (so the two sets list the same sources, permuted). -/
theorem mkMulti_common_perm (xs ys : List Origin) (hp : xs.Perm ys) (m m' : Origin)
    (h : mkMulti xs = .ok m) (h' : mkMulti ys = .ok m') :
    (commonSrc xs = true ∧ commonSrc ys = true ∧ (m.source == m'.source) = true ∧
        (∀ o ∈ xs, (o.source == m.source) = true) ∧ (∀ o ∈ ys, (o.source == m'.source) = true)) ∨
    (commonSrc xs = false ∧ commonSrc ys = false ∧ m.source = .set (xs.map Origin.source) ∧
        m'.source = .set (ys.map Origin.source) ∧ (xs.map Origin.source).Perm (ys.map Origin.source)) := by
  have hc := commonSrc_perm xs ys hp
  cases hx : commonSrc xs with
  | true =>
    have hy : commonSrc ys = true := hc ▸ hx
    obtain ⟨x, hxm, ex⟩ := mkMulti_common_source xs m h hx
    obtain ⟨x', hxm', ex'⟩ := mkMulti_common_source ys m' h' hy
    have px := (common_iff_pairwise xs).mp hx
    have hxm'' := hp.mem_iff.mpr hxm'
    rw [ex, ex']
    exact .inl ⟨rfl, hy, px x hxm x' hxm'', fun o ho => px o ho x hxm, fun o ho => px o (hp.mem_iff.mpr ho) x' hxm''⟩
  | false =>
    have hy : commonSrc ys = false := hc ▸ hx
    have s1 := (mkMulti_source xs m h).1
    have s2 := (mkMulti_source ys m' h').1
    rw [hx] at s1
    rw [hy] at s2
    exact .inr ⟨rfl, hy, s1, s2, hp.map _⟩

/-- the source set keeps duplicates and operand order: it is NOT "the distinct sources in order of first appearance" -/
theorem sourceSet_keeps_duplicates :
    mkMulti [c02, xB, c57] = .ok (.multi (.set [sA, sB, sA])
      (.set [.code ⟨⟨0, 1, 0⟩, ⟨2, 1, 2⟩⟩, .xml ['/', 'r', '/', 'x'], .code ⟨⟨5, 1, 5⟩, ⟨7, 1, 7⟩⟩]) [c02, xB, c57]) := rfl

/-- **the source of `merge_origins(..)`** on flat operands that list at least two single origins: decided on the LISTED
single origins (operands with NoOrigin dropped and multi-origins flattened), by the order-independent test -/
theorem merge_source (os : List Origin) (hf : ∀ o ∈ os, Flat o) (x y : Origin) (t : List Origin)
    (hl : os.flatMap leaves = x :: y :: t) :
    ∃ m, merge os = .ok m ∧ leaves m = x :: y :: t ∧
      m.source = (if commonSrc (x :: y :: t) then x.source else .set ((x :: y :: t).map Origin.source)) ∧
      m.position = .set ((x :: y :: t).map Origin.position) := by
  have h := ((merge_flat_cases os hf).2.2 x y t hl)
  rw [mkMulti_spec] at h
  exact ⟨_, h, rfl, rfl, rfl⟩

/-- a second object of the `==`-class of `sA` (same key, another text) -/
def sA' : SrcV := .one { key := 1, fqn := ['a'], raw := .text ['x', 'y'] }
example : (sA == sA') = true ∧ (sA == sB) = false := by decide
example : commonSrc [c02, .code false sA' ⟨⟨5, 1, 5⟩, ⟨7, 1, 7⟩⟩] = true ∧ commonSrc [c02, xB, c57] = false := by decide
example : mergeable c02 c24 = true ∧ mergeable c24 c02 = true := by decide
/-- hypotheses of `mkMulti_common_perm`, set case: two orders of three members over two sources -/
example : [c02, xB, c57].Perm [xB, c57, c02] ∧ (∃ m, mkMulti [c02, xB, c57] = .ok m) ∧
    (∃ m', mkMulti [xB, c57, c02] = .ok m') ∧ commonSrc [c02, xB, c57] = false :=
  ⟨(List.perm_append_comm : ([c02] ++ [xB, c57]).Perm ([xB, c57] ++ [c02])), ⟨_, rfl⟩, ⟨_, rfl⟩, by decide⟩
/-- … and common case: the two orders take DIFFERENT objects (texts "hello world" / "xy") of one `==`-class as source -/
example : let d : Origin := .code false sA' ⟨⟨5, 1, 5⟩, ⟨7, 1, 7⟩⟩
    [c02, d].Perm [d, c02] ∧ (mkMulti [c02, d]).toOption.map Origin.source = some sA ∧
    (mkMulti [d, c02]).toOption.map Origin.source = some sA' ∧ (sA == sA') = true :=
  ⟨List.Perm.swap _ _ _, rfl, rfl, by decide⟩
/-- hypotheses of `merge_source`: flat operands listing three single origins -/
example : (∀ o ∈ [c02, Origin.none, xB, c57], Flat o) ∧ [c02, Origin.none, xB, c57].flatMap leaves = [c02, xB, c57] :=
  ⟨by intro o ho; simp at ho; rcases ho with rfl | rfl | rfl | rfl <;> trivial, rfl⟩

end PyOak.C15
