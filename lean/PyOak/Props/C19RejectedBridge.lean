/-
The frame vocabulary of Props/C19Rejected.lean (`FrameN`) and that of the transform-visitor theorems
(`C19T.FrameG`, Props/C19Transform.lean) are two structures with the same three fields (those of `NewOnly`,
Props/LegacyDupFrame.lean, and of the conclusion of `fail_frame_dup`); this file passes between them.
-/
import PyOak.Props.C19Rejected
import PyOak.Props.C19RwithErr
import PyOak.Props.C19Transform
namespace PyOak.Legacy.C19
open PyOak PyOak.Legacy LState

theorem frameN_iff_frameG {s s' : LState} : FrameN s s' ↔ C19T.FrameG s s' :=
  ⟨fun h => ⟨h.obj, h.keep, h.fresh⟩, fun h => ⟨h.obj, h.keep, h.fresh⟩⟩

/-- `fail_frame_step` in the vocabulary of the transform-visitor theorems -/
theorem fail_frame_step_G (H Hc : Str → Str) {s s' : LState} {op : LOp} {e : Err} (hI : Inv Hc s)
    (hp : C18.LOp.proved s op) (h : step H Hc s op = (s', .raised e)) (hd : Documented op e) : C19T.FrameG s s' :=
  frameN_iff_frameG.mp (fail_frame_step H Hc hI hp h hd)

example : C19T.FrameG (Ex.st histD) (step id id (Ex.st histD) (.dup 2 true)).1 :=
  fail_frame_step_G id id (op := .dup 2 true) (e := .dupChildren) inv_histD trivial (step_of_outOf out_histD) (by decide)

#print axioms fail_frame_step_G

end PyOak.Legacy.C19
