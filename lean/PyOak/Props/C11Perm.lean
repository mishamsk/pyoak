/-
C11, union-member order: the verdict of an annotation does not depend on the order in which the members of
its unions are written — for every union of the term, at any depth, all at once.

Why it matters: `typing.Union[A, B] == typing.Union[B, A]` (and the hashes agree), and every predicate of
src/pyoak/typing.py is `functools.lru_cache`d on its argument, so the answer for one order is the cached
answer for ANY earlier order of the same members.  Only if the verdict is order-independent is that sound.

* `permStep_same`       one permuted union, anywhere: `has_check_type_in_type`, `is_valid_property_type`,
                        `_is_valid_child_field_type` (both values of `allow_sequence`) return the same (`Same`,
                        Props/C11.lean)
* `classify_permEq`     `PermEq t t' → classify t' = classify t` (any number of unions, any depths)
* `specVerdict_permEq`, `childShape_permEq`   the same for the documented verdict / the child shape
* `PermEq` is a congruence: `.trans`, `.lift` (`.newtype`, `.vtuple`, `.arg`, `.member`), `.pointwise`
  (`.coll_pointwise`, `.union_pointwise`), `.union` (permute the members AND rewrite each of them)
* `permEq_swapU`, `classify_swapU`, `classOutcome_permuted`, `chainOutcome_permuted`   a rewriting that permutes
  every union of every annotation of every class of a chain at once changes no outcome
-/
import PyOak.Spec.AnnotPerm
import PyOak.Props.C11
namespace PyOak
namespace C11
open Annot Annot.Ty

theorem permStep_isNone {t t' : Ty} (h : PermStep t t') : t'.isNone = t.isNone := by
  cases h <;> rfl

theorem permStep_same {t t' : Ty} (h : PermStep t t') : Same t t' := by
  induction h with
  | here hp =>
    refine ⟨?_, ?_, fun b => ?_, rfl⟩
    · rw [hasNode_union, hasNode_union, hp.any_eq]
    · rw [validProp_union, validProp_union, hp.all_eq]
    · rw [validChild_union, validChild_union, hp.any_eq, hp.all_eq]
  | newtype _ ih => exact ih.newtype
  | vtuple _ ih => exact ih.vtuple
  | @member m m' x x' ms ms' l1 l2 e1 e2 hs ih =>
    have hu : unionMemberOk x' = unionMemberOk x := by
      unfold unionMemberOk; rw [permStep_isNone hs, ih.nc]
    refine ⟨?_, ?_, fun b => ?_, rfl⟩
    · rw [hasNode_union, hasNode_union, e1, e2]
      simp only [List.any_append, List.any_cons, ih.hn]
    · rw [validProp_union, validProp_union, e1, e2]
      simp only [List.all_append, List.all_cons, ih.vp]
    · rw [validChild_union, validChild_union, e1, e2]
      simp only [List.any_append, List.any_cons, List.all_append, List.all_cons, permStep_isNone hs, hu]
  | @arg k x x' l1 l2 _ ih =>
    refine ⟨?_, ?_, fun b => ?_, rfl⟩
    · rw [hasNode_coll, hasNode_coll]
      simp only [List.any_append, List.any_cons, ih.hn]
    · rw [validProp_coll, validProp_coll]
      simp only [List.all_append, List.all_cons, ih.vp]
    · have e : ∀ y : Ty, (l1 ++ y :: l2).isEmpty = false := fun y => by cases l1 <;> rfl
      rw [validChild_coll, validChild_coll]
      simp only [List.all_append, List.all_cons, e, ih.vc false]

/-- permuting the members of one union somewhere in the annotation does not change the verdict -/
theorem classify_permStep {t t' : Ty} (h : PermStep t t') : classify t' = classify t :=
  (permStep_same h).classify_eq

theorem permEq_same {t t' : Ty} (h : PermEq t t') : Same t t' := by
  induction h with
  | refl => exact Same.refl _
  | tail _ hs ih => exact ih.trans (permStep_same hs)

/-- permuting the members of any number of unions, at any depths, does not change the verdict -/
theorem classify_permEq {t t' : Ty} (h : PermEq t t') : classify t' = classify t :=
  (permEq_same h).classify_eq

/-- the documented verdict is a property of the annotation up to union-member order -/
theorem specVerdict_permEq {t t' : Ty} (h : PermEq t t') (v : Verdict) : SpecVerdict t v ↔ SpecVerdict t' v := by
  rw [specVerdict_unique, specVerdict_unique, classify_permEq h]

theorem childShape_permEq {t t' : Ty} (h : PermEq t t') : ChildShape t ↔ ChildShape t' := by
  rw [← classify_child_iff, ← classify_child_iff, classify_permEq h]

/-- the top-level case in one line: two unions with the same members in another order -/
theorem classify_union_perm (m m' : Ty) (ms ms' : List Ty) (h : (m :: ms).Perm (m' :: ms')) :
    classify (.union m' ms') = classify (.union m ms) :=
  classify_permStep (.here h)

theorem _root_.PyOak.Annot.PermEq.single {a b : Ty} (h : PermStep a b) : PermEq a b := .tail (.refl a) h

theorem _root_.PyOak.Annot.PermEq.trans {a b c : Ty} (h1 : PermEq a b) (h2 : PermEq b c) : PermEq a c := by
  induction h2 with
  | refl => exact h1
  | tail _ hs ih => exact .tail ih hs

theorem _root_.PyOak.Annot.PermEq.lift (C : Ty → Ty) (hC : ∀ {a b : Ty}, PermStep a b → PermStep (C a) (C b))
    {x x' : Ty} (h : PermEq x x') : PermEq (C x) (C x') := by
  induction h with
  | refl => exact .refl _
  | tail _ hs ih => exact .tail ih (hC hs)

theorem _root_.PyOak.Annot.PermEq.newtype {t t' : Ty} (h : PermEq t t') : PermEq (.newtype t) (.newtype t') :=
  h.lift .newtype .newtype

theorem _root_.PyOak.Annot.PermEq.vtuple {t t' : Ty} (h : PermEq t t') : PermEq (.vtuple t) (.vtuple t') :=
  h.lift .vtuple .vtuple

theorem _root_.PyOak.Annot.PermEq.arg {k : CollKind} {x x' : Ty} (l1 l2 : List Ty) (h : PermEq x x') :
    PermEq (.coll k (l1 ++ x :: l2)) (.coll k (l1 ++ x' :: l2)) :=
  h.lift (fun x => .coll k (l1 ++ x :: l2)) .arg

theorem _root_.PyOak.Annot.PermStep.mkU {x x' : Ty} (l1 l2 : List Ty) (h : PermStep x x') :
    PermStep (mkU (l1 ++ x :: l2)) (mkU (l1 ++ x' :: l2)) := by
  cases l1 with
  | nil => exact .member (l1 := []) rfl rfl h
  | cons a r => exact .member (l1 := a :: r) rfl rfl h

theorem _root_.PyOak.Annot.PermEq.member {x x' : Ty} (l1 l2 : List Ty) (h : PermEq x x') :
    PermEq (mkU (l1 ++ x :: l2)) (mkU (l1 ++ x' :: l2)) :=
  h.lift (fun x => mkU (l1 ++ x :: l2)) (PermStep.mkU l1 l2)

theorem _root_.PyOak.Annot.PermEq.pointwise (C : List Ty → Ty)
    (hC : ∀ {x x' : Ty} (l1 l2 : List Ty), PermEq x x' → PermEq (C (l1 ++ x :: l2)) (C (l1 ++ x' :: l2)))
    {l l' : List Ty} (h : Pointwise PermEq l l') : PermEq (C l) (C l') := by
  suffices ∀ pre : List Ty, PermEq (C (pre ++ l)) (C (pre ++ l')) from this []
  induction h with
  | nil => intro pre; exact .refl _
  | @cons a b l l' hab _ ih =>
    intro pre
    have h2 := ih (pre ++ [b])
    simp only [List.append_assoc, List.singleton_append] at h2
    exact (hC pre l hab).trans h2

theorem _root_.PyOak.Annot.PermEq.coll_pointwise {k : CollKind} {l l' : List Ty} (h : Pointwise PermEq l l') :
    PermEq (.coll k l) (.coll k l') :=
  PermEq.pointwise (.coll k) PermEq.arg h

theorem _root_.PyOak.Annot.PermEq.union_pointwise {m m' : Ty} {ms ms' : List Ty} (h : Pointwise PermEq (m :: ms) (m' :: ms')) :
    PermEq (.union m ms) (.union m' ms') :=
  PermEq.pointwise mkU PermEq.member h

/-- permute the members of a union AND rewrite each of them -/
theorem _root_.PyOak.Annot.PermEq.union {m m' : Ty} {ms ms' l : List Ty} (hp : (m :: ms).Perm l)
    (h : Pointwise PermEq l (m' :: ms')) : PermEq (.union m ms) (.union m' ms') := by
  cases h with
  | @cons a _ r _ hab hr =>
    exact (PermEq.single (.here hp)).trans (PermEq.union_pointwise (.cons hab hr))

theorem pointwise_map {F : Ty → Ty} (l : List Ty) (h : ∀ x ∈ l, PermEq x (F x)) :
    Pointwise PermEq l (l.map F) := by
  induction l with
  | nil => exact .nil
  | cons a r ih =>
    exact .cons (h a List.mem_cons_self) (ih fun x hx => h x (List.mem_cons_of_mem _ hx))

theorem swapUL_eq (l : List Ty) : swapUL l = l.map swapU := by
  induction l with
  | nil => rfl
  | cons t r ih => rw [List.map_cons, ← ih]; rfl

/-- `swapU` (swap the first two members of EVERY union, at every depth) stays inside `PermEq` -/
theorem permEq_swapU : ∀ t, PermEq t (swapU t) := by
  intro t
  induction t using Ty.induct with
  | hnt t ih => exact ih.newtype
  | hunion m ms ih =>
    cases ms with
    | nil => exact PermEq.union_pointwise (.cons (ih m List.mem_cons_self) .nil)
    | cons a r =>
      have hp := List.Perm.swap a m r
      simp only [swapU, swapUL, swapUL_eq]
      exact PermEq.union hp (pointwise_map _ fun x hx => ih x (hp.mem_iff.2 hx))
  | hvt t ih => exact ih.vtuple
  | hcoll k args ih =>
    simp only [swapU, swapUL_eq]
    exact PermEq.coll_pointwise (pointwise_map args ih)
  | _ => exact .refl _

theorem classify_swapU (t : Ty) : classify (swapU t) = classify t := classify_permEq (permEq_swapU t)

/-- any rewriting of the annotations of a class that only permutes union members (of any unions, at any depth,
in any of the fields, own or inherited) leaves the outcome of the class unchanged -/
theorem classOutcome_permuted (F : Ty → Ty) (hF : ∀ t, PermEq t (F t)) (ls : List Level) :
    classOutcome (mapLevels F ls) = classOutcome ls :=
  classOutcome_mapLevels F (fun t => classify_permEq (hF t)) ls

theorem chainOutcome_permuted (F : Ty → Ty) (hF : ∀ t, PermEq t (F t)) (ls : List Level) :
    chainOutcome (mapLevels F ls) = chainOutcome ls :=
  chainFrom_mapLevels F (fun t => classify_permEq (hF t)) [] ls

-- `Union[N0, None, N2]` ~ `Union[None, N2, N0]`
example : PermEq (.union (.node 0) [.none, .node 2]) (.union .none [.node 2, .node 0]) :=
  .single (.here (List.perm_append_comm (l₁ := [Ty.node 0]) (l₂ := [Ty.none, Ty.node 2])))
-- `tuple[Union[N0, N1], Union[N2, None]]`: two unions inside a tuple, both permuted
example : PermEq (.coll .tuple [.union (.node 0) [.node 1], .union (.node 2) [.none]])
    (.coll .tuple [.union (.node 1) [.node 0], .union .none [.node 2]]) :=
  PermEq.coll_pointwise (.cons (.single (.here (.swap _ _ []))) (.cons (.single (.here (.swap _ _ []))) .nil))
-- `swapU` really moves members, at depth
example : swapU (.vtuple (.union (.node 0) [.union (.atom .int) [.none], .node 2])) =
    .vtuple (.union (.union .none [.atom .int]) [.node 0, .node 2]) := by rfl

end C11
end PyOak
