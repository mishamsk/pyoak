/-
Bridge for the bottom-up matcher: the hand-written model `matchUpT` (Model/XPath.lean, with fuel and the KeyError of a
foreign node) agrees with the definition GENERATED from `_match_node_xpath` (src/pyoak/match/xpath.py) wherever it returns:

  matchUpT_eq_gen   matchUpT t fuel n els = .ok b  →  GenK.match_node_xpath isInst (piOf t) (ancOf t) n (els.map toEl) = b
  match_gen_eq_sat  for every node of a tree without repeated objects the generated function, run over the tables of
                    `Tree(root)`, decides the documented semantics `sat` (corollary of C07.matchUpT_chain)
-/
import PyOak.Props.GenBridge
import PyOak.Gen.KernelsXPath
import PyOak.Props.C07Main
namespace PyOak.GenBridge
open PyOak

/-- `tree.get_parent_info(node)` as the generated function receives it (a foreign node: the model raises KeyError,
which this total view does not show; `matchUpT_eq_gen` is stated for runs that return) -/
def piOf (t : TreeT) (n : Node) : Option Node × Option GenK.FieldR × Option Int :=
  match t.getParentInfo n with
  | .ok (some p) => (some p.parent, some ⟨p.edge.field⟩, p.edge.idx.map Int.ofNat)
  | _ => (none, none, none)

/-- `list(tree.get_ancestors(node))` -/
def ancOf (t : TreeT) (n : Node) : List Node :=
  match t.getAncestors n with
  | .ok as => as
  | .error _ => []

theorem foldr_first_ok (g : Node → Except TErr Bool) (h : Node → Bool) :
    ∀ (as : List Node) (b : Bool), (∀ a ∈ as, ∀ b', g a = .ok b' → h a = b') →
      as.foldr (fun a (acc : Except TErr Bool) => match g a with
        | Except.error e => Except.error e
        | Except.ok true => Except.ok true
        | Except.ok false => acc) (Except.ok false) = Except.ok b → as.any h = b := by
  intro as
  induction as with
  | nil => intro b _ hr; simp only [List.foldr_nil, Except.ok.injEq] at hr; simp [← hr]
  | cons a r ih =>
    intro b hgh hr
    simp only [List.foldr_cons] at hr
    cases hga : g a with
    | error e => simp [hga] at hr
    | ok v =>
      have hv := hgh a (by simp) v hga
      cases v with
      | true =>
        simp [hga] at hr
        simp [hv, ← hr]
      | false =>
        simp only [hga] at hr
        have := ih b (fun x hx => hgh x (by simp [hx])) hr
        simp [hv, this]

theorem matchUpT_eq_gen (t : TreeT) : ∀ (els : List XElem) (fuel : Nat) (n : Node) (b : Bool),
    els.length ≤ fuel → matchUpT t fuel n els = .ok b →
    GenK.match_node_xpath Node.isInst (piOf t) (ancOf t) n (els.map toEl) = b := by
  intro els
  induction els with
  | nil =>
    intro fuel n b _ h
    cases fuel <;> simp [matchUpT] at h <;> simp [GenK.match_node_xpath, ← h]
  | cons el tail ih =>
    intro fuel n b hf h
    obtain ⟨f, rfl⟩ : ∃ f, fuel = f + 1 := ⟨fuel - 1, by simp at hf; omega⟩
    have hf' : tail.length ≤ f := by simp at hf; omega
    simp only [matchUpT] at h
    cases hpi : t.getParentInfo n with
    | error e => simp [hpi] at h
    | ok pi =>
      simp only [hpi] at h
      -- what the generated function reads off the tables is the model's parent entry
      have hpar : (piOf t n).1 = pi.map (·.parent) := by cases pi <;> simp [piOf, hpi]
      have helem := matchElem_eq_gen n (pi.map (·.parent)) (pi.map (·.edge)) el
      have hinfo : toInfo n (pi.map (·.parent)) (pi.map (·.edge)) =
          { node := n, parent := (piOf t n).1, field := (piOf t n).2.1, findex := (piOf t n).2.2 } := by
        cases pi <;> simp [toInfo, piOf, hpi]
      rw [hinfo] at helem
      simp only [List.map_cons, GenK.match_node_xpath, ← helem]
      simp only [hpar]
      cases hm : matchElem n (pi.map (·.edge)) el
      · simpa [hm] using h
      simp only [hm, Bool.not_true, Bool.false_eq_true, if_false] at h ⊢
      cases tail with
      | nil => cases pi <;> simpa [toEl] using h
      | cons t0 ts =>
        simp only [List.map_cons, List.isEmpty_cons, Bool.false_eq_true, if_false] at h ⊢
        cases pi with
        | none => simpa using h
        | some p =>
          simp only [Option.map_some] at h ⊢
          cases ha : el.anywhere
          · simpa [toEl, ha] using ih f p.parent b hf' (by simpa [ha] using h)
          · simp only [ha, if_true] at h
            cases hanc : t.getAncestors n with
            | error e => simp [hanc] at h
            | ok as =>
              simp only [hanc] at h
              have := foldr_first_ok (fun a => matchUpT t f a (t0 :: ts))
                (fun a => GenK.match_node_xpath Node.isInst (piOf t) (ancOf t) a ((t0 :: ts).map toEl)) as b
                (fun a _ b' hb' => ih f a b' hf' hb') h
              rw [List.map_cons] at this
              simp only [show (toEl el).anywhere = true from ha, if_true, ancOf, hanc, this]
              cases b <;> rfl

/-- **C07 for the source as it is now**: on a tree without repeated objects, the function generated from
`_match_node_xpath`, run over the tables of `Tree(root)`, decides the documented path semantics `sat` along the chain of
the node -- for every path, with no bound on its length (the fuel of the hand-written model is instantiated large enough) -/
theorem match_gen_eq_sat (root : Node) (h : NoRepeat root) (c : Chain) (n : Node) (oe : Option Edge)
    (els : List XElem) (hc : IsChain root (c ++ [(n, oe)])) :
    GenK.match_node_xpath Node.isInst (piOf (TreeT.build root)) (ancOf (TreeT.build root)) n (els.reverse.map toEl)
      = sat (c ++ [(n, oe)]) els := by
  have hrun := C07.matchUpT_chain root (C07.tablesOK root h)
    ((c ++ [(n, oe)]).length + els.length) c n oe els.reverse hc (by omega)
  rw [C07.matchUpC_eq_sat] at hrun
  exact matchUpT_eq_gen _ _ _ _ _ (by simp) hrun

end PyOak.GenBridge
