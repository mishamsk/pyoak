/-
C18 — acyclicity of the child graph is an invariant of ADMISSIBLE histories, and it is what makes the content-id clause
(`cid_eq_spec`) and the upward walks meaningful (cf. AUDIT.md, C18).

`Inv` does not exclude cycles: `cyclic_reachable` exhibits one (a constant content digest, the inadmissible call
`leaf.replace_with(root of its own tree)` returns and leaves an attached 2-cycle that satisfies `Inv`).  With `Ranked` /
`Admissible` of Props/C18Ranked.lean the file shows, for EVERY outcome of an operation (returned, rejected, not
finished), that its stages either change no child list (`KSame`; the functions of the machine are walked once, for
any relation kept by the elementary updates: `Stage`, `Stage.attach` … `Stage.replaceWith_ind`, `Stage.construct`),
or add the one link parent → new of `_replace_child` (`Edges`, `replaceWith_edges`), or add objects over older ones (`Ev`, `construct_ev`, `duplicate_ev`); each of the three
keeps `Ranked` (`ranked_of_kSame`, `ranked_add_edge` when the parent is not reachable from the new child,
`ranked_of_ev`).  Hence `ranked_step`, `inv_ranked_run`; and on an `Inv ∧ Ranked` state every existing node has an
independently built equal tree (`matches_exists`, `cid_eq_tree`), so `cid_eq_spec` is not vacuous.
-/
import PyOak.Props.C18Ranked
import PyOak.Props.C19Rejected
namespace PyOak.Legacy.C18
open PyOak PyOak.Legacy LState

variable (H Hc : Str → Str)

/-- same size, same child lists: what most stages of every operation preserve -/
def KSame (s s' : LState) : Prop := s'.size = s.size ∧ ∀ x, (s'.obj x).kidList = (s.obj x).kidList

theorem KSame.refl (s : LState) : KSame s s := ⟨rfl, fun _ => rfl⟩
theorem KSame.trans {a b c : LState} (h1 : KSame a b) (h2 : KSame b c) : KSame a c :=
  ⟨h2.1.trans h1.1, fun x => (h2.2 x).trans (h1.2 x)⟩

theorem kSame_modify (s : LState) (u : Nat) (f : LObj → LObj) (hf : ∀ o, (f o).fields = o.fields) :
    KSame s (s.modify u f) := ⟨rfl, fun v => modify_kidList s u f hf v⟩

/-- `R` holds from the state before to the state after each elementary update the legacy machine is composed of (everything
but `setField` and `alloc`), and is reflexive and transitive.  It then holds across `_attach`, `detach`, the
`_reset_content_id` walk, the id take-over and (after the allocation) a construction, WHATEVER their outcome: the theorems
of this namespace.  `KSame` is such a relation (`KSame.stage`); so is "`ParentClean` is kept" (`C20.pcStage`). -/
structure Stage (R : LState → LState → Prop) : Prop where
  refl : ∀ s, R s s
  trans : ∀ {a b c : LState}, R a b → R b c → R a c
  /-- an update of one object that keeps its child fields and its three parent slots -/
  update : ∀ s u (g : LObj → LObj), (∀ o, (g o).fields = o.fields ∧ slots (g o) = slots o) → R s (s.modify u g)
  clearParent : ∀ s u, R s (s.clearParent u)
  setParent : ∀ s c p f i, R s (s.setParent c p f i)
  setIds : ∀ s u nid coll orig, R s (s.modify u (setIds nid coll orig))
  register : ∀ s u, R s (s.register u)
  unregister : ∀ s k, R s (s.unregister k)

namespace Stage
variable {R : LState → LState → Prop} (h : Stage R)
include h

theorem setContentId (s : LState) (u : Nat) : R s (s.setContentId Hc u) := h.update s u _ (fun _ => ⟨rfl, rfl⟩)

theorem resetContentId : ∀ (fuel : Nat) (s : LState) (u : Nat), R s (s.resetContentId Hc fuel u).1 := by
  intro fuel
  induction fuel with
  | zero => intro s u; exact h.refl s
  | succ fuel ih =>
    intro s u
    unfold LState.resetContentId
    simp only
    split
    · exact h.setContentId Hc s u
    · exact h.trans (h.setContentId Hc s u) (ih _ _)

theorem reparent (n : Nat) : ∀ (l : List (Nat × Str × Option Nat)) (s : LState), R s (reparent n s l) := by
  intro l
  induction l with
  | nil => intro s; exact h.refl s
  | cons e r ih =>
    intro s
    obtain ⟨c, f, i⟩ := e
    simp only [Legacy.reparent]
    exact h.trans (h.setParent s c n f i) (ih _)

theorem commitOne (s : LState) (n : Nat) : R s (commitOne Hc s n) := by
  unfold Legacy.commitOne
  exact h.trans (h.trans (h.reparent n _ s) (h.setContentId Hc _ n)) (h.register _ n)

/-- `_attach`, whatever the outcome -/
theorem attach (fuel : Nat) (s : LState) (u : Nat) : R s (attach Hc fuel s u).1 := by
  have hf : ∀ (l : List Nat) (s : LState), R s (l.foldl (Legacy.commitOne Hc) s) := by
    intro l
    induction l with
    | nil => intro s; exact h.refl s
    | cons a r ih => intro s; simp only [List.foldl_cons]; exact h.trans (h.commitOne Hc s a) (ih _)
  unfold Legacy.attach
  split
  · exact h.refl s
  · exact h.refl s
  · exact hf _ s

/-- an `_attach` that is only made under a condition, as in the roll-back of `replace_with` -/
theorem attach_if {s t t' : LState} (k : R s t) {c : Prop} [Decidable c] {fuel u : Nat} {r : Except Err Unit}
    (he : (if c then Legacy.attach Hc fuel t u else (t, .ok ())) = (t', r)) : R s t' := by
  split at he
  · have := h.attach Hc fuel t u; rw [he] at this; exact h.trans k this
  · cases he; exact k

theorem detachKids (rec : LState → Nat → LState × Option Bool) (hrec : ∀ s c, R s (rec s c).1)
    (os : Bool) : ∀ (ks : List Nat) (s : LState), R s (detachKids rec os s ks).1 := by
  intro ks
  induction ks with
  | nil => intro s; exact h.refl s
  | cons c cs ih =>
    intro s
    unfold Legacy.detachKids
    simp only
    split
    · exact h.trans (h.clearParent s c) (ih _)
    · have h1 := hrec (s.clearParent c) c
      split
      · next s2 heq => rw [heq] at h1; exact h.trans (h.clearParent s c) h1
      · next s2 b heq => rw [heq] at h1; exact h.trans (h.trans (h.clearParent s c) h1) (ih _)

/-- `detach` / `detach_self`, whatever the outcome -/
theorem detachGo : ∀ (fuel : Nat) (os : Bool) (s : LState) (u : Nat), R s (detachGo fuel os s u).1 := by
  intro fuel
  induction fuel with
  | zero => intro os s u; exact h.refl s
  | succ fuel ih =>
    intro os s u
    unfold Legacy.detachGo
    split
    · exact h.refl s
    · split
      · exact h.refl s
      · have hk := h.detachKids (Legacy.detachGo fuel false) (fun s c => ih false s c) os (s.obj u).kidList s
        split
        · next s1 heq => rw [heq] at hk; exact hk
        · next s1 heq => rw [heq] at hk; exact h.trans hk (h.unregister _ _)

theorem takeOver (s : LState) (u n : Nat) : R s (takeOver s u n).1 := by
  unfold Legacy.takeOver
  simp only
  split
  · exact h.trans (h.unregister s _) (h.update _ n _ (fun _ => ⟨rfl, rfl⟩))
  · exact h.update _ n _ (fun _ => ⟨rfl, rfl⟩)

theorem shiftDown (p : Nat) (f : Str) : ∀ (cs : List Nat) (s : LState), R s (shiftDown p f s cs) := by
  intro cs
  induction cs with
  | nil => intro s; exact h.refl s
  | cons c r ih => intro s; simp only [Legacy.shiftDown]; exact h.trans (h.setParent s c p f _) (ih _)

end Stage

theorem KSame.stage : Stage KSame :=
  ⟨KSame.refl, KSame.trans, fun s u g hg => kSame_modify s u g (fun o => (hg o).1),
    fun s u => kSame_modify s u _ (fun _ => rfl), fun s c _ _ _ => kSame_modify s c _ (fun _ => rfl),
    fun s u _ _ _ => kSame_modify s u _ (fun _ => rfl),
    fun _ _ => ⟨rfl, fun _ => rfl⟩, fun _ _ => ⟨rfl, fun _ => rfl⟩⟩

/-- same size; every child link of `s'` is a child link of `s`, or the link `p → n` -/
def Edges (s s' : LState) (p n : Option Nat) : Prop :=
  s'.size = s.size ∧ ∀ x c, c ∈ (s'.obj x).kidList → c ∈ (s.obj x).kidList ∨ (some x = p ∧ some c = n)

theorem Edges.of_kSame {s s' : LState} (h : KSame s s') (p n : Option Nat) : Edges s s' p n :=
  ⟨h.1, fun x c hc => .inl (by rw [← h.2 x]; exact hc)⟩

theorem Edges.kSame_left {a b c : LState} {p n : Option Nat} (h1 : KSame a b) (h2 : Edges b c p n) : Edges a c p n :=
  ⟨h2.1.trans h1.1, fun x k hk => (h2.2 x k hk).imp (fun h => by rw [← h1.2 x]; exact h) id⟩

theorem Edges.kSame_right {a b c : LState} {p n : Option Nat} (h1 : Edges a b p n) (h2 : KSame b c) : Edges a c p n :=
  ⟨h2.1.trans h1.1, fun x k hk => h1.2 x k (by rw [← h2.2 x]; exact hk)⟩

theorem fieldKids_sub (s : LState) (p : Nat) (f : Str) : ∀ c ∈ fieldKids s p f, c ∈ (s.obj p).kidList := by
  intro c hc
  unfold fieldKids at hc
  split at hc
  · next fl hfl => exact List.mem_flatMap.mpr ⟨fl, List.mem_of_find?_eq_some hfl, hc⟩
  · cases hc

theorem setField_edges (s : LState) (p : Nat) (f : Str) (ks : List Nat) (n : Option Nat)
    (hks : ∀ c ∈ ks, c ∈ (s.obj p).kidList ∨ some c = n) : Edges s (setField s p f ks) (some p) n := by
  refine ⟨rfl, fun x c hc => ?_⟩
  unfold setField at hc
  rw [modify_obj] at hc
  split at hc
  · next hx =>
    subst hx
    unfold LObj.kidList at hc
    simp only at hc
    obtain ⟨fl, hfl, hcf⟩ := List.mem_flatMap.mp hc
    obtain ⟨f0, hf0, rfl⟩ := List.mem_map.mp hfl
    split at hcf
    · rcases hks c hcf with h | h
      · exact .inl h
      · exact .inr ⟨rfl, h⟩
    · exact .inl (List.mem_flatMap.mpr ⟨f0, hf0, hcf⟩)
  · exact .inl hc

theorem ite_ind {α : Type} (P : α → Prop) {c : Prop} [Decidable c] {a b : α} (ha : P a) (hb : P b) :
    P (if c then a else b) := by
  split <;> assumption

/-- the last line of `_replace_child`: the `_reset_content_id` walk is made only if the content id changed -/
theorem edges_fin {s s2 : LState} {p n : Option Nat} (h : Edges s s2 p n) (b : Prop) [Decidable b] (fuel q : Nat) :
    Edges s (if b then s2.resetContentId Hc fuel q else (s2, true)).1 p n :=
  ite_ind (fun x : LState × Bool => Edges s x.1 p n) (h.kSame_right (KSame.stage.resetContentId Hc _ _ _)) h

/-- `_replace_child`, whatever the outcome of the `_reset_content_id` walk -/
theorem replaceChild_edges (fuel : Nat) (s : LState) (p old : Nat) (f : Str) (idx : Option Nat) (new : Option Nat) :
    Edges s (replaceChild Hc fuel s p old f idx new).1 (some p) new := by
  cases new with
  | none =>
    cases idx with
    | none =>
      exact edges_fin Hc (setField_edges s p f [] none (fun c hc => by cases hc)) _ fuel p
    | some i =>
      refine edges_fin Hc (Edges.kSame_right (setField_edges s p f _ none (fun c hc => ?_))
        (KSame.stage.shiftDown p f _ _)) _ fuel p
      rcases List.mem_append.mp hc with h | h
      · exact .inl (fieldKids_sub s p f c (List.mem_of_mem_take h))
      · exact .inl (fieldKids_sub s p f c (List.mem_of_mem_drop h))
  | some n =>
    cases idx with
    | none =>
      refine edges_fin Hc (Edges.kSame_right (setField_edges s p f [n] (some n) (fun c hc => ?_))
        (KSame.stage.setParent _ n p f none)) _ fuel p
      simp at hc; exact .inr (by rw [hc])
    | some i =>
      refine edges_fin Hc (Edges.kSame_right (setField_edges s p f _ (some n) (fun c hc => ?_))
        (KSame.stage.setParent _ n p f (some i))) _ fuel p
      rcases List.mem_append.mp hc with h | h
      · exact .inl (fieldKids_sub s p f c (List.mem_of_mem_take h))
      · rcases List.mem_cons.mp h with h | h
        · exact .inr (by rw [h])
        · exact .inl (fieldKids_sub s p f c (List.mem_of_mem_drop h))

theorem rel_of_eq {R : LState → LState → Prop} {s : LState} {α : Type} {f : LState × α} {t : LState} {a : α}
    (h : R s f.1) (he : f = (t, a)) : R s t := by rw [he] at h; exact h

/-- **`replace_with(new)`, every outcome**, for a relation `R` as above: the result is reached by stages that keep `R`
alone, or by such stages followed by the one `_replace_child` that a call on a receiver with a parent ends with -/
theorem Stage.replaceWith_ind {R : LState → LState → Prop} (h : Stage R) (P : LState → Prop) (fuel : Nat) (s : LState)
    (u : Nat) (new : Option Nat) (stage : ∀ t, R s t → P t)
    (child : ∀ t p f, s.parent u = some p → R s t → P (replaceChild Hc fuel t p u f (s.obj u).pindex new).1) :
    P (replaceWith Hc fuel s u new).1 := by
  have R0 := stage s (h.refl s)
  unfold replaceWith
  refine ite_ind (fun x : LState × Except Err Unit => P x.1) R0 ?_
  cases hp : s.parent u with
  | some p =>
    simp only
    cases hf : (s.obj u).pfield with
    | none => exact R0
    | some f =>
      simp only
      cases hfl : (s.obj p).fields.find? (·.name = f) with
      | none => exact R0
      | some fl =>
        simp only
        refine ite_ind (fun x : LState × Except Err Unit => P x.1) R0 ?_
        cases hd : Legacy.detachGo (fuel + 1) false (s.clearParent u) u with
        | mk s2 r2 =>
          have k2 : R s s2 := h.trans (h.clearParent s u) (rel_of_eq (h.detachGo _ _ _ _) hd)
          cases r2 with
          | none => exact stage _ k2
          | some b =>
            cases new with
            | none =>
              simp only
              split <;> exact child s2 p f hp k2
            | some n =>
              simp only
              have k3 : R s (Legacy.takeOver s2 u n).1 := h.trans k2 (h.takeOver s2 u n)
              cases ha : Legacy.attach Hc fuel (Legacy.takeOver s2 u n).1 n with
              | mk s4 r4 =>
                have k4 : R s s4 := h.trans k3 (rel_of_eq (h.attach Hc _ _ _) ha)
                cases r4 with
                | error e =>
                  -- the roll-back: ids and parent link restored, the receiver attached again
                  simp only
                  have k6 := h.trans (h.trans k4 (h.update s4 n
                    (fun x => { x with id := (s2.obj n).id, origId := (s2.obj n).origId }) (fun _ => ⟨rfl, rfl⟩)))
                    (h.setParent _ u p f (s.obj u).pindex)
                  split
                  · next s7 e' ha2 => exact stage _ (h.trans k6 (rel_of_eq (h.attach Hc _ _ _) ha2))
                  · next s7 ha2 =>
                    have k7 : R s s7 := h.trans k6 (rel_of_eq (h.attach Hc _ _ _) ha2)
                    simp only
                    split
                    · exact stage _ (h.trans k7 (h.register _ _))
                    · exact stage _ k7
                | ok x =>
                  simp only
                  split <;> exact child s4 p f hp k4
  | none =>
    simp only
    cases new with
    | none =>
      simp only
      cases hd : Legacy.detachGo (fuel + 1) false s u with
      | mk s1 r1 => cases r1 <;> exact stage _ (rel_of_eq (h.detachGo _ _ _ _) hd)
    | some n =>
      simp only
      cases hd : (if (!s.detached u) = true then Legacy.detachGo (fuel + 1) false s u else (s, some true)) with
      | mk s1 r1 =>
        have k1 : R s s1 := by
          split at hd
          · exact rel_of_eq (h.detachGo _ _ _ _) hd
          · cases hd; exact h.refl s
        cases r1 with
        | none => exact stage _ k1
        | some b =>
          simp only
          have k2 : R s (Legacy.takeOver s1 u n).1 := h.trans k1 (h.takeOver s1 u n)
          cases ha : Legacy.attach Hc fuel (Legacy.takeOver s1 u n).1 n with
          | mk s3 r3 =>
            have k3 : R s s3 := h.trans k2 (rel_of_eq (h.attach Hc _ _ _) ha)
            cases r3 with
            | ok x => exact stage _ k3
            | error e =>
              simp only
              have k4 := h.trans k3 (h.update s3 n (fun x => { x with id := (s1.obj n).id, origId := (s1.obj n).origId })
                (fun _ => ⟨rfl, rfl⟩))
              split
              · next s5 e' ha2 => exact stage _ (h.attach_if Hc k4 ha2)
              · next s5 ha2 =>
                have k5 : R s s5 := h.attach_if Hc k4 ha2
                simp only
                split
                · exact stage _ (h.trans k5 (h.register _ _))
                · exact stage _ k5

/-- **`replace_with(new)`, every outcome**: same size; every child link of the result is a child link of the state
before, or the link from the receiver's parent to `new` -/
theorem replaceWith_edges (fuel : Nat) (s : LState) (u : Nat) (new : Option Nat) :
    Edges s (replaceWith Hc fuel s u new).1 (s.parent u) new :=
  KSame.stage.replaceWith_ind Hc (fun t => Edges s t (s.parent u) new) fuel s u new (fun _ k => Edges.of_kSame k _ _)
    fun t p f hp k => by rw [hp]; exact Edges.kSame_left k (replaceChild_edges Hc fuel t p u f _ new)

/-- the child links of existing objects lead to existing objects (`Inv.closed`) -/
def Closed (s : LState) : Prop := ∀ x, x < s.size → ∀ c ∈ (s.obj x).kidList, c < s.size

/-- a strict bound of a rank function below `n` -/
def bnd (r : Nat → Nat) : Nat → Nat
  | 0 => 0
  | n + 1 => max (bnd r n) (r n + 1)

theorem lt_bnd (r : Nat → Nat) : ∀ (n y : Nat), y < n → r y < bnd r n := by
  intro n
  induction n with
  | zero => intro y hy; omega
  | succ n ih =>
    intro y hy
    unfold bnd
    by_cases h : y = n
    · subst h; omega
    · have := ih y (by omega); omega

/-- new objects whose children are OLDER objects; the old objects keep their child lists -/
structure Ev (s s' : LState) : Prop where
  size : s.size ≤ s'.size
  old : ∀ x, x < s.size → (s'.obj x).kidList = (s.obj x).kidList
  new : ∀ x, s.size ≤ x → x < s'.size → ∀ c ∈ (s'.obj x).kidList, c < x

theorem Ev.of_kSame {s s' : LState} (h : KSame s s') : Ev s s' :=
  ⟨by rw [h.1]; exact Nat.le_refl _, fun x _ => h.2 x, fun x h1 h2 => by rw [h.1] at h2; omega⟩

theorem Ev.refl (s : LState) : Ev s s := Ev.of_kSame (KSame.refl s)

theorem Ev.trans {a b c : LState} (h1 : Ev a b) (h2 : Ev b c) : Ev a c := by
  refine ⟨Nat.le_trans h1.size h2.size, fun x hx => ?_, fun x hx1 hx2 k hk => ?_⟩
  · rw [h2.old x (Nat.lt_of_lt_of_le hx h1.size)]; exact h1.old x hx
  · by_cases hxb : x < b.size
    · rw [h2.old x hxb] at hk; exact h1.new x hx1 hxb k hk
    · exact h2.new x (by omega) hx2 k hk


/-- **new objects over older ones keep the graph acyclic** -/
theorem ranked_of_ev {s s' : LState} (hR : Ranked s) (hC : Closed s) (hE : Ev s s') : Ranked s' := by
  obtain ⟨r, hr⟩ := hR
  refine ⟨fun x => if x < s.size then r x else bnd r s.size + x, fun x hx c hc => ?_⟩
  by_cases hxs : x < s.size
  · rw [hE.old x hxs] at hc
    have hcs := hC x hxs c hc
    simp only [hxs, hcs, if_true]
    exact hr x hxs c hc
  · have hcx := hE.new x (by omega) hx c hc
    simp only [hxs, if_false]
    split
    · next hcs => have := lt_bnd r s.size c hcs; omega
    · omega

theorem Ev.closed {s s' : LState} (hC : Closed s) (hE : Ev s s') : Closed s' := by
  intro x hx c hc
  by_cases hxs : x < s.size
  · rw [hE.old x hxs] at hc; exact Nat.lt_of_lt_of_le (hC x hxs c hc) hE.size
  · have := hE.new x (by omega) hx c hc; omega

theorem Ev.desc_old {s s' : LState} (hC : Closed s) (hE : Ev s s') {c q : Nat} (hc : c < s.size)
    (hd : Desc s' c q) : Desc s c q ∧ q < s.size := by
  induction hd with
  | refl => exact ⟨.refl, hc⟩
  | @step q' q _ hk ih =>
    obtain ⟨hd', hq'⟩ := ih
    rw [hE.old q' hq'] at hk
    exact ⟨.step hd' hk, hC q' hq' q hk⟩

theorem ranked_desc_le {s : LState} {r : Nat → Nat} (hr : ∀ x, x < s.size → ∀ c ∈ (s.obj x).kidList, r c < r x)
    (hC : Closed s) {x q : Nat} (hx : x < s.size) (hd : Desc s x q) : r q ≤ r x ∧ q < s.size := by
  induction hd with
  | refl => exact ⟨Nat.le_refl _, hx⟩
  | @step q' q _ hk ih =>
    have := hr q' ih.2 q hk
    exact ⟨by omega, hC q' ih.2 q hk⟩

/-- **adding a link `p → n` with `p` not reachable from `n` keeps the graph acyclic** -/
theorem ranked_add_edge {s s' : LState} {p n : Option Nat} (hR : Ranked s) (hE : Edges s s' p n)
    (hadm : ∀ p' n', p = some p' → n = some n' → ¬ Desc s n' p') : Ranked s' := by
  obtain ⟨r, hr⟩ := hR
  obtain ⟨hsz, hedge⟩ := hE
  cases p with
  | none => exact ⟨r, fun x hx c hc => (hedge x c hc).elim (hr x (by omega) c) fun h => nomatch h.1⟩
  | some p' =>
    cases n with
    | none => exact ⟨r, fun x hx c hc => (hedge x c hc).elim (hr x (by omega) c) fun h => nomatch h.2⟩
    | some n' =>
      have hnd := hadm p' n' rfl rfl
      classical
      refine ⟨fun x => if Desc s n' x then r x else r x + (r n' + 1), fun x hx c hc => ?_⟩
      rw [hsz] at hx
      show (if Desc s n' c then r c else r c + (r n' + 1)) < (if Desc s n' x then r x else r x + (r n' + 1))
      rcases hedge x c hc with h | ⟨h1, h2⟩
      · have hlt := hr x hx c h
        by_cases hdx : Desc s n' x
        · have hdc : Desc s n' c := .step hdx h
          simp only [hdx, hdc, if_true]; exact hlt
        · simp only [hdx, if_false]
          split <;> omega
      · cases h1; cases h2
        have hrefl : Desc s n' n' := .refl
        show (if Desc s n' n' then r n' else r n' + (r n' + 1)) < (if Desc s n' p' then r p' else r p' + (r n' + 1))
        rw [if_pos hrefl, if_neg hnd]
        omega

theorem ranked_of_kSame {s s' : LState} (hR : Ranked s) (h : KSame s s') : Ranked s' := by
  obtain ⟨r, hr⟩ := hR
  exact ⟨r, fun x hx c hc => hr x (by rw [← h.1]; exact hx) c (by rw [← h.2 x]; exact hc)⟩

theorem Stage.construct {R : LState → LState → Prop} (h : Stage R) (fuel : Nat) (s : LState) (n : NewSpec) :
    R (s.alloc (newObj n)).1 (Legacy.construct H Hc fuel s n).1 ∧
      ∀ r, (Legacy.construct H Hc fuel s n).2 = .ok r → r = s.size := by
  rcases construct_cases H Hc (Prod.eta (Legacy.construct H Hc fuel s n)).symm with
    ⟨e1, e, e2⟩ | ⟨nid, coll, orig, _, hf⟩
  · rw [e1, e2]; exact ⟨h.refl _, fun r hr => by cases hr⟩
  · have k1 := h.setIds (s.alloc (newObj n)).1 s.size nid coll orig
    rcases finishConstruct_cases Hc hf with ⟨_, e1, e2⟩ | ⟨_, ⟨e, ha, e2⟩ | ⟨s2, ha, e1, e2⟩⟩
    · rw [e1, e2]; exact ⟨h.trans k1 (h.setContentId Hc _ _), fun r hr => by cases hr; rfl⟩
    · rw [e2]; exact ⟨h.trans k1 (rel_of_eq (h.attach Hc _ _ _) ha), fun r hr => by cases hr⟩
    · rw [e1, e2]
      exact ⟨h.trans (h.trans k1 (rel_of_eq (h.attach Hc _ _ _) ha)) (h.setContentId Hc _ _), fun r hr => by cases hr; rfl⟩

/-- a construction (whatever its outcome) adds exactly one object; its children are those of the request -/
theorem construct_ev (fuel : Nat) (s : LState) (n : NewSpec) (hk : ∀ c ∈ n.fields.flatMap (·.kids), c < s.size) :
    Ev s (construct H Hc fuel s n).1 ∧ (construct H Hc fuel s n).1.size = s.size + 1 ∧
      ((construct H Hc fuel s n).1.obj s.size).kidList = n.fields.flatMap (·.kids) ∧
      ∀ r, (construct H Hc fuel s n).2 = .ok r → r = s.size := by
  obtain ⟨k, hr⟩ := KSame.stage.construct H Hc fuel s n
  have hsz : (construct H Hc fuel s n).1.size = s.size + 1 := k.1
  refine ⟨⟨by omega, fun x hx => by rw [k.2, alloc_obj_lt s _ hx], fun x h1 h2 c hc => ?_⟩, hsz,
    by rw [k.2, alloc_obj_size]; rfl, hr⟩
  have : x = s.size := by omega
  subst this
  rw [k.2, alloc_obj_size] at hc
  exact hk c hc

theorem construct_ev' {fuel : Nat} {s s' : LState} {n : NewSpec} {r : Except Err Nat}
    (hk : ∀ c ∈ n.fields.flatMap (·.kids), c < s.size) (h : construct H Hc fuel s n = (s', r)) :
    Ev s s' ∧ s'.size = s.size + 1 ∧ (s'.obj s.size).kidList = n.fields.flatMap (·.kids) ∧
      ∀ m, r = .ok m → m = s.size := by
  have := construct_ev H Hc fuel s n hk
  rwa [h] at this

theorem ofNode_fst (p : LState × Except Err Nat) : (ofNode p).1 = p.1 := by
  obtain ⟨a, b⟩ := p; cases b <;> rfl
theorem ofUnit_fst (p : LState × Except Err Unit) : (ofUnit p).1 = p.1 := by
  obtain ⟨a, b⟩ := p; cases b <;> rfl

theorem closed_of_inv {s : LState} (hI : Inv Hc s) : Closed s := hI.closed

/-- **`replace(**changes)`, every outcome** -/
theorem replace_ranked {s : LState} {u fuel : Nat} {ch : Changes} (hI : Inv Hc s) (hR : Ranked s)
    (hu : u < s.size) (hk : ∀ c ∈ ch.fields.flatMap (·.2), c < s.size)
    (hadm : ∀ p, s.parent u = some p → ∀ c ∈ ch.fields.flatMap (·.2), ¬ Desc s c p) :
    Ranked (replace H Hc fuel s u ch).1 := by
  have hC : Closed s := hI.closed
  unfold replace
  split
  · exact hR
  · simp only
    -- the state in which the new node is constructed has the child lists of the old one
    have h1 : KSame s (if (s.parent u).isSome = true then s.clearParent u else s) :=
      ite_ind (KSame s) (KSame.stage.clearParent s u) (KSame.refl s)
    generalize (if (s.parent u).isSome = true then s.clearParent u else s) = s1 at h1 ⊢
    have hS : KSame s (if (!s1.detached u) = true then (detachGo (fuel + 1) true s1 u).1 else s1) :=
      ite_ind (KSame s) (h1.trans (KSame.stage.detachGo _ _ _ _)) h1
    generalize (if (!s1.detached u) = true then (detachGo (fuel + 1) true s1 u).1 else s1) = s2 at hS ⊢
    generalize (!s1.detached u) = wasAtt
    -- the children of the re-created node: given ones, or children of the receiver
    have hkids : ∀ c ∈ (applyFields (s2.obj u).fields ch.fields).flatMap (·.kids),
        c ∈ ch.fields.flatMap (·.2) ∨ c ∈ (s.obj u).kidList := fun c hcm =>
      (applyFields_kids hcm).imp id fun h => by rw [← hS.2 u]; exact h
    have hkids_lt : ∀ c ∈ (applyFields (s2.obj u).fields ch.fields).flatMap (·.kids), c < s2.size := by
      intro c hcm
      rw [hS.1]
      rcases hkids c hcm with h | h
      · exact hk c h
      · exact hC u hu c h
    cases hc : construct H Hc fuel s2
        { cls := (s2.obj u).cls, mro := (s2.obj u).mro, fqn := (s2.obj u).fqn,
          props := applyProps (s2.obj u).props ch.props, idArg := some (s2.obj u).id, ensureUnique := false,
          asDuplicate := false, createDetached := !wasAtt, fields := applyFields (s2.obj u).fields ch.fields } with
    | mk s3 r3 =>
      obtain ⟨hev2, hsz3, hkl3, hn3⟩ := construct_ev' H Hc hkids_lt hc
      rw [hS.1] at hsz3 hkl3 hn3
      have hev : Ev s s3 := (Ev.of_kSame hS).trans hev2
      have hR3 : Ranked s3 := ranked_of_ev hR hC hev
      cases r3 with
      | error e =>
        simp only
        have k4 : KSame s3 (if wasAtt = true then reparent u (s3.register u) (s3.obj u).kidsPos else s3) := by
          split
          · exact (KSame.stage.register s3 u).trans (KSame.stage.reparent u _ _)
          · exact KSame.refl _
        apply ranked_of_kSame hR3
        split
        · exact k4.trans (KSame.stage.setParent _ _ _ _ _)
        · exact k4
      | ok n =>
        simp only
        have hn : n = s.size := hn3 n rfl
        subst hn
        cases hp : s.parent u with
        | none =>
          simp only
          split <;> exact ranked_of_kSame hR3 (kSame_modify _ _ _ (fun _ => rfl))
        | some p =>
          simp only
          have he4 := replaceChild_edges Hc fuel s3 p u ((s.obj u).pfield.getD []) (s.obj u).pindex (some s.size)
          -- the parent is not reachable from the new node
          obtain ⟨hpa, hup⟩ := parent_kid Hc hI hp
          have hpl : p < s.size := att_lt hI hpa
          have hnd : ¬ Desc s3 s.size p := by
            intro hd
            rcases hd.head with h | ⟨c, hc3, hcd⟩
            · omega
            · rw [hkl3] at hc3
              have hcs : c < s.size := by rw [← hS.1]; exact hkids_lt c hc3
              obtain ⟨hcd', _⟩ := hev.desc_old hC hcs hcd
              rcases hkids c hc3 with h | h
              · exact hadm p hp c h hcd'
              · obtain ⟨r, hr⟩ := hR
                have h1 := (ranked_desc_le hr hC hcs hcd').1
                have h2 := hr u hu c h
                have h3 := hr p hpl u hup
                omega
          have hR4 := ranked_add_edge hR3 he4 (fun p' n' h1 h2 => by cases h1; cases h2; exact hnd)
          split <;> exact ranked_of_kSame hR4 (kSame_modify _ _ _ (fun _ => rfl))

/-- one duplication, whatever its outcome: new objects over older ones, and an answer that exists -/
def DupEv (t : LState) (p : LState × Except Err Nat) : Prop :=
  Ev t p.1 ∧ ∀ n, p.2 = .ok n → n < p.1.size

theorem dupList_ev (rec : LState → Nat → LState × Except Err Nat)
    (hrec : ∀ t c, Closed t → c < t.size → DupEv t (rec t c)) :
    ∀ (ks : List Nat) (t : LState), Closed t → (∀ c ∈ ks, c < t.size) →
      Ev t (dupList rec t ks).1 ∧ ∀ rs, (dupList rec t ks).2 = .ok rs → ∀ x ∈ rs, x < (dupList rec t ks).1.size := by
  intro ks
  induction ks with
  | nil => intro t _ _; exact ⟨Ev.refl t, fun rs h x hx => by cases h; cases hx⟩
  | cons c cs ih =>
    intro t hC hks
    unfold dupList
    have h1 := hrec t c hC (hks c (List.mem_cons_self ..))
    cases hr : rec t c with
    | mk t1 r1 =>
      rw [hr] at h1
      obtain ⟨e1, n1⟩ := h1
      cases r1 with
      | error e => exact ⟨e1, fun rs h => by cases h⟩
      | ok c' =>
        simp only
        have h2 := ih t1 (e1.closed hC) (fun x hx => Nat.lt_of_lt_of_le (hks x (List.mem_cons_of_mem _ hx)) e1.size)
        cases hr2 : dupList rec t1 cs with
        | mk t2 r2 =>
          rw [hr2] at h2
          obtain ⟨e2, n2⟩ := h2
          cases r2 with
          | error e => exact ⟨e1.trans e2, fun rs h => by cases h⟩
          | ok cs' =>
            refine ⟨e1.trans e2, fun rs h x hx => ?_⟩
            cases h
            rcases List.mem_cons.mp hx with rfl | hx
            · exact Nat.lt_of_lt_of_le (n1 x rfl) e2.size
            · exact n2 cs' rfl x hx

theorem dupFields_ev (rec : LState → Nat → LState × Except Err Nat)
    (hrec : ∀ t c, Closed t → c < t.size → DupEv t (rec t c)) :
    ∀ (fs : List LField) (t : LState), Closed t → (∀ c ∈ fs.flatMap (·.kids), c < t.size) →
      Ev t (dupFields rec t fs).1 ∧
        ∀ fs', (dupFields rec t fs).2 = .ok fs' → ∀ x ∈ fs'.flatMap (·.kids), x < (dupFields rec t fs).1.size := by
  intro fs
  induction fs with
  | nil => intro t _ _; exact ⟨Ev.refl t, fun fs' h x hx => by cases h; simp at hx⟩
  | cons f fr ih =>
    intro t hC hks
    unfold dupFields
    have h1 := dupList_ev rec hrec f.kids t hC (fun c hc => hks c (by simp [List.flatMap_cons]; exact .inl hc))
    cases hr : dupList rec t f.kids with
    | mk t1 r1 =>
      rw [hr] at h1
      obtain ⟨e1, n1⟩ := h1
      cases r1 with
      | error e => exact ⟨e1, fun rs h => by cases h⟩
      | ok ks =>
        simp only
        have h2 := ih t1 (e1.closed hC) (fun x hx => Nat.lt_of_lt_of_le
          (hks x (by simp [List.flatMap_cons]; exact .inr (by simpa using hx))) e1.size)
        cases hr2 : dupFields rec t1 fr with
        | mk t2 r2 =>
          rw [hr2] at h2
          obtain ⟨e2, n2⟩ := h2
          cases r2 with
          | error e => exact ⟨e1.trans e2, fun rs h => by cases h⟩
          | ok fs' =>
            refine ⟨e1.trans e2, fun rs h x hx => ?_⟩
            cases h
            simp only [List.flatMap_cons, List.mem_append] at hx
            rcases hx with hx | hx
            · exact Nat.lt_of_lt_of_le (n1 ks rfl x hx) e2.size
            · exact n2 fs' rfl x hx

theorem duplicate_ev (cfuel : Nat) (clone : Bool) : ∀ (fuel : Nat) (t : LState) (u : Nat), Closed t → u < t.size →
    DupEv t (duplicate H Hc cfuel clone fuel t u) := by
  intro fuel
  induction fuel with
  | zero => intro t u _ _; exact ⟨Ev.refl t, fun n h => by cases h⟩
  | succ fuel ih =>
    intro t u hC hu
    unfold duplicate
    have h1 := dupFields_ev (duplicate H Hc cfuel clone fuel) ih (t.obj u).fields t hC (fun c hc => hC u hu c hc)
    cases hr : dupFields (duplicate H Hc cfuel clone fuel) t (t.obj u).fields with
    | mk t1 r1 =>
      rw [hr] at h1
      obtain ⟨e1, n1⟩ := h1
      cases r1 with
      | error e => exact ⟨e1, fun n h => by cases h⟩
      | ok fs =>
        simp only
        cases hc : construct H Hc cfuel t1
            { cls := (t1.obj u).cls, mro := (t1.obj u).mro, fqn := (t1.obj u).fqn, props := (t1.obj u).props,
              idArg := some (t1.obj u).id, ensureUnique := false, asDuplicate := false, createDetached := clone,
              fields := fs } with
        | mk t2 r2 =>
          obtain ⟨e2, hsz2, _, hn2⟩ := construct_ev' H Hc (n1 fs rfl) hc
          cases r2 with
          | error e => exact ⟨e1.trans e2, fun n h => by cases h⟩
          | ok n =>
            refine ⟨(e1.trans e2).trans (Ev.of_kSame (kSame_modify _ _ _ (fun _ => rfl))), fun n' h => ?_⟩
            cases h
            rw [modify_size, hsz2, hn2 n rfl]; omega

/-- **one admissible step keeps the child graph acyclic -- whatever its outcome** (returned, rejected, or a
walk that did not end): construction and duplication add new objects over older ones, attach / detach change no
child list, `replace` / `replace_with` add one link to a node from which the parent is not reachable -/
theorem ranked_step {s : LState} {op : LOp} (hI : Inv Hc s) (hR : Ranked s) (hadm : Admissible s op) :
    Ranked (step H Hc s op).1 := by
  unfold step
  split
  · exact hR
  · next hr =>
    have hlt := refs_lt (by simpa using hr)
    cases op with
    | new sp =>
      simp only [ofNode_fst]
      exact ranked_of_ev hR hI.closed
        (construct_ev H Hc _ s sp hlt).1
    | attach u =>
      simp only
      split
      · exact hR
      · rw [ofUnit_fst]; exact ranked_of_kSame hR (KSame.stage.attach Hc _ s u)
    | detach u os =>
      simp only
      have hk := KSame.stage.detachGo (fuelOf s + 1) os s u
      split <;> (rename_i heq; rw [heq] at hk; exact ranked_of_kSame hR hk)
    | replace u ch =>
      simp only [ofNode_fst]
      exact replace_ranked H Hc hI hR (hlt u (List.mem_cons_self ..)) (fun c hc => hlt c (List.mem_cons_of_mem _ hc)) hadm
    | rwith u n =>
      simp only [ofUnit_fst]
      refine ranked_add_edge hR (replaceWith_edges Hc (fuelOf s) s u n) (fun p' n' h1 h2 => ?_)
      subst h2
      exact hadm p' h1
    | dup u c =>
      simp only [ofNode_fst]
      exact ranked_of_ev hR hI.closed (duplicate_ev H Hc _ c _ s u hI.closed (hlt u (List.mem_singleton_self u))).1

theorem ranked_init : Ranked init := ⟨fun _ => 0, fun x hx => by simp [init] at hx⟩

/-- a history of admissible operations each of which returned or was rejected with a documented error -/
def AdmRun : LState → List LOp → Prop
  | _, [] => True
  | s, op :: r => LOp.proved s op ∧ Admissible s op ∧ C19.FineOut op (step H Hc s op).2 ∧ AdmRun (step H Hc s op).1 r

/-- **admissible histories (accepted and rejected operations mixed) keep the invariant AND acyclicity** -/
theorem inv_ranked_run : ∀ (ops : List LOp) (s : LState), Inv Hc s → Ranked s → AdmRun H Hc s ops →
    Inv Hc (run H Hc s ops) ∧ Ranked (run H Hc s ops) := by
  intro ops
  induction ops with
  | nil => intro s hI hR _; exact ⟨hI, hR⟩
  | cons op r ih =>
    intro s hI hR hg
    obtain ⟨hp, ha, hf, hr⟩ := hg
    unfold run
    simp only [List.foldl_cons]
    exact ih _ (C19.inv_step_any H Hc hI hp rfl hf) (ranked_step H Hc hI hR ha) hr

theorem inv_ranked_run_init (ops : List LOp) (hg : AdmRun H Hc init ops) :
    Inv Hc (run H Hc init ops) ∧ Ranked (run H Hc init ops) :=
  inv_ranked_run H Hc ops init (inv_init Hc) ranked_init hg

/-! ### the content-id clause is non-vacuous on acyclic states -/

/-- **every existing node of an acyclic state has an independently built equal tree** -/
theorem matches_exists {s : LState} (hI : Inv Hc s) (hR : Ranked s) : ∀ u, u < s.size → ∃ t, Matches s u t := by
  obtain ⟨r, hr⟩ := hR
  have key : ∀ n u, r u < n → u < s.size → ∃ t, Matches s u t := by
    intro n
    induction n with
    | zero => intro u h; omega
    | succ n ih =>
      intro u hru hu
      have hk : ∀ l : List (Nat × Str × Option Nat), (∀ e ∈ l, e.1 ∈ (s.obj u).kidList) →
          ∃ kids, Matches.kidsMatch s l kids := by
        intro l
        induction l with
        | nil => intro _; exact ⟨[], trivial⟩
        | cons e er ihl =>
          intro hl
          have he := hl e (List.mem_cons_self ..)
          obtain ⟨t, ht⟩ := ih e.1 (by have := hr u hu e.1 he; omega) (hI.closed u hu e.1 he)
          obtain ⟨kr, hkr⟩ := ihl (fun x hx => hl x (List.mem_cons_of_mem _ hx))
          exact ⟨(e.2.1, e.2.2, t) :: kr, rfl, rfl, ht, hkr⟩
      obtain ⟨kids, hkids⟩ := hk (s.obj u).kidsPos (fun e he => (mem_kidList_iff _ _).mpr ⟨e, he, rfl⟩)
      exact ⟨.mk (s.obj u).cls (s.obj u).props kids, rfl, rfl, hkids⟩
  exact fun u hu => key (r u + 1) u (by omega) hu

/-- **`cid_eq_spec` without a caller-supplied tree**: on an acyclic state satisfying the invariant the cached
content id of EVERY attached node is the content id of an independently built tree equal to its subtree -/
theorem cid_eq_tree {s : LState} (hI : Inv Hc s) (hR : Ranked s) {u : Nat} (hu : Att s u) :
    ∃ t, Matches s u t ∧ (s.obj u).cid = CTree.cid Hc t := by
  obtain ⟨t, ht⟩ := matches_exists Hc hI hR u (att_lt hI hu)
  exact ⟨t, ht, cid_eq_spec Hc hI t u hu ht⟩

theorem cid_eq_tree_run (ops : List LOp) (hg : AdmRun H Hc init ops) {u : Nat} (hu : Att (run H Hc init ops) u) :
    ∃ t, Matches (run H Hc init ops) u t ∧ ((run H Hc init ops).obj u).cid = CTree.cid Hc t :=
  cid_eq_tree Hc (inv_ranked_run_init H Hc ops hg).1 (inv_ranked_run_init H Hc ops hg).2 hu

/-- candidates for the set of nodes reachable from `acc` (iterated child lists) -/
def closure (s : LState) : Nat → List Nat → List Nat
  | 0, acc => acc
  | fuel + 1, acc => closure s fuel (acc ++ acc.flatMap fun x => (s.obj x).kidList).eraseDups

def closedB (s : LState) (S : List Nat) : Bool := S.all fun x => (s.obj x).kidList.all fun c => S.contains c

/-- a checked certificate for `¬ Desc s n p` -/
def notDescB (s : LState) (n p : Nat) : Bool :=
  (closure s s.size [n]).contains n && !(closure s s.size [n]).contains p && closedB s (closure s s.size [n])

theorem notDescB_sound {s : LState} {n p : Nat} (h : notDescB s n p = true) : ¬ Desc s n p := by
  unfold notDescB at h
  simp only [Bool.and_eq_true, Bool.not_eq_true', List.contains_eq_mem, decide_eq_true_eq, decide_eq_false_iff_not] at h
  obtain ⟨⟨h1, h2⟩, h3⟩ := h
  apply not_desc_of_closed (closure s s.size [n]) h1 _ h2
  intro x hx c hc
  unfold closedB at h3
  have := List.all_eq_true.mp (List.all_eq_true.mp h3 x hx) c hc
  simpa using this

/-- the decidable form of `Admissible` -/
def admB (s : LState) : LOp → Bool
  | .rwith u (some n) => match s.parent u with
    | none => true
    | some p => notDescB s n p
  | .replace u ch => match s.parent u with
    | none => true
    | some p => (ch.fields.flatMap (·.2)).all fun c => notDescB s c p
  | _ => true

theorem admB_sound {s : LState} {op : LOp} (h : admB s op = true) : Admissible s op := by
  cases op with
  | rwith u n =>
    cases n with
    | none => trivial
    | some n =>
      intro p hp
      simp only [admB, hp] at h
      exact notDescB_sound h
  | replace u ch =>
    intro p hp c hc
    simp only [admB, hp] at h
    exact notDescB_sound (List.all_eq_true.mp h c hc)
  | _ => trivial

/-- `AdmRun` with the computed certificate `admB` in place of `Admissible`: decidable -/
def AdmRunB : LState → List LOp → Prop
  | _, [] => True
  | s, op :: r => LOp.proved s op ∧ admB s op = true ∧ C19.FineOut op (step H Hc s op).2 ∧ AdmRunB (step H Hc s op).1 r

theorem admRun_of_B : ∀ (ops : List LOp) (s : LState), AdmRunB H Hc s ops → AdmRun H Hc s ops := by
  intro ops
  induction ops with
  | nil => intro s _; trivial
  | cons op r ih => intro s h; exact ⟨h.1, admB_sound h.2.1, h.2.2.1, ih _ h.2.2.2⟩

theorem AdmRunB.take {H Hc : Str → Str} {ops : List LOp} {s : LState} (k : Nat) :
    AdmRunB H Hc s ops → AdmRunB H Hc s (ops.take k) :=
  take_of_run (next := fun s op => (step H Hc s op).1) (fun _ => trivial) (fun h => h.2.2.2)
    (fun h h' => ⟨h.1, h.2.1, h.2.2.1, h'⟩) k

/-! ### the side condition is needed: `Inv` alone does not exclude cycles -/
section cyclic
open PyOak.Legacy.Ex

/-- a content digest with collisions (everything collides) -/
def K : Str → Str := fun _ => []

/-- leaf 0, node 1 over it, node 2 over node 1, then `leaf.replace_with(root)`: the root is put below its own
descendant -/
def histCyc : List LOp := [.new (leaf "1"), .new (un 0), .new (un 1), .rwith 0 (some 2)]

private theorem good_histCyc : GoodRun id K init histCyc := by decide +kernel

/-- the cyclic state: nodes 1 and 2 are attached, each is the parent and a child of the other -/
theorem histCyc_shape : Att (run id K init histCyc) 1 ∧ Att (run id K init histCyc) 2 ∧
    (run id K init histCyc).parent 1 = some 2 ∧ (run id K init histCyc).parent 2 = some 1 ∧
    2 < (run id K init histCyc).size ∧ 2 ∈ ((run id K init histCyc).obj 1).kidList ∧
    1 ∈ ((run id K init histCyc).obj 2).kidList := by decide +kernel

/-- **`Inv` alone does not exclude cycles**: with a colliding content digest the inadmissible call returns (`_replace_child` skips
the `_reset_content_id` walk because the content ids of the old and the new child agree; with an injective
digest the same call does not return, the example on `histC` in Props/C18.lean), every step of the history
is accepted, the invariant holds of the result -- and the result contains the attached 2-cycle `1 → 2 → 1`.
The last step is exactly the one that `Admissible` excludes. -/
theorem cyclic_reachable :
    GoodRun id K init histCyc ∧ Inv K (run id K init histCyc) ∧ ¬ Ranked (run id K init histCyc) ∧
      Att (run id K init histCyc) 1 ∧ Att (run id K init histCyc) 2 ∧
      (run id K init histCyc).parent 1 = some 2 ∧ (run id K init histCyc).parent 2 = some 1 ∧
      ¬ Admissible (run id K init (histCyc.take 3)) (.rwith 0 (some 2)) := by
  obtain ⟨a1, a2, p1, p2, hsz, k1, k2⟩ := histCyc_shape
  refine ⟨good_histCyc, inv_run_init id K _ good_histCyc, ?_, a1, a2, p1, p2, ?_⟩
  · rintro ⟨r, hr⟩
    have h1 := hr 1 (by omega) 2 k1
    have h2 := hr 2 hsz 1 k2
    omega
  · intro h
    have e : (run id K init (histCyc.take 3)).parent 0 = some 1 ∧
        1 ∈ ((run id K init (histCyc.take 3)).obj 2).kidList := by decide +kernel
    exact h 1 e.1 (Desc.step .refl e.2)

end cyclic

section examples
open PyOak.Legacy.Ex

instance decAdmRunB : ∀ (ops : List LOp) (s : LState), Decidable (AdmRunB id id s ops)
  | [], _ => isTrue trivial
  | op :: r, s =>
    have := decAdmRunB r (step id id s op).1
    show Decidable (_ ∧ _ ∧ _ ∧ _) from inferInstance

/-- an admissible history with accepted and rejected operations: two leaves, a chain 3 → 2 → 0, `replace` of the
child 2 by a node over leaf 1 (a new link 3 → new node → 1), a rejected constructor, `replace_with` of a child
by a detached node and by an attached root, a rejected `replace_with`, removal of a child -/
def histAdm : List LOp :=
  [.new (leaf "1"), .new (leaf "2"), .new (un 0), .new (un 2),
   .replace 2 ⟨[], [("arg".toList, [1])], false⟩,          -- node 4 over leaf 1 replaces node 2 under node 3
   .new (tup [1, 1]),                                       -- rejected (dupChildren); consumes number 5
   .new { leaf "3" with createDetached := true },           -- 6, detached
   .rwith 1 (some 6),                                       -- leaf 1 under node 4 replaced by the detached leaf 6
   .new (un 0),                                             -- 7 over the (now free) leaf 0
   .rwith 6 (some 7),                                       -- leaf 6 replaced by the attached root 7
   .rwith 7 (some 3),                                       -- INADMISSIBLE (3 is the root above 7): does not return
   .detach 3 false]

theorem adm_histAdm : AdmRunB id id init (histAdm.take 10) := by decide +kernel
example : AdmRunB id id init (histAdm.take 10) := adm_histAdm
theorem inv_ranked_histAdm : Inv id (st (histAdm.take 10)) ∧ Ranked (st (histAdm.take 10)) :=
  inv_ranked_run_init id id _ (admRun_of_B id id _ init adm_histAdm)
-- the certificate is used for real: the replaced nodes have parents
private theorem histAdm_cert :
    (st (histAdm.take 4)).parent 2 = some 3 ∧ admB (st (histAdm.take 4)) (.replace 2 ⟨[], [("arg".toList, [1])], false⟩) = true ∧
    (st (histAdm.take 9)).parent 6 = some 4 ∧ admB (st (histAdm.take 9)) (.rwith 6 (some 7)) = true := by decide +kernel
example : (st (histAdm.take 4)).parent 2 = some 3 ∧ admB (st (histAdm.take 4)) (.replace 2 ⟨[], [("arg".toList, [1])], false⟩) = true ∧
    (st (histAdm.take 9)).parent 6 = some 4 ∧ admB (st (histAdm.take 9)) (.rwith 6 (some 7)) = true := histAdm_cert
example : outOf (histAdm.take 5) (.new (tup [1, 1])) = .raised .dupChildren := by decide +kernel
/-- the state after the ten steps: the root 3 is attached, over node 4, the parent of node 7 -/
private theorem histAdm_shape : Att (st (histAdm.take 10)) 3 ∧ 7 < (st (histAdm.take 10)).size ∧
    (st (histAdm.take 10)).parent 7 = some 4 ∧ 4 ∈ ((st (histAdm.take 10)).obj 3).kidList ∧
    admB (st (histAdm.take 10)) (.rwith 7 (some 3)) = false := by decide +kernel
-- putting the root 3 below its descendant 7 is not admissible (and here the certificate fails as it must)
example : admB (st (histAdm.take 10)) (.rwith 7 (some 3)) = false := histAdm_shape.2.2.2.2
example : ¬ Admissible (st (histAdm.take 10)) (.rwith 7 (some 3)) := fun h =>
  h 4 histAdm_shape.2.2.1 (Desc.step .refl histAdm_shape.2.2.2.1)
example : Ranked (step id id (st (histAdm.take 9)) (.rwith 6 (some 7))).1 :=
  have hIR : Inv id (st (histAdm.take 9)) ∧ Ranked (st (histAdm.take 9)) :=
    inv_ranked_run_init id id _ (admRun_of_B id id _ init (adm_histAdm.take 9))
  ranked_step id id (s := st (histAdm.take 9)) (op := .rwith 6 (some 7)) hIR.1 hIR.2 (admB_sound histAdm_cert.2.2.2)
-- the content-id clause, with the tree supplied by the theorem
example : ∃ t, Matches (st (histAdm.take 10)) 3 t ∧ ((st (histAdm.take 10)).obj 3).cid = CTree.cid id t :=
  cid_eq_tree id inv_ranked_histAdm.1 inv_ranked_histAdm.2 histAdm_shape.1
example := matches_exists id inv_ranked_histAdm.1 inv_ranked_histAdm.2 7 histAdm_shape.2.1
example := replaceWith_edges id 9 (st (histAdm.take 9)) 6 (some 7)
example := duplicate_ev id id 9 true 9 (st (histAdm.take 10)) 3 inv_ranked_histAdm.1.closed
  (att_lt inv_ranked_histAdm.1 histAdm_shape.1)

end examples

#print axioms replaceWith_edges
#print axioms ranked_of_ev
#print axioms ranked_add_edge
#print axioms replace_ranked
#print axioms duplicate_ev
#print axioms ranked_step
#print axioms inv_ranked_run
#print axioms inv_ranked_run_init
#print axioms matches_exists
#print axioms cid_eq_tree
#print axioms cid_eq_tree_run
#print axioms admB_sound
#print axioms cyclic_reachable

end PyOak.Legacy.C18
