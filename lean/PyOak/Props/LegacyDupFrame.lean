/-
`duplicate`, whatever the outcome: the invariant is preserved, every pre-existing record is untouched,
every pre-existing registry entry is kept, and every additional registry entry belongs to an object created
by the call (after a rejected call: a duplicated child that is garbage at once, the registry being weak).
-/
import PyOak.Props.LegacyRollback
namespace PyOak.Legacy
open LState

/-- relative to the state `s` in which the call started: old records and entries untouched, new
entries point to new objects, new objects only have new children -/
structure NewOnly (s t : LState) : Prop where
  size : s.size ≤ t.size
  obj : ∀ v, v < s.size → t.obj v = s.obj v
  keep : ∀ k v, s.lookup k = some v → t.lookup k = some v
  fresh : ∀ k v, t.lookup k = some v → s.lookup k = some v ∨ s.size ≤ v
  closed : ∀ v, s.size ≤ v → v < t.size → ∀ c ∈ (t.obj v).kidList, s.size ≤ c

theorem NewOnly.refl (s : LState) : NewOnly s s :=
  ⟨Nat.le_refl _, fun _ _ => rfl, fun _ _ h => h, fun _ _ h => .inl h, fun v h1 h2 => by omega⟩

section
variable (H Hc : Str → Str)

/-- a construction over NEW children (rejected or not) keeps that -/
theorem construct_newOnly {s t t' : LState} {n : NewSpec} {fuel : Nat} {r : Except Err Nat}
    (hI : Inv Hc t) (hN : NewOnly s t)
    (hk : ∀ c ∈ n.fields.flatMap (·.kids), s.size ≤ c ∧ c < t.size) (hwf : (newObj n).wf)
    (h : construct H Hc fuel t n = (t', r)) :
    Inv Hc t' ∧ NewOnly s t' ∧ t'.size = t.size + 1 ∧ (∀ u, r = .ok u → u = t.size) := by
  have hI0 : Inv Hc (t.alloc (newObj n)).1 :=
    alloc_inv Hc hI (newObj n) rfl (fun c hc => (hk c hc).2) hwf (fun _ _ hx => hx.elim)
  have hN0 : NewOnly s (t.alloc (newObj n)).1 := by
    have hobj0 : ∀ v, v ≠ t.size → (t.alloc (newObj n)).1.obj v = t.obj v := fun v => alloc_obj_ne t _
    have hobjn := alloc_obj_size t (newObj n)
    refine ⟨Nat.le_trans hN.size (Nat.le_succ _), ?_, hN.keep, hN.fresh, ?_⟩
    · intro v hv
      rw [hobj0 v (by have := hN.size; omega)]; exact hN.obj v hv
    · intro v hv1 hv2 c hc
      have hv2' : v < t.size + 1 := hv2
      by_cases hvn : v = t.size
      · subst hvn; rw [hobjn] at hc; exact (hk c hc).1
      · rw [hobj0 v hvn] at hc; exact hN.closed v hv1 (by omega) c hc
  have hreg0 : ∀ k, (t.alloc (newObj n)).1.lookup k ≠ some t.size :=
    fun k => not_registered_of_ge Hc hI (Nat.le_refl _) k
  have hsz0 := alloc_size t (newObj n)
  rcases construct_cases H Hc h with ⟨rfl, e, rfl⟩ | ⟨nid, coll, orig, _, hfin⟩
  · exact ⟨hI0, hN0, hsz0, fun u hu => nomatch hu⟩
  generalize (t.alloc (newObj n)).1 = t0 at hfin hI0 hN0 hreg0 hsz0
  -- the ids are set: only the new record changes, its child fields stay
  have hI1 : Inv Hc (t0.modify t.size (setIds nid coll orig)) :=
    inv_modify_unregistered Hc hI0 hreg0 _ (.inr rfl) rfl (hI0.wf _) (fun _ _ hx => hx.elim)
  have hts : s.size ≤ t.size := hN.size
  have hN1 : NewOnly s (t0.modify t.size (setIds nid coll orig)) := by
    refine ⟨hN0.size, ?_, hN0.keep, hN0.fresh, ?_⟩
    · intro v hv; rw [modify_obj_ne _ _ _ _ (by omega)]; exact hN0.obj v hv
    · intro v hv1 hv2 c hc
      rw [modify_size] at hv2
      rw [LObj.kidList_congr (modify_proj (·.fields) t0 t.size _ rfl v)] at hc
      exact hN0.closed v hv1 hv2 c hc
  have hsz1 : (t0.modify t.size (setIds nid coll orig)).size = t.size + 1 := by rw [modify_size, hsz0]
  have hreg1 : ∀ k, (t0.modify t.size (setIds nid coll orig)).lookup k ≠ some t.size := by
    intro k; rw [modify_lookup]; exact hreg0 k
  generalize t0.modify t.size (setIds nid coll orig) = t1 at hfin hI1 hN1 hsz1 hreg1
  -- descendants of the new node are new
  have hdesc : ∀ q, Desc t1 t.size q → s.size ≤ q ∧ q < t1.size := by
    intro q hd
    induction hd with
    | refl => exact ⟨hts, by omega⟩
    | step _ hkq ih => exact ⟨hN1.closed _ ih.1 ih.2 _ hkq, hI1.closed _ ih.2 _ hkq⟩
  have hset : ∀ (t2 : LState), NewOnly s t2 → t2.size = t.size + 1 → NewOnly s (t2.setContentId Hc t.size) := by
    intro t2 h2 hs2
    refine ⟨h2.size, ?_, h2.keep, h2.fresh, ?_⟩
    · intro v hv; rw [setContentId_obj, if_neg (show v ≠ t.size by omega)]; exact h2.obj v hv
    · intro v hv1 hv2 c hc
      have hf : ((t2.setContentId Hc t.size).obj v).fields = (t2.obj v).fields := by
        refine modify_proj (·.fields) t2 t.size _ ?_ v; rfl
      rw [LObj.kidList_congr hf] at hc
      exact h2.closed v hv1 hv2 c hc
  have hok : ∀ u, r = .ok u → Inv Hc t' ∧ u = t.size ∧ t'.size = t.size + 1 := by
    intro u hu
    rw [hu] at hfin
    obtain ⟨a, b, c, _, _⟩ := finishConstruct_inv Hc hI1 (by omega) hreg1 (fun _ _ hx => hx.elim) (fun hx => hx) hfin
    exact ⟨a, b, by rw [c, hsz1]⟩
  rcases finishConstruct_cases Hc hfin with ⟨_, rfl, hr⟩ | ⟨_, ⟨e, ha, rfl⟩ | ⟨t2, ha, rfl, hr⟩⟩
  · obtain ⟨a, _, c⟩ := hok _ hr
    exact ⟨a, hset t1 hN1 hsz1, c, fun u hu => (hok u hu).2.1⟩
  · rw [attach_fail_frame Hc _ _ _ _ _ ha]
    exact ⟨hI1, hN1, hsz1, fun u hu => nomatch hu⟩
  · obtain ⟨a, _, c⟩ := hok _ hr
    refine ⟨a, ?_, c, fun u hu => (hok u hu).2.1⟩
    obtain ⟨_, _, hsz2, hg2, _⟩ := attach_invX Hc hI1 (by omega) (fun _ _ hx => hx.elim) ha
    obtain ⟨seg, hsd, hsl, hso⟩ := attach_effect Hc hI1 (by omega) ha
    apply hset t2 _ (by rw [hsz2, hsz1])
    refine ⟨by rw [hsz2]; exact hN1.size, ?_, ?_, ?_, ?_⟩
    · intro v hv
      rw [hso v, hN1.obj v hv]
      · intro hm; have := (hdesc v (hsd v hm)).1; omega
      · intro hm
        obtain ⟨m, hm1, hm2⟩ := List.mem_flatMap.mp hm
        have hmd := hdesc m (hsd m hm1)
        have := hN1.closed m hmd.1 hmd.2 v hm2
        omega
    · intro k v hk; exact hg2.reg k v (hN1.keep k v hk)
    · intro k v hk
      rcases hsl k v hk with h1 | h1
      · exact hN1.fresh k v h1
      · exact .inr (hdesc v (hsd v h1)).1
    · intro v hv1 hv2 c hc
      rw [hsz2] at hv2
      rw [LObj.kidList_congr (hg2.same v hv2).2] at hc
      exact hN1.closed v hv1 hv2 c hc

theorem modify_kidList (t : LState) (n : Nat) (f : LObj → LObj) (hf : ∀ o, (f o).fields = o.fields) (v : Nat) :
    ((t.modify n f).obj v).kidList = (t.obj v).kidList := by
  rw [modify_obj]; split
  · next hvn => subst hvn; unfold LObj.kidList; rw [hf]
  · rfl

/-- what is carried through `duplicate`, whatever the outcome -/
def DupAll (s t t' : LState) : Prop := Inv Hc t' ∧ NewOnly s t' ∧ t.size ≤ t'.size

theorem dupList_all {s : LState} (rec : LState → Nat → LState × Except Err Nat)
    (hrec : ∀ t c t' r, Inv Hc t → NewOnly s t → c < t.size → rec t c = (t', r) →
      DupAll Hc s t t' ∧ ∀ n, r = .ok n → s.size ≤ n ∧ n < t'.size) :
    ∀ (ks : List Nat) (t t' : LState) (r : Except Err (List Nat)), Inv Hc t → NewOnly s t →
      (∀ c ∈ ks, c < t.size) → dupList rec t ks = (t', r) →
      DupAll Hc s t t' ∧ ∀ rs, r = .ok rs → ∀ x ∈ rs, s.size ≤ x ∧ x < t'.size := by
  intro ks
  induction ks with
  | nil =>
    intro t t' r hI hN _ h
    simp only [dupList, Prod.mk.injEq] at h
    obtain ⟨rfl, rfl⟩ := h
    exact ⟨⟨hI, hN, Nat.le_refl _⟩, fun rs hrs x hx => by cases hrs; cases hx⟩
  | cons c cs ih =>
    intro t t' r hI hN hks h
    unfold dupList at h
    cases h1 : rec t c with
    | mk t1 res1 =>
      rw [h1] at h
      obtain ⟨⟨hI1, hN1, hs1⟩, hr1⟩ := hrec t c t1 res1 hI hN (hks c (List.mem_cons_self ..)) h1
      cases res1 with
      | error e =>
        simp only [Prod.mk.injEq] at h
        obtain ⟨rfl, rfl⟩ := h
        exact ⟨⟨hI1, hN1, hs1⟩, fun rs hrs => by cases hrs⟩
      | ok c' =>
        simp only at h
        cases h2 : dupList rec t1 cs with
        | mk t2 res2 =>
          rw [h2] at h
          obtain ⟨⟨hI2, hN2, hs2⟩, hr2⟩ := ih t1 t2 res2 hI1 hN1
            (fun x hx => Nat.lt_of_lt_of_le (hks x (List.mem_cons_of_mem _ hx)) hs1) h2
          cases res2 with
          | error e =>
            simp only [Prod.mk.injEq] at h
            obtain ⟨rfl, rfl⟩ := h
            exact ⟨⟨hI2, hN2, Nat.le_trans hs1 hs2⟩, fun rs hrs => by cases hrs⟩
          | ok cs' =>
            simp only [Prod.mk.injEq] at h
            obtain ⟨rfl, rfl⟩ := h
            refine ⟨⟨hI2, hN2, Nat.le_trans hs1 hs2⟩, ?_⟩
            intro rs hrs x hx
            cases hrs
            rcases List.mem_cons.mp hx with rfl | hx
            · have := hr1 x rfl; exact ⟨this.1, Nat.lt_of_lt_of_le this.2 hs2⟩
            · exact hr2 cs' rfl x hx

theorem dupFields_all {s : LState} (rec : LState → Nat → LState × Except Err Nat)
    (hrec : ∀ t c t' r, Inv Hc t → NewOnly s t → c < t.size → rec t c = (t', r) →
      DupAll Hc s t t' ∧ ∀ n, r = .ok n → s.size ≤ n ∧ n < t'.size) :
    ∀ (fs : List LField) (t t' : LState) (r : Except Err (List LField)), Inv Hc t → NewOnly s t →
      (∀ c ∈ fs.flatMap (·.kids), c < t.size) → dupFields rec t fs = (t', r) →
      DupAll Hc s t t' ∧ ∀ fs', r = .ok fs' → ∀ x ∈ fs'.flatMap (·.kids), s.size ≤ x ∧ x < t'.size := by
  intro fs
  induction fs with
  | nil =>
    intro t t' r hI hN _ h
    simp only [dupFields, Prod.mk.injEq] at h
    obtain ⟨rfl, rfl⟩ := h
    exact ⟨⟨hI, hN, Nat.le_refl _⟩, fun fs' hfs x hx => by cases hfs; simp at hx⟩
  | cons f fr ih =>
    intro t t' r hI hN hks h
    unfold dupFields at h
    cases h1 : dupList rec t f.kids with
    | mk t1 res1 =>
      rw [h1] at h
      obtain ⟨⟨hI1, hN1, hs1⟩, hr1⟩ := dupList_all Hc rec hrec f.kids t t1 res1 hI hN
        (fun c hc => hks c (by simp only [List.flatMap_cons]; exact List.mem_append_left _ hc)) h1
      cases res1 with
      | error e =>
        simp only [Prod.mk.injEq] at h
        obtain ⟨rfl, rfl⟩ := h
        exact ⟨⟨hI1, hN1, hs1⟩, fun fs' hfs => by cases hfs⟩
      | ok ks =>
        simp only at h
        cases h2 : dupFields rec t1 fr with
        | mk t2 res2 =>
          rw [h2] at h
          obtain ⟨⟨hI2, hN2, hs2⟩, hr2⟩ := ih t1 t2 res2 hI1 hN1
            (fun c hc => Nat.lt_of_lt_of_le
              (hks c (by simp only [List.flatMap_cons]; exact List.mem_append_right _ hc)) hs1) h2
          cases res2 with
          | error e =>
            simp only [Prod.mk.injEq] at h
            obtain ⟨rfl, rfl⟩ := h
            exact ⟨⟨hI2, hN2, Nat.le_trans hs1 hs2⟩, fun fs' hfs => by cases hfs⟩
          | ok fr' =>
            simp only [Prod.mk.injEq] at h
            obtain ⟨rfl, rfl⟩ := h
            refine ⟨⟨hI2, hN2, Nat.le_trans hs1 hs2⟩, ?_⟩
            intro fs' hfs x hx
            cases hfs
            simp only [List.flatMap_cons] at hx
            rcases List.mem_append.mp hx with hx | hx
            · have := hr1 ks rfl x hx; exact ⟨this.1, Nat.lt_of_lt_of_le this.2 hs2⟩
            · exact hr2 fr' rfl x hx

/-- `duplicate`, whatever the outcome -/
theorem duplicate_all {s : LState} (cfuel : Nat) (clone : Bool) : ∀ (fuel : Nat) (t : LState) (u : Nat)
    (t' : LState) (r : Except Err Nat), Inv Hc t → NewOnly s t → u < t.size →
    duplicate H Hc cfuel clone fuel t u = (t', r) →
    DupAll Hc s t t' ∧ ∀ n, r = .ok n → s.size ≤ n ∧ n < t'.size := by
  intro fuel
  induction fuel with
  | zero =>
    intro t u t' r hI hN _ h
    simp only [duplicate, Prod.mk.injEq] at h
    obtain ⟨rfl, rfl⟩ := h
    exact ⟨⟨hI, hN, Nat.le_refl _⟩, fun n hn => by cases hn⟩
  | succ fuel ih =>
    intro t u t' r hI hN hu h
    unfold duplicate at h
    cases h1 : dupFields (duplicate H Hc cfuel clone fuel) t (t.obj u).fields with
    | mk t1 res1 =>
      rw [h1] at h
      obtain ⟨⟨hI1, hN1, hs1⟩, hr1⟩ := dupFields_all Hc _ (fun t c t' r a b c' d => ih t c t' r a b c' d)
        (t.obj u).fields t t1 res1 hI hN (fun c hc => hI.closed u hu c hc) h1
      cases res1 with
      | error e =>
        simp only [Prod.mk.injEq] at h
        obtain ⟨rfl, rfl⟩ := h
        exact ⟨⟨hI1, hN1, hs1⟩, fun n hn => by cases hn⟩
      | ok fs =>
        simp only at h
        have hsh := dupFields_shape _ _ _ _ _ h1
        have hwf : ∀ sp : NewSpec, sp.fields = fs → (newObj sp).wf :=
          fun sp hsp => wf_of_shape hsh (t.obj u) (newObj sp) rfl hsp (hI.wf u)
        split at h
        · next t2 e hc =>
          simp only [Prod.mk.injEq] at h
          obtain ⟨rfl, rfl⟩ := h
          obtain ⟨hI2, hN2, hs2, _⟩ := construct_newOnly H Hc hI1 hN1 (hr1 fs rfl) (hwf _ rfl) hc
          exact ⟨⟨hI2, hN2, by omega⟩, fun n hn => by cases hn⟩
        · next t2 n hc =>
          simp only [Prod.mk.injEq] at h
          obtain ⟨rfl, rfl⟩ := h
          obtain ⟨hI2, hN2, hs2, hn2⟩ := construct_newOnly H Hc hI1 hN1 (hr1 fs rfl) (hwf _ rfl) hc
          have hn := hn2 n rfl
          have hts : s.size ≤ t1.size := hN1.size
          refine ⟨⟨inv_modify_meta Hc hI2 n _ _, ?_, by rw [modify_size]; omega⟩, ?_⟩
          · refine ⟨by rw [modify_size]; exact hN2.size, ?_, hN2.keep, hN2.fresh, ?_⟩
            · intro v hv; rw [modify_obj_ne _ _ _ _ (by omega)]; exact hN2.obj v hv
            · intro v hv1 hv2 c hc'
              rw [modify_size] at hv2
              rw [modify_obj] at hc'
              split at hc'
              · next hvn => subst hvn; exact hN2.closed v hv1 hv2 c hc'
              · exact hN2.closed v hv1 hv2 c hc'
          · intro n' hn'
            cases hn'
            rw [modify_size]; omega

/-- `duplicate` (both variants) preserves the invariant -/
theorem duplicate_ok (cfuel : Nat) (clone : Bool) : ∀ (fuel : Nat) (s : LState) (u : Nat) (s' : LState) (r : Nat),
    Inv Hc s → u < s.size → duplicate H Hc cfuel clone fuel s u = (s', .ok r) → DupOk Hc s s' r := by
  intro fuel s u s' r hI hu h
  obtain ⟨⟨hI', _, hsz⟩, hr⟩ := duplicate_all H Hc cfuel clone fuel s u s' (.ok r) hI (NewOnly.refl s) hu h
  exact ⟨hI', (hr r rfl).2, hsz⟩

end

end PyOak.Legacy
