/-
C03 — the registry holds exactly the live, not-detached nodes, under pairwise different ids.

* `Inv` (keys pairwise different, `regId`, heap uids pairwise different, registered ⇒ not detached,
  plus the auxiliary clause `detachedHeap`) is preserved by every admissible operation
  (`inv_step`, `inv_run`); `RegLive` (registered ⇒ live) holds after every step (`regLive_step`).
* `freshId_free`: the id chosen by `__post_init__` is never a key (`RegL.freshId_spec`, pigeonhole
  over the `reg.length + 1` suffix candidates); `id_fresh_is_base`.
* primitives: `pNew_inv`, `pDetachSelf_inv`, `pRestore_inv`, `pForceId_inv`, `gc_inv`,
  `gc_regLive`, `gc_liveRegistered`; completeness: `pDetachSelf_LR`, `pRestore_LR`, `evol_LR`,
  `pForceId_LR` (only when the forced id is not a key — F19 otherwise); `pre_normal`: the shape
  all carried-out operations share.
* completeness `LiveRegistered` is preserved by every operation (`liveRegistered_step`), `as_obj`
  included provided no forced id clashes with a key of the registry (`noClash`; the excluded case
  is defect F19, counterexample `asObj_evicts_live`); `liveRegistered_step_partial` is the
  statement for the operations other than `as_obj` (no `RegLive`/`noClash` hypothesis).
  The fuel of the model's `live` (all children lists + roots) always suffices
  (`RegL.live_complete`).
  `liveRegistered_run` lifts the result to histories.
* `replace_fail_frame`, `replace_fail_raised`; `get_sound`, `getAny_eq`.
-/
import PyOak.Lemmas.Registry
namespace PyOak
namespace C03
open RState RegL

/-- The always-true clauses.  `detachedHeap` (the ghost list `detached` only mentions created
objects) is an auxiliary clause needed to make the others inductive. -/
structure Inv (s : RState) : Prop where
  /-- ids of registered nodes are pairwise different -/
  keysNodup : (s.reg.map (·.1)).Nodup
  /-- a lookup under `k` returns a node whose id is `k` -/
  regId : ∀ k u, (k, u) ∈ s.reg → ∃ o ∈ s.heap, o.uid = u ∧ o.id = k
  heapNodup : (s.heap.map (·.uid)).Nodup
  /-- detached nodes are not returned -/
  regNotDetached : ∀ k u, (k, u) ∈ s.reg → u ∉ s.detached
  detachedHeap : ∀ u ∈ s.detached, u ∈ s.heap.map (·.uid)

/-- nodes no longer referenced are not returned (holds at quiescent points) -/
def RegLive (s : RState) : Prop := ∀ k u, (k, u) ∈ s.reg → s.isLive u = true

/-- completeness: every live node that was not detached is returned under its id -/
def LiveRegistered (s : RState) : Prop :=
  ∀ o ∈ s.heap, s.isLive o.uid = true → o.uid ∉ s.detached → (o.id, o.uid) ∈ s.reg

/-- the `fresh` tokens are pairwise distinct and not yet objects -/
def FreshOk (s : RState) (fresh : Fresh) : Prop :=
  (fresh.map (·.1)).Nodup ∧ ∀ t ∈ fresh.map (·.1), t ∉ s.heap.map (·.uid)

instance (s : RState) (fresh : Fresh) : Decidable (FreshOk s fresh) := by
  unfold FreshOk; infer_instance

def opFresh : ROp → Fresh
  | .construct _ _ _ _ f => f
  | .duplicate _ _ f => f
  | .dcReplace _ _ _ f => f
  | .replace _ _ _ _ f => f
  | .asObj _ _ f => f
  | _ => []

def isAsObj : ROp → Bool
  | .asObj _ _ _ => true
  | _ => false

/-- admissible operation (`step` does not check this) -/
def OpOk (s : RState) (op : ROp) : Prop := FreshOk s (opFresh op)

instance (s : RState) (op : ROp) : Decidable (OpOk s op) := by
  unfold OpOk; infer_instance

theorem regLive_empty : RegLive {} := fun _ _ h => nomatch h

theorem opOk_nil {s : RState} {op : ROp} (h : opFresh op = []) : OpOk s op := by
  simp [OpOk, FreshOk, h]

theorem inv_empty : Inv {} where
  keysNodup := by simp
  regId := by intro k u h; simp at h
  heapNodup := by simp
  regNotDetached := by intro k u h; simp at h
  detachedHeap := by intro u h; simp at h

/-! ### C03.1 the id of a new node is free -/

theorem freshId_free (s : RState) (base : Str) : s.freshId base ∉ s.reg.map (·.1) :=
  RegL.freshId_free s base

theorem id_fresh_is_base (s : RState) (base : Str) (h : s.regGet base = none) : s.freshId base = base :=
  RegL.id_fresh_is_base s base h

/-! ### C03.2 the primitives preserve the invariant -/

theorem mem_uids_iff {s : RState} {u : Nat} : u ∈ s.heap.map (·.uid) ↔ ∃ o ∈ s.heap, o.uid = u := by
  simp

theorem pNew_inv {s : RState} (h : Inv s) {u : Nat} (hu : u ∉ s.heap.map (·.uid))
    (cls : Str) (mro : List Str) (base : Str) (kids : List Nat) : Inv (s.pNew u cls mro base kids) where
  keysNodup := keysNodup_regSet _ _ h.keysNodup
  regId := by
    intro k u' hm
    simp only [pNew] at hm ⊢
    rcases mem_regSet.mp hm with ⟨hm', _⟩ | he
    · obtain ⟨o, ho, h1, h2⟩ := h.regId k u' hm'
      exact ⟨o, List.mem_append_left _ ho, h1, h2⟩
    · cases he
      exact ⟨_, List.mem_append_right _ (List.mem_singleton.mpr rfl), rfl, rfl⟩
  heapNodup := by
    simp only [pNew, List.map_append, List.map_cons, List.map_nil]
    rw [List.nodup_append]
    refine ⟨h.heapNodup, by simp, ?_⟩
    intro a ha b hb
    simp at hb
    subst hb
    intro e; subst e
    exact hu ha
  regNotDetached := by
    intro k u' hm
    simp only [pNew] at hm ⊢
    rcases mem_regSet.mp hm with ⟨hm', _⟩ | he
    · exact h.regNotDetached k u' hm'
    · cases he
      intro hd
      exact hu (h.detachedHeap _ hd)
  detachedHeap := by
    intro u' hd
    simp only [pNew, List.map_append, List.mem_append] at hd ⊢
    exact Or.inl (h.detachedHeap u' hd)

theorem key_of_mem {s : RState} (h : Inv s) {k : Str} {u : Nat} (hm : (k, u) ∈ s.reg) : s.idOf u = k := by
  obtain ⟨o, ho, rfl, rfl⟩ := h.regId k u hm
  exact idOf_of_mem h.heapNodup ho

theorem reg_functional {s : RState} (h : Inv s) {k : Str} {u u' : Nat} (h1 : (k, u) ∈ s.reg)
    (h2 : (k, u') ∈ s.reg) : u = u' := by
  have a := rget_of_mem h.keysNodup h1
  have b := rget_of_mem h.keysNodup h2
  rw [a] at b
  exact Option.some.inj b

theorem pDetachSelf_fst_heap (s : RState) (u : Nat) : (s.pDetachSelf u).1.heap = s.heap := by
  unfold pDetachSelf; split <;> rfl

theorem pDetachSelf_fst_roots (s : RState) (u : Nat) : (s.pDetachSelf u).1.roots = s.roots := by
  unfold pDetachSelf; split <;> rfl

theorem pDetachSelf_true {s : RState} {u : Nat} (h : (s.pDetachSelf u).2 = true) :
    s.regGet (s.idOf u) = some u ∧
    (s.pDetachSelf u).1 = { s with reg := regDel s.reg (s.idOf u), detached := u :: s.detached } := by
  unfold pDetachSelf at h ⊢
  split at h
  · rename_i hc
    simp only [hc, if_true, and_true]
    simpa using hc
  · cases h

theorem pDetachSelf_false {s : RState} {u : Nat} (h : (s.pDetachSelf u).2 = false) :
    s.regGet (s.idOf u) ≠ some u ∧ (s.pDetachSelf u).1 = s := by
  unfold pDetachSelf at h ⊢
  split at h
  · cases h
  · rename_i hc
    simp only [hc]
    exact ⟨by simpa using hc, by simp⟩

theorem pDetachSelf_inv {s : RState} (h : Inv s) (u : Nat) : Inv (s.pDetachSelf u).1 := by
  cases hb : (s.pDetachSelf u).2 with
  | false => rw [(pDetachSelf_false hb).2]; exact h
  | true =>
    obtain ⟨hreg, heq⟩ := pDetachSelf_true hb
    rw [heq]
    have hmem : (s.idOf u, u) ∈ s.reg := rget_some_mem hreg
    refine ⟨h.keysNodup.sublist (keys_regDel _ _), ?_, h.heapNodup, ?_, ?_⟩
    · intro k u' hm
      exact h.regId k u' (mem_regDel.mp hm).1
    · intro k u' hm
      obtain ⟨hm1, hm2⟩ := mem_regDel.mp hm
      simp only [List.mem_cons, not_or]
      refine ⟨?_, h.regNotDetached k u' hm1⟩
      intro e; subst e
      exact hm2 (key_of_mem h hm1).symm
    · intro u' hd
      simp only [List.mem_cons] at hd
      rcases hd with rfl | hd
      · obtain ⟨o, ho, h1, _⟩ := h.regId _ _ hmem
        exact mem_uids_iff.mpr ⟨o, ho, h1⟩
      · exact h.detachedHeap u' hd

theorem pRestore_inv {s : RState} (h : Inv s) {u : Nat} (hu : u ∈ s.heap.map (·.uid)) : Inv (s.pRestore u) where
  keysNodup := keysNodup_regSet _ _ h.keysNodup
  regId := by
    intro k u' hm
    simp only [pRestore] at hm ⊢
    rcases mem_regSet.mp hm with ⟨hm', _⟩ | he
    · exact h.regId k u' hm'
    · cases he
      obtain ⟨o, ho, rfl⟩ := mem_uids_iff.mp hu
      exact ⟨o, ho, rfl, (idOf_of_mem h.heapNodup ho).symm⟩
  heapNodup := h.heapNodup
  regNotDetached := by
    intro k u' hm
    simp only [pRestore] at hm ⊢
    rcases mem_regSet.mp hm with ⟨hm', _⟩ | he
    · intro hd; exact h.regNotDetached k u' hm' (List.mem_filter.mp hd).1
    · cases he; simp
  detachedHeap := by
    intro u' hd
    exact h.detachedHeap u' (List.mem_filter.mp hd).1

/-- the forced object must exist and not be detached: in `_deserialize` it was created and registered
just before -/
theorem pForceId_inv {s : RState} (h : Inv s) {u : Nat} (hu : u ∈ s.heap.map (·.uid)) (hd : u ∉ s.detached)
    (sid : Str) : Inv (s.pForceId u sid) where
  keysNodup := keysNodup_regSet _ _ (h.keysNodup.sublist (keys_regDel _ _))
  regId := by
    intro k u' hm
    simp only [pForceId] at hm ⊢
    rcases mem_regSet.mp hm with ⟨hm', _⟩ | he
    · obtain ⟨hm1, hm2⟩ := mem_regDel.mp hm'
      obtain ⟨o, ho, h1, h2⟩ := h.regId k u' hm1
      have hne : u' ≠ u := by
        intro e; subst e
        exact hm2 (key_of_mem h hm1).symm
      refine ⟨o, List.mem_map.mpr ⟨o, ho, ?_⟩, h1, h2⟩
      have : (o.uid == u) = false := by rw [h1]; simpa using hne
      simp [this]
    · cases he
      obtain ⟨o, ho, rfl⟩ := mem_uids_iff.mp hu
      exact ⟨{ o with id := sid }, List.mem_map.mpr ⟨o, ho, by simp⟩, rfl, rfl⟩
  heapNodup := by rw [pForceId_uids]; exact h.heapNodup
  regNotDetached := by
    intro k u' hm
    simp only [pForceId] at hm ⊢
    rcases mem_regSet.mp hm with ⟨hm', _⟩ | he
    · exact h.regNotDetached k u' (mem_regDel.mp hm').1
    · cases he; exact hd
  detachedHeap := by
    intro u' hd'
    rw [pForceId_uids]
    exact h.detachedHeap u' hd'

theorem gc_inv {s : RState} (h : Inv s) : Inv s.gc where
  keysNodup := h.keysNodup.sublist (List.filter_sublist.map _)
  regId := fun k u hm => h.regId k u (List.mem_filter.mp hm).1
  heapNodup := h.heapNodup
  regNotDetached := fun k u hm => h.regNotDetached k u (List.mem_filter.mp hm).1
  detachedHeap := h.detachedHeap

theorem inv_roots {s : RState} (h : Inv s) (r : List (Nat × Nat)) : Inv { s with roots := r } :=
  ⟨h.keysNodup, h.regId, h.heapNodup, h.regNotDetached, h.detachedHeap⟩

theorem reach_congr {s s' : RState} (hk : ∀ u, s.kidsOf u = s'.kidsOf u) :
    ∀ (fuel : Nat) (fr seen : List Nat), s.reach fuel fr seen = s'.reach fuel fr seen
  | 0, _, _ => by simp [reach]
  | fuel + 1, [], seen => by simp [reach]
  | fuel + 1, u :: rest, seen => by
    simp only [reach, hk u]
    split
    · exact reach_congr hk fuel rest seen
    · exact reach_congr hk fuel _ _

theorem live_congr {s s' : RState} (hh : s.heap = s'.heap) (hr : s.roots = s'.roots) : s.live = s'.live := by
  unfold live
  rw [reach_congr (s' := s') (fun u => by simp [kidsOf, obj?, hh]), hh, hr]

theorem isLive_congr {s s' : RState} (hh : s.heap = s'.heap) (hr : s.roots = s'.roots) (u : Nat) :
    s.isLive u = s'.isLive u := by
  unfold isLive; rw [live_congr hh hr]

theorem isLive_gc (s : RState) (u : Nat) : s.gc.isLive u = s.isLive u :=
  isLive_congr (s := s.gc) (s' := s) rfl rfl u

theorem gc_regLive (s : RState) : RegLive s.gc := by
  intro k u hm
  rw [isLive_gc]
  exact (List.mem_filter.mp hm).2

theorem gc_liveRegistered {s : RState} (h : LiveRegistered s) : LiveRegistered s.gc := by
  intro o ho hl hd
  rw [isLive_gc] at hl
  exact List.mem_filter.mpr ⟨h o ho hl hd, hl⟩

theorem gc_eq_self {s : RState} (h : RegLive s) : s.gc = s := by
  have : s.reg.filter (fun e => s.live.contains e.2) = s.reg := by
    rw [List.filter_eq_self]
    intro e he
    exact h e.1 e.2 he
  cases s
  simp only [gc] at this ⊢
  rw [this]

theorem regLive_of_gc_eq {s : RState} (h : s.gc = s) : RegLive s := by
  rw [← h]; exact gc_regLive s

theorem FreshOk.tail {s : RState} {tok : Nat} {base : Str} {fr : Fresh} (h : FreshOk s ((tok, base) :: fr))
    (cls : Str) (mro : List Str) (ks : List Nat) : FreshOk (s.pNew tok cls mro base ks) fr := by
  obtain ⟨h1, h2⟩ := h
  simp only [List.map_cons, List.nodup_cons] at h1
  refine ⟨h1.2, ?_⟩
  intro t ht
  simp only [pNew, List.map_append, List.map_cons, List.map_nil, List.mem_append, List.mem_singleton, not_or]
  refine ⟨h2 t (List.mem_cons_of_mem _ ht), ?_⟩
  intro e; subst e
  exact h1.1 ht

theorem FreshOk.head {s : RState} {tok : Nat} {base : Str} {fr : Fresh} (h : FreshOk s ((tok, base) :: fr)) :
    tok ∉ s.heap.map (·.uid) := h.2 tok (List.Mem.head _)

theorem evol_good {K L : Nat → Prop} {F C : Bool} {s f s1 f1} (h : Evol K L F C s f s1 f1) (hI : Inv s) (hf : FreshOk s f) :
    Inv s1 ∧ FreshOk s1 f1 := by
  induction h with
  | refl => exact ⟨hI, hf⟩
  | new _ cls mro ks hk hl ih =>
    obtain ⟨i1, f1⟩ := ih
    exact ⟨pNew_inv i1 f1.head _ _ _ _, f1.tail _ _ _⟩
  | @newForce s1 tok base fr hF _ cls mro ks hk hl sid hC ih =>
    obtain ⟨i1, f1⟩ := ih
    have i2 := pNew_inv i1 f1.head cls mro base ks
    have f2 := f1.tail cls mro ks
    have hmem : tok ∈ (s1.pNew tok cls mro base ks).heap.map (·.uid) := by simp [pNew]
    have hnd : tok ∉ (s1.pNew tok cls mro base ks).detached := fun hd => f1.head (i1.detachedHeap _ hd)
    refine ⟨pForceId_inv i2 hmem hnd sid, f2.1, ?_⟩
    intro t ht
    rw [pForceId_uids]
    exact f2.2 t ht

theorem detachAll_inv : ∀ (us : List Nat) {s : RState}, Inv s → Inv (detachAll s us)
  | [], _, h => h
  | c :: r, _, h => by rw [detachAll_cons]; exact detachAll_inv r (pDetachSelf_inv h c)

theorem detachAll_heap : ∀ (us : List Nat) (s : RState), (detachAll s us).heap = s.heap
  | [], _ => rfl
  | c :: r, s => by rw [detachAll_cons, detachAll_heap r, pDetachSelf_fst_heap]

theorem detachAll_roots : ∀ (us : List Nat) (s : RState), (detachAll s us).roots = s.roots
  | [], _ => rfl
  | c :: r, s => by rw [detachAll_cons, detachAll_roots r, pDetachSelf_fst_roots]

theorem pDetachSelf_reg_sub (s : RState) (c : Nat) : ∀ e ∈ (s.pDetachSelf c).1.reg, e ∈ s.reg := by
  intro e he
  cases hb : (s.pDetachSelf c).2 with
  | false => rw [(pDetachSelf_false hb).2] at he; exact he
  | true => rw [(pDetachSelf_true hb).2] at he; exact (mem_regDel.mp he).1

theorem pDetachSelf_reg {s : RState} (hI : Inv s) (x : Nat) :
    (s.pDetachSelf x).1.reg = s.reg.filter (fun e => e.2 != x) := by
  cases hb : (s.pDetachSelf x).2 with
  | false =>
    obtain ⟨hne, heq⟩ := pDetachSelf_false hb
    rw [heq]
    symm
    apply List.filter_eq_self.mpr
    intro e he
    simp only [bne_iff_ne, ne_eq]
    intro e2
    apply hne
    have : (e.1, x) ∈ s.reg := by rw [← e2]; exact he
    rw [key_of_mem hI this]
    exact rget_of_mem hI.keysNodup this
  | true =>
    obtain ⟨hreg, heq⟩ := pDetachSelf_true hb
    rw [heq]
    show regDel s.reg (s.idOf x) = s.reg.filter (fun e => e.2 != x)
    unfold regDel
    apply List.filter_congr
    intro e he
    have hxm := rget_some_mem hreg
    by_cases e1 : e.1 = s.idOf x
    · have h2 : (s.idOf x, e.2) ∈ s.reg := by rw [← e1]; exact he
      have := reg_functional hI h2 hxm
      simp [e1, this]
    · have : e.2 ≠ x := by
        intro e2
        have h2 : (e.1, x) ∈ s.reg := by rw [← e2]; exact he
        exact e1 (key_of_mem hI h2).symm
      have h1 : (e.1 != s.idOf x) = true := by simpa using e1
      have h2 : (e.2 != x) = true := by simpa using this
      rw [h1, h2]

theorem pDetachSelf_keeps {s : RState} (hI : Inv s) {e : Str × Nat} (he : e ∈ s.reg) {c : Nat}
    (hne : e.2 ≠ c) : e ∈ (s.pDetachSelf c).1.reg := by
  rw [pDetachSelf_reg hI]
  exact List.mem_filter.mpr ⟨he, by simpa using hne⟩

theorem pDetachSelf_unreg {s : RState} (hI : Inv s) (c : Nat) (k : Str) : (k, c) ∉ (s.pDetachSelf c).1.reg := by
  rw [pDetachSelf_reg hI]
  intro h
  simpa using (List.mem_filter.mp h).2

theorem detachAll_reg_sub : ∀ (us : List Nat) (s : RState), ∀ e ∈ (detachAll s us).reg, e ∈ s.reg
  | [], _, _, he => he
  | c :: r, s, e, he => pDetachSelf_reg_sub s c e (detachAll_reg_sub r _ e he)

theorem detachAll_keeps : ∀ (us : List Nat) {s : RState}, Inv s → ∀ {e : Str × Nat}, e ∈ s.reg → e.2 ∉ us →
    e ∈ (detachAll s us).reg
  | [], _, _, _, he, _ => he
  | c :: r, s, hI, e, he, hn => by
    rw [detachAll_cons]
    simp only [List.mem_cons, not_or] at hn
    exact detachAll_keeps r (pDetachSelf_inv hI c) (pDetachSelf_keeps hI he hn.1) hn.2

theorem detachAll_unreg : ∀ (us : List Nat) {s : RState}, Inv s → ∀ u ∈ us, ∀ k, (k, u) ∉ (detachAll s us).reg
  | [], _, _, u, hu, _ => by simp at hu
  | c :: r, s, hI, u, hu, k => by
    rw [detachAll_cons]
    by_cases hr : u ∈ r
    · exact detachAll_unreg r (pDetachSelf_inv hI c) u hr k
    · obtain rfl : u = c := (List.mem_cons.mp hu).resolve_right hr
      exact fun he => pDetachSelf_unreg hI u k (detachAll_reg_sub r _ _ he)

/-- the state a failing `replace` leaves before `gc` -/
def rollback (s : RState) (x : Nat) : RState :=
  if (s.pDetachSelf x).2 then (s.pDetachSelf x).1.pRestore x else (s.pDetachSelf x).1

theorem rollback_heap (s : RState) (x : Nat) :
    (rollback s x).heap = s.heap := by
  unfold rollback; split <;> exact pDetachSelf_fst_heap s x

theorem rollback_roots (s : RState) (x : Nat) :
    (rollback s x).roots = s.roots := by
  unfold rollback; split <;> exact pDetachSelf_fst_roots s x

theorem rollback_detached {s : RState} (hI : Inv s) (x : Nat) :
    (rollback s x).detached = s.detached := by
  unfold rollback
  cases hb : (s.pDetachSelf x).2 with
  | false => rw [if_neg Bool.false_ne_true, (pDetachSelf_false hb).2]
  | true =>
    obtain ⟨hreg, heq⟩ := pDetachSelf_true hb
    have hnd : x ∉ s.detached := hI.regNotDetached _ _ (rget_some_mem hreg)
    rw [if_pos rfl, heq]
    show (x :: s.detached).filter (· != x) = s.detached
    rw [List.filter_cons]
    simp only [bne_self_eq_false, Bool.false_eq_true, if_false]
    rw [List.filter_eq_self]
    intro a ha
    simp only [bne_iff_ne, ne_eq]
    intro e; subst e; exact hnd ha

theorem mem_rollback_reg {s : RState} (hI : Inv s) (x : Nat) {e : Str × Nat} :
    e ∈ (rollback s x).reg ↔ e ∈ s.reg := by
  unfold rollback
  cases hb : (s.pDetachSelf x).2 with
  | false => rw [if_neg Bool.false_ne_true, (pDetachSelf_false hb).2]
  | true =>
    obtain ⟨hreg, heq⟩ := pDetachSelf_true hb
    have hx : (s.idOf x, x) ∈ s.reg := rget_some_mem hreg
    rw [if_pos rfl, heq]
    show e ∈ regSet (regDel s.reg (s.idOf x)) (s.idOf x) x ↔ _
    rw [mem_regSet, mem_regDel]
    constructor
    · rintro (⟨⟨h, _⟩, _⟩ | rfl)
      · exact h
      · exact hx
    · intro he
      by_cases hk : e.1 = s.idOf x
      · have h2 : (s.idOf x, e.2) ∈ s.reg := by rw [← hk]; exact he
        exact Or.inr (Prod.ext hk (reg_functional hI h2 hx))
      · exact Or.inl ⟨⟨he, hk⟩, hk⟩

/-! ### C03.3 every operation preserves the invariant -/

/-- nothing is claimed for `as_obj`: its serialized children may be any registered object -/
def NewOk (s : RState) (op : ROp) (k : Nat) : Prop :=
  isAsObj op = true ∨ s.isLive k = true ∨ k ∈ (opFresh op).map (·.1)

/-- before the final `gc` every carried-out operation is the roll-back of a failing `replace`, or
`detach_self` on some objects, then an evolution, then a change of the variables -/
theorem pre_normal {s : RState} {op : ROp} {s1 : RState} (hp : Pre s op s1) :
    (∃ x, s1 = rollback s x) ∨
    ∃ us s' fr r,
      Evol (NewOk s op) (fun _ => True) (isAsObj op) (isAsObj op) (detachAll s us) (opFresh op) s' fr ∧
      s1 = { s' with roots := r } ∧ ∀ p ∈ r, p ∈ s'.roots ∨ NewOk s op p.2 := by
  have live : ∀ {kids : List Nat}, kids.all s.isLive = true → ∀ k ∈ kids, NewOk s op k :=
    fun hk k hk' => Or.inr (Or.inl (List.all_eq_true.mp hk k hk'))
  have bound : ∀ {s' : RState} {v u : Nat}, NewOk s op u → ∀ p ∈ (s'.bind v u).roots, p ∈ s'.roots ∨ NewOk s op p.2 :=
    fun hu p hp => (List.mem_append.mp hp).imp (fun h => (List.mem_filter.mp h).1)
      fun e => by rw [List.mem_singleton.mp e]; exact hu
  have same : ∀ {s' : RState}, ∀ p ∈ s'.roots, p ∈ s'.roots ∨ NewOk s op p.2 := fun p hp => Or.inl hp
  cases hp with
  | construct hk | dcReplace hx hk ho =>
    exact Or.inr ⟨[], _, _, _, .new (.refl s _) _ _ _ (live hk) trivial, rfl, bound (Or.inr (Or.inr (List.Mem.head _)))⟩
  | @duplicate v x fresh s' u hx h =>
    obtain ⟨hE, hu⟩ := dupAux_evolK (NewOk s (.duplicate v x fresh)) (fun _ => True) false _ _ _ _ _ _ _
      (fun t ht => Or.inr (Or.inr ht)) (fun _ _ => trivial) h
    exact Or.inr ⟨[], _, _, _, hE, rfl, bound hu⟩
  | @duplicateD v x fresh s' u e fr hx h =>
    exact Or.inr ⟨[], _, _, _, (dupAux_evolK (NewOk s (.duplicate v x fresh)) (fun _ => True) false _ _ _ _ _ _ _
      (fun t ht => Or.inr (Or.inr ht)) (fun _ _ => trivial) h).1, rfl, same⟩
  | @replaceFail v x kids hx hk => exact Or.inl ⟨x, rfl⟩
  | @replaceOk v x kids tok base o hx hk ho =>
    exact Or.inr ⟨[x], _, _, _, .new (.refl (detachAll s [x]) _) _ _ _ (live hk) trivial, rfl,
      bound (Or.inr (Or.inr (List.Mem.head _)))⟩
  | @detach x hx => exact Or.inr ⟨x :: s.descendants (s.heap.length + 1) x, _, _, _, .refl _ _, rfl, same⟩
  | @detachSelf x hx => exact Or.inr ⟨[x], _, _, _, .refl _ _, rfl, same⟩
  | asObj h => exact Or.inr ⟨[], _, _, _, (deserAux_evol _ _ _ _ _ _ h).mono fun _ _ => Or.inl rfl, rfl, bound (Or.inl rfl)⟩
  | asObjD h => exact Or.inr ⟨[], _, _, _, (deserAux_evol _ _ _ _ _ _ h).mono fun _ _ => Or.inl rfl, rfl, same⟩
  | alias hu => exact Or.inr ⟨[], _, _, _, .refl s _, rfl, bound (Or.inr (Or.inl hu))⟩
  | drop => exact Or.inr ⟨[], _, _, _, .refl s _, rfl, fun p hp => Or.inl (List.mem_filter.mp hp).1⟩

theorem freshOk_detachAll {s : RState} {f : Fresh} (h : FreshOk s f) (us : List Nat) : FreshOk (detachAll s us) f :=
  ⟨h.1, by rw [detachAll_heap]; exact h.2⟩

theorem inv_pre {s : RState} {op : ROp} {s1 : RState} (hI : Inv s) (hok : OpOk s op) (hp : Pre s op s1) :
    Inv s1 := by
  rcases pre_normal hp with ⟨x, rfl⟩ | ⟨us, s', fr, r, hE, rfl, _⟩
  · unfold rollback
    cases hb : (s.pDetachSelf x).2 with
    | false => rw [if_neg Bool.false_ne_true]; exact pDetachSelf_inv hI x
    | true =>
      rw [if_pos rfl]
      apply pRestore_inv (pDetachSelf_inv hI x)
      rw [pDetachSelf_fst_heap]
      obtain ⟨o, ho, h1, _⟩ := hI.regId _ _ (rget_some_mem (pDetachSelf_true hb).1)
      exact mem_uids_iff.mpr ⟨o, ho, h1⟩
  · exact inv_roots (evol_good hE (detachAll_inv us hI) (freshOk_detachAll hok us)).1 r

theorem inv_step {s : RState} {op : ROp} (hI : Inv s) (hok : OpOk s op) : Inv (s.step op).1 := by
  rcases step_shape s op with h | ⟨s1, hp, h⟩
  · rw [h]; exact hI
  · rw [h]; exact gc_inv (inv_pre hI hok hp)

/-- after any step every registered node is live (`RegLive` holds initially and is only ever
left untouched — rejected operations — or re-established by the final `gc`) -/
theorem regLive_step {s : RState} (op : ROp) (hq : RegLive s) : RegLive (s.step op).1 := by
  rcases step_shape s op with h | ⟨s1, _, h⟩
  · rw [h]; exact hq
  · rw [h]; exact gc_regLive s1

/-- states are quiescent after every step: `gc` is idempotent on them -/
theorem quiescent_step {s : RState} (op : ROp) (hq : s.gc = s) : (s.step op).1.gc = (s.step op).1 :=
  gc_eq_self (regLive_step op (regLive_of_gc_eq hq))

def run (s : RState) (ops : List ROp) : RState := ops.foldl (fun s o => (s.step o).1) s

/-- every operation of the history is admissible in the state it is applied to -/
def AllOk : RState → List ROp → Prop
  | _, [] => True
  | s, op :: r => OpOk s op ∧ AllOk (s.step op).1 r

instance : ∀ (s : RState) (ops : List ROp), Decidable (AllOk s ops)
  | _, [] => by unfold AllOk; infer_instance
  | s, op :: r => by
    unfold AllOk
    have := instDecidableAllOk (s.step op).1 r
    infer_instance

theorem inv_run_from : ∀ (ops : List ROp) (s : RState), Inv s → RegLive s → AllOk s ops →
    Inv (run s ops) ∧ RegLive (run s ops)
  | [], _, hI, hq, _ => ⟨hI, hq⟩
  | op :: r, _, hI, hq, hok => inv_run_from r _ (inv_step hI hok.1) (regLive_step op hq) hok.2

theorem inv_run (ops : List ROp) (hok : AllOk {} ops) :
    Inv (ops.foldl (fun s o => (s.step o).1) {}) :=
  (inv_run_from ops {} inv_empty regLive_empty hok).1

theorem regLive_run (ops : List ROp) (hok : AllOk {} ops) :
    RegLive (ops.foldl (fun s o => (s.step o).1) {}) :=
  (inv_run_from ops {} inv_empty regLive_empty hok).2

/-! ### C03.4 completeness: every live, not detached node is registered

Liveness is *computed* by `live`; its fuel always suffices (`RegL.live_complete`), so `isLive` is
exactly reachability from the roots. -/

theorem pDetachSelf_LR {s : RState} (hI : Inv s) (hL : LiveRegistered s) (x : Nat) :
    LiveRegistered (s.pDetachSelf x).1 := by
  cases hb : (s.pDetachSelf x).2 with
  | false => rw [(pDetachSelf_false hb).2]; exact hL
  | true =>
    obtain ⟨hreg, heq⟩ := pDetachSelf_true hb
    rw [heq]
    intro o ho hl hd
    have hl' : s.isLive o.uid = true := by
      rw [← hl]; exact isLive_congr (by rfl) (by rfl) _
    simp only [List.mem_cons, not_or] at hd
    have hm := hL o ho hl' hd.2
    refine mem_regDel.mpr ⟨hm, ?_⟩
    intro e
    have hx : (s.idOf x, x) ∈ s.reg := rget_some_mem hreg
    simp only at e
    rw [← e] at hx
    exact hd.1 (reg_functional hI hm hx)

theorem detachAll_LR : ∀ (us : List Nat) {s : RState}, Inv s → LiveRegistered s → LiveRegistered (detachAll s us)
  | [], _, _, h => h
  | c :: r, _, hI, h => by
    rw [detachAll_cons]; exact detachAll_LR r (pDetachSelf_inv hI c) (pDetachSelf_LR hI h c)

theorem pRestore_LR {s : RState} (hI : Inv s) (hL : LiveRegistered s) (x : Nat)
    (hfree : s.regGet (s.idOf x) = none ∨ s.regGet (s.idOf x) = some x) : LiveRegistered (s.pRestore x) := by
  intro o ho hl hd
  have hl' : s.isLive o.uid = true := by
    rw [← hl]; exact isLive_congr (by rfl) (by rfl) _
  have ho' : o ∈ s.heap := ho
  simp only [pRestore] at hd ⊢
  by_cases e : o.uid = x
  · apply mem_regSet.mpr; right
    rw [← e, idOf_of_mem hI.heapNodup ho']
  · have hnd : o.uid ∉ s.detached := by
      intro h; apply hd; exact List.mem_filter.mpr ⟨h, by simpa using e⟩
    have hm := hL o ho' hl' hnd
    apply mem_regSet.mpr; left
    refine ⟨hm, ?_⟩
    intro e'
    simp only at e'
    have hg : s.regGet o.id = some o.uid := rget_of_mem hI.keysNodup hm
    rw [e'] at hg
    rcases hfree with h | h
    · rw [h] at hg; cases hg
    · rw [h] at hg; exact e (Option.some.inj hg).symm

theorem kidsL_map (f : RObj → RObj) (hu : ∀ o, (f o).uid = o.uid) (hk : ∀ o, (f o).kids = o.kids) (a : Nat) :
    ∀ (heap : List RObj), kidsL (heap.map f) a = kidsL heap a
  | [] => rfl
  | o :: r => by
    have ih := kidsL_map f hu hk a r
    unfold kidsL at ih ⊢
    rw [List.map_cons, List.find?_cons, List.find?_cons, hu]
    cases (o.uid == a) with
    | true => simp [hk]
    | false => exact ih

theorem kidsL_map_id (u : Nat) (sid : Str) (a : Nat) (heap : List RObj) :
    kidsL (heap.map (fun o => if o.uid == u then { o with id := sid } else o)) a = kidsL heap a := by
  apply kidsL_map
  · intro o; split <;> rfl
  · intro o; split <;> rfl

theorem isLive_pForceId (s : RState) (u : Nat) (sid : Str) (w : Nat) :
    (s.pForceId u sid).isLive w = s.isLive w := by
  have hk : ∀ a, (s.pForceId u sid).kidsOf a = s.kidsOf a := by
    intro a; rw [kidsOf_def, kidsOf_def]; exact kidsL_map_id u sid a s.heap
  have hsum : ((s.pForceId u sid).heap.map (·.kids.length)).sum = (s.heap.map (·.kids.length)).sum := by
    simp only [pForceId, List.map_map]
    congr 1
    apply List.map_congr_left
    intro o _
    simp only [Function.comp]
    split <;> rfl
  unfold isLive live
  rw [reach_congr hk, hsum]
  rfl

/-- forcing the serialized id keeps completeness **only when `sid` is not a key of the registry
at that moment** (and the forced node is registered under its own id, or its id is free).
The excluded case is defect F19, see `asObj_evicts_live`. -/
theorem pForceId_LR {s : RState} (hI : Inv s) (hL : LiveRegistered s) {u : Nat}
    (hown : s.regGet (s.idOf u) = none ∨ s.regGet (s.idOf u) = some u)
    {sid : Str} (hsid : sid ∉ s.reg.map (·.1)) : LiveRegistered (s.pForceId u sid) := by
  intro o' ho' hl hd
  rw [isLive_pForceId] at hl
  simp only [pForceId] at ho' hd ⊢
  obtain ⟨o, ho, rfl⟩ := List.mem_map.mp ho'
  by_cases e : o.uid = u
  · have : (o.uid == u) = true := by simpa using e
    simp only [this, if_true]
    exact mem_regSet.mpr (Or.inr (by rw [e]))
  · have hb : (o.uid == u) = false := by simpa using e
    simp only [hb, Bool.false_eq_true, if_false] at hl hd ⊢
    have hm := hL o ho hl hd
    apply mem_regSet.mpr; left
    refine ⟨mem_regDel.mpr ⟨hm, ?_⟩, ?_⟩
    · intro e'
      simp only at e'
      have hg : s.regGet o.id = some o.uid := rget_of_mem hI.keysNodup hm
      rw [e'] at hg
      rcases hown with h | h
      · rw [h] at hg; cases hg
      · rw [h] at hg; exact e (Option.some.inj hg).symm
    · intro e'
      simp only at e'
      exact hsid (e' ▸ List.mem_map.mpr ⟨_, hm, rfl⟩)

theorem idOf_pNew {s : RState} {tok : Nat} (htok : tok ∉ s.heap.map (·.uid)) (cls : Str) (mro : List Str)
    (base : Str) (kids : List Nat) : (s.pNew tok cls mro base kids).idOf tok = s.freshId base := by
  simp [idOf, obj?, pNew, List.find?_append, Framing.find?_key_none (fun o : RObj => o.uid) htok]

theorem pNew_pForceId_keeps {s : RState} {tok : Nat} (htok : tok ∉ s.heap.map (·.uid)) (cls : Str) (mro : List Str)
    (base : Str) (ks : List Nat) {sid : Str} {e : Str × Nat} (he : e ∈ s.reg) (hs : e.1 ≠ sid) :
    e ∈ ((s.pNew tok cls mro base ks).pForceId tok sid).reg := by
  refine pForceId_keeps (pNew_keeps s tok cls mro base ks e he) ?_ hs
  rw [idOf_pNew htok]
  intro e'
  exact RegL.freshId_free s base (e' ▸ List.mem_map.mpr ⟨e, he, rfl⟩)

/-- what an evolution without id clashes does to heap and registry: old records are untouched,
new ones are registered under their id, no entry is lost -/
theorem evol_cases {K L : Nat → Prop} {F : Bool} {s f s1 f1} (h : Evol K L F false s f s1 f1)
    (hI : Inv s) (hf : FreshOk s f) :
    (∀ o ∈ s1.heap, o ∈ s.heap ∨ (o.uid ∈ f.map (·.1) ∧ (∀ k ∈ o.kids, K k) ∧ (o.id, o.uid) ∈ s1.reg)) ∧
    (∀ e ∈ s.reg, e ∈ s1.reg) := by
  induction h with
  | refl => exact ⟨fun o ho => Or.inl ho, fun e he => he⟩
  | @new s1 tok base fr hE cls mro ks hk hl ih =>
    refine ⟨fun o ho => ?_, fun e he => pNew_keeps _ _ _ _ _ _ e (ih.2 e he)⟩
    rcases List.mem_append.mp ho with ho' | ho'
    · exact (ih.1 o ho').imp_right fun ⟨h1, h2, h3⟩ => ⟨h1, h2, pNew_keeps _ _ _ _ _ _ _ h3⟩
    · obtain rfl := List.mem_singleton.mp ho'
      exact Or.inr ⟨hE.head_mem, hk, mem_regSet.mpr (Or.inr rfl)⟩
  | @newForce s1 tok base fr hF hE cls mro ks hk hl sid hC ih =>
    have htok : tok ∉ s1.heap.map (·.uid) := (evol_good hE hI hf).2.head
    have hkeep : ∀ e ∈ s1.reg, e ∈ ((s1.pNew tok cls mro base ks).pForceId tok sid).reg := fun e he =>
      pNew_pForceId_keeps htok cls mro base ks he fun e' =>
        hC rfl (e' ▸ List.mem_map.mpr ⟨e, pNew_keeps _ _ _ _ _ _ e he, rfl⟩)
    refine ⟨fun o3 ho3 => ?_, fun e he => hkeep e (ih.2 e he)⟩
    obtain ⟨o2, ho2, rfl⟩ := List.mem_map.mp ho3
    rcases List.mem_append.mp ho2 with ho' | ho'
    · have hne : (o2.uid == tok) = false :=
        beq_false_of_ne fun e => htok (e ▸ List.mem_map.mpr ⟨o2, ho', rfl⟩)
      simp only [hne, Bool.false_eq_true, if_false]
      exact (ih.1 o2 ho').imp_right fun ⟨h1, h2, h3⟩ => ⟨h1, h2, hkeep _ h3⟩
    · obtain rfl := List.mem_singleton.mp ho'
      simp only [beq_self_eq_true, if_true]
      exact Or.inr ⟨hE.head_mem, hk, mem_regSet.mpr (Or.inr rfl)⟩

theorem evol_new_id {K L : Nat → Prop} {F : Bool} {s f s1 f1} (h : Evol K L F false s f s1 f1)
    (hI : Inv s) (hf : FreshOk s f) :
    ∀ o ∈ s1.heap, o ∈ s.heap ∨ ((o.id, o.uid) ∈ s1.reg ∧ o.id ∉ s.reg.map (·.1)) := by
  obtain ⟨hc1, hc2⟩ := evol_cases h hI hf
  intro o ho
  refine (hc1 o ho).imp_right fun ⟨ht, _, hr⟩ => ⟨hr, fun hm => ?_⟩
  obtain ⟨e, he, hk⟩ := List.mem_map.mp hm
  have h2 : (o.id, e.2) ∈ s1.reg := by rw [← hk]; exact hc2 e he
  obtain ⟨o', ho', hu, _⟩ := hI.regId e.1 e.2 he
  rw [reg_functional (evol_good h hI hf).1 h2 hr] at hu
  exact hf.2 _ ht (List.mem_map.mpr ⟨o', ho', hu⟩)

theorem evol_LR {L : Nat → Prop} {F : Bool} {s : RState} {f : Fresh} {s1 : RState} {f1 : Fresh} (hI : Inv s)
    (hf : FreshOk s f) (hL : LiveRegistered s)
    (hE : Evol (fun k => s.isLive k = true ∨ k ∈ f.map (·.1)) L F false s f s1 f1)
    (roots' : List (Nat × Nat)) (hr : ∀ r ∈ roots', s.isLive r.2 = true ∨ r.2 ∈ f.map (·.1)) :
    LiveRegistered { s1 with roots := roots' } := by
  obtain ⟨hc1, hc2⟩ := evol_cases hE hI hf
  have hI1 := (evol_good hE hI hf).1
  intro o ho hl hd
  have ho' : o ∈ s1.heap := ho
  have hP : s.isLive o.uid = true ∨ o.uid ∈ f.map (·.1) := by
    refine isLive_ind (fun a => s.isLive a = true ∨ a ∈ f.map (·.1)) hr ?_ hl
    intro a ha b hb
    rw [kidsOf_def] at hb
    have hb : b ∈ kidsL s1.heap a := hb
    by_cases hm : a ∈ s1.heap.map (·.uid)
    · obtain ⟨oa, hoa, rfl⟩ := List.mem_map.mp hm
      have hk1 : kidsL s1.heap oa.uid = oa.kids := kidsOf_of_mem (s := s1) hI1.heapNodup hoa
      rw [hk1] at hb
      rcases hc1 oa hoa with h | ⟨_, h2, _⟩
      · have hk0 : s.kidsOf oa.uid = oa.kids := kidsOf_of_mem hI.heapNodup h
        rcases ha with ha | ha
        · left; exact isLive_kid hI.heapNodup ha (by rw [hk0]; exact hb)
        · exact absurd (List.mem_map.mpr ⟨oa, h, rfl⟩) (hf.2 _ ha)
      · exact h2 b hb
    · rw [kidsL_of_not_mem hm] at hb; simp at hb
  show (o.id, o.uid) ∈ s1.reg
  rcases hc1 o ho' with h | ⟨_, _, h3⟩
  · have hl' : s.isLive o.uid = true := by
      rcases hP with h' | h'
      · exact h'
      · exact absurd (List.mem_map.mpr ⟨o, h, rfl⟩) (hf.2 _ h')
    have hd' : o.uid ∉ s.detached := by rw [← hE.detached]; exact hd
    exact hc2 _ (hL o h hl' hd')
  · exact h3

theorem liveRegistered_pre {s : RState} {op : ROp} {s1 : RState} (hI : Inv s) (hok : OpOk s op)
    (hL : LiveRegistered s) (hp : Pre s op s1) (hop : isAsObj op = false) :
    LiveRegistered s1 := by
  rcases pre_normal hp with ⟨x, rfl⟩ | ⟨us, s', fr, r, hE, rfl, hr⟩
  · unfold rollback
    cases hb : (s.pDetachSelf x).2 with
    | false => rw [if_neg Bool.false_ne_true]; exact pDetachSelf_LR hI hL x
    | true =>
      rw [if_pos rfl]
      apply pRestore_LR (pDetachSelf_inv hI x) (pDetachSelf_LR hI hL x)
      left
      rw [(pDetachSelf_true hb).2]
      show rget (regDel s.reg (s.idOf x)) (s.idOf x) = none
      rw [rget_regDel]; simp
  · have hI0 := detachAll_inv us hI
    have hK : ∀ k, NewOk s op k → (detachAll s us).isLive k = true ∨ k ∈ (opFresh op).map (·.1) := fun k h => by
      rw [isLive_congr (detachAll_heap us s) (detachAll_roots us s)]
      exact h.resolve_left (by rw [hop]; exact Bool.false_ne_true)
    rw [hop] at hE
    refine evol_LR hI0 (freshOk_detachAll hok us) (detachAll_LR us hI hL) (hE.mono hK) r fun p hp => ?_
    exact (hr p hp).elim (fun h => Or.inl (isLive_root hI0.heapNodup (hE.roots ▸ h))) (hK p.2)

/-- completeness is preserved by every operation except `as_obj` (defect F19, see
`asObj_evicts_live` below) -/
theorem liveRegistered_step_partial {s : RState} {op : ROp} (hI : Inv s) (hok : OpOk s op)
    (hL : LiveRegistered s) (hop : isAsObj op = false) :
    LiveRegistered (s.step op).1 := by
  rcases step_shape s op with h | ⟨s1, hp, h⟩
  · rw [h]; exact hL
  · rw [h]; exact gc_liveRegistered (liveRegistered_pre hI hok hL hp hop)

/-! ### C03.5 a `replace()` that raises leaves the registry as it was -/

theorem replace_fail_frame {s : RState} (hI : Inv s) (hq : s.gc = s) (v x : Nat) (kids : List Nat) :
    (∀ k, ((s.step (.replace v x kids true [])).1).regGet k = s.regGet k) ∧
    (s.step (.replace v x kids true [])).1.heap = s.heap ∧
    (s.step (.replace v x kids true [])).1.roots = s.roots ∧
    (s.step (.replace v x kids true [])).1.detached = s.detached := by
  rcases step_shape s (.replace v x kids true []) with h | ⟨s1, hp, h⟩
  · rw [h]; exact ⟨fun _ => rfl, rfl, rfl, rfl⟩
  · rw [h]
    cases hp with
    | replaceFail hx hk =>
      have hI1 := inv_pre hI (op := .replace v x kids true []) ⟨List.nodup_nil, fun _ ht => nomatch ht⟩
        (Pre.replaceFail hx hk)
      -- every entry of the rolled-back registry is an old one, hence of a live object: `gc` removes nothing
      have hrl : RegLive (rollback s x) :=
        fun k u hm => by
          rw [isLive_congr (rollback_heap s x) (rollback_roots s x)]
          exact regLive_of_gc_eq hq k u ((mem_rollback_reg hI x).mp hm)
      show (∀ k, (rollback s x).gc.regGet k = _) ∧ (rollback s x).gc.heap = _ ∧ (rollback s x).gc.roots = _ ∧
        (rollback s x).gc.detached = _
      rw [gc_eq_self hrl]
      exact ⟨rget_congr hI1.keysNodup (fun _ => mem_rollback_reg hI x), rollback_heap s x, rollback_roots s x,
        rollback_detached hI x⟩

theorem replace_fail_raised {s : RState} (v x : Nat) (kids : List Nat)
    (hx : s.isLive x = true) (hk : kids.all s.isLive = true) :
    (s.step (.replace v x kids true [])).2 = .raised := by
  unfold step; simp [hx, hk]

/-! ### C03.6 lookups -/

theorem getAny_eq (s : RState) (k : Str) : s.getAny k = s.regGet k := rfl

theorem get_sound {s : RState} {cls k : Str} {strict : Bool} {u : Nat} (h : s.get cls k strict = some u) :
    s.regGet k = some u ∧ ∃ o, s.obj? u = some o ∧ (if strict then o.cls = cls else cls ∈ o.mro) := by
  unfold RState.get at h
  split at h
  · cases h
  · rename_i u' hg
    split at h
    · cases h
    · rename_i o ho
      cases strict with
      | true =>
        simp only [if_true] at h
        split at h
        · rename_i hc; cases h; exact ⟨hg, o, ho, by simpa using hc⟩
        · cases h
      | false =>
        simp only [Bool.false_eq_true, if_false] at h
        split at h
        · rename_i hc; cases h; exact ⟨hg, o, ho, by simpa using hc⟩
        · cases h

/-- under the invariant, `get` returns a node that carries the requested id -/
theorem get_id {s : RState} (hI : Inv s) {cls k : Str} {strict : Bool} {u : Nat}
    (h : s.get cls k strict = some u) : s.idOf u = k :=
  key_of_mem hI (rget_some_mem (get_sound h).1)

/-- no forced id clashes with a key of the registry (only `as_obj` can) -/
def noClash (s : RState) : ROp → Bool
  | .asObj _ t fresh => !clashAux s t fresh
  | _ => true

theorem liveRegistered_pre_asObj {s : RState} {v : Nat} {t : SerTree} {fresh : Fresh} {s1 : RState}
    (hI : Inv s) (hok : OpOk s (.asObj v t fresh)) (hq : RegLive s)
    (hL : LiveRegistered s) (hp : Pre s (.asObj v t fresh) s1) (hnc : clashAux s t fresh = false) :
    LiveRegistered s1 := by
  have hK : ∀ e ∈ s.reg, s.isLive e.2 = true ∨ e.2 ∈ fresh.map (·.1) := fun e he => Or.inl (hq e.1 e.2 he)
  cases hp with
  | @asObj _ _ _ s' u h =>
    obtain ⟨hE, hKu⟩ := deserAux_evolK (fun k => s.isLive k = true ∨ k ∈ fresh.map (·.1)) _ _ _ _ _ _
      (fun t ht => Or.inr ht) hK hnc h
    refine evol_LR hI hok hL hE _ ?_
    intro r hr
    simp only [List.mem_append, List.mem_singleton] at hr
    rcases hr with hr | rfl
    · rw [hE.roots] at hr
      exact Or.inl (isLive_root hI.heapNodup (List.mem_filter.mp hr).1)
    · exact hKu
  | @asObjD _ _ _ _ u e fr h =>
    obtain ⟨hE, _⟩ := deserAux_evolK (fun k => s.isLive k = true ∨ k ∈ fresh.map (·.1)) _ _ _ _ _ _
      (fun t ht => Or.inr ht) hK hnc h
    refine evol_LR hI hok hL hE s1.roots ?_
    intro r hr
    rw [hE.roots] at hr
    exact Or.inl (isLive_root hI.heapNodup hr)

/-- **completeness is preserved by every operation**, `as_obj` included provided no forced id
clashes with a key of the registry at that moment (`noClash`, the negation of defect F19) -/
theorem liveRegistered_step {s : RState} {op : ROp} (hI : Inv s) (hok : OpOk s op)
    (hq : RegLive s) (hL : LiveRegistered s) (hnc : noClash s op = true) :
    LiveRegistered (s.step op).1 := by
  rcases step_shape s op with h | ⟨s1, hp, h⟩
  · rw [h]; exact hL
  · rw [h]
    apply gc_liveRegistered
    cases hop : isAsObj op with
    | false => exact liveRegistered_pre hI hok hL hp hop
    | true =>
      cases op with
      | asObj v t fresh =>
        exact liveRegistered_pre_asObj hI hok hq hL hp (by simpa [noClash] using hnc)
      | _ => cases hop

/-- admissibility along a history for the completeness theorem: fresh tokens and no id clash in
`as_obj` (decidable) -/
def AllOkK : RState → List ROp → Prop
  | _, [] => True
  | s, op :: r => OpOk s op ∧ noClash s op = true ∧ AllOkK (s.step op).1 r

theorem liveRegistered_run_from : ∀ (ops : List ROp) (s : RState), Inv s → RegLive s → LiveRegistered s →
    AllOkK s ops → LiveRegistered (run s ops)
  | [], _, _, _, hL, _ => hL
  | op :: r, _, hI, hq, hL, hok =>
    liveRegistered_run_from r _ (inv_step hI hok.1) (regLive_step op hq)
      (liveRegistered_step hI hok.1 hq hL hok.2.1) hok.2.2

theorem liveRegistered_run (ops : List ROp) (hok : AllOkK {} ops) : LiveRegistered (run {} ops) :=
  liveRegistered_run_from ops {} inv_empty regLive_empty (by intro o ho; simp at ho) hok

instance (s : RState) : Decidable (LiveRegistered s) := by unfold LiveRegistered; infer_instance
instance (s : RState) : Decidable (RegLive s) :=
  decidable_of_iff (∀ e ∈ s.reg, s.isLive e.2 = true)
    ⟨fun h k u hm => h (k, u) hm, fun h e he => h e.1 e.2 he⟩

instance instDecidableAllOkK : ∀ (s : RState) (ops : List ROp), Decidable (AllOkK s ops)
  | _, [] => by unfold AllOkK; infer_instance
  | s, op :: r => by
    unfold AllOkK
    have := instDecidableAllOkK (s.step op).1 r
    infer_instance

/-! ### non-vacuity: content-identical twins -/

section Examples

private def A : Str := "A".toList
private def ab : Str := "ab".toList

/-- two twins (same digest `ab`), the second detached, a third twin re-uses the freed suffix id,
a second `detach_self` of the detached twin must not evict it; finally the first twin dies -/
def twins : List ROp :=
  [ .construct 0 A [A] [] [(100, ab)],
    .construct 1 A [A] [] [(101, ab)],
    .detachSelf 101,
    .construct 2 A [A] [] [(102, ab)],
    .detachSelf 101,
    .drop 0 ]

def outs (s : RState) : List ROp → List ROut
  | [] => []
  | op :: r => (s.step op).2 :: outs (s.step op).1 r

example : AllOk {} twins := by decide +kernel
example : AllOkK {} twins := by decide +kernel
example : outs {} twins = [.ok (some 100) none, .ok (some 101) none, .ok none (some true),
    .ok (some 102) none, .ok none (some false), .ok none none] := by decide +kernel
example : (run {} (twins.take 2)).reg = [(ab, 100), ("ab_1".toList, 101)] := by decide +kernel
example : (run {} (twins.take 3)).reg = [(ab, 100)] := by decide +kernel
example : (run {} (twins.take 5)).reg = [(ab, 100), ("ab_1".toList, 102)] := by decide +kernel
example : (run {} twins).reg = [("ab_1".toList, 102)] := by decide +kernel
example : (run {} twins).get A "ab_1".toList true = some 102 := by decide +kernel
example : LiveRegistered (run {} twins) ∧ RegLive (run {} twins) := by decide +kernel

/-! F19: `as_obj` of a parent serialized with the same id as its (formerly detached) child:
the child is created, takes the id, and is evicted when the parent's id is forced. -/

private def x : Str := "x".toList
def f19 : ROp := .asObj 0 (.mk x A [A] [.mk x A [A] []]) [(1, "a".toList), (2, "b".toList)]

theorem asObj_evicts_live :
    OpOk {} f19 ∧ LiveRegistered {} ∧ noClash {} f19 = false ∧
    ¬ LiveRegistered (({} : RState).step f19).1 := by decide +kernel

/-- a consistent serialization (distinct ids) deserializes without clash, ids forced -/
def roundTrip : ROp := .asObj 0 (.mk x A [A] [.mk "y".toList A [A] []]) [(1, "a".toList), (2, "b".toList)]
example : noClash {} roundTrip = true ∧ AllOkK {} [roundTrip, .drop 0] ∧
    (({} : RState).step roundTrip).1.reg = [("y".toList, 1), (x, 2)] := by decide +kernel

example : (({} : RState).step f19).1.reg = [(x, 2)] ∧ (({} : RState).step f19).1.isLive 1 = true := by decide +kernel

/-! A node listing the same child many times: `c` (token 2) is only reachable through `b`, whose
children list holds `a` 13 times before `c`.  The fuel of `live` counts children lists, not objects
(a fuel `heap.length * (heap.length + 1) + roots.length + 1` would miss `c`), so `c` stays live and
registered, also after an unrelated node is created. -/

def longKids : List ROp :=
  [ .construct 0 A [A] [] [(1, "a".toList)],
    .construct 1 A [A] [] [(2, "c".toList)],
    .construct 2 A [A] (List.replicate 13 1 ++ [2]) [(3, "b".toList)],
    .drop 1 ]

def longKidsOp : ROp := .construct 3 A [A] [] [(4, "d".toList)]

example :
    AllOkK {} (longKids ++ [longKidsOp]) ∧ (run {} longKids).isLive 2 = true ∧
    (run {} longKids).regGet "c".toList = some 2 ∧
    LiveRegistered (run {} longKids) ∧ LiveRegistered ((run {} longKids).step longKidsOp).1 := by decide +kernel

end Examples

end C03
end PyOak

#print axioms PyOak.C03.freshId_free
#print axioms PyOak.C03.id_fresh_is_base
#print axioms PyOak.C03.pNew_inv
#print axioms PyOak.C03.pDetachSelf_inv
#print axioms PyOak.C03.pRestore_inv
#print axioms PyOak.C03.pForceId_inv
#print axioms PyOak.C03.pForceId_LR
#print axioms PyOak.C03.gc_inv
#print axioms PyOak.C03.gc_regLive
#print axioms PyOak.C03.gc_liveRegistered
#print axioms PyOak.C03.inv_step
#print axioms PyOak.C03.regLive_step
#print axioms PyOak.C03.inv_run
#print axioms PyOak.C03.regLive_run
#print axioms PyOak.C03.liveRegistered_step_partial
#print axioms PyOak.C03.liveRegistered_step
#print axioms PyOak.C03.liveRegistered_run
#print axioms PyOak.C03.replace_fail_frame
#print axioms PyOak.C03.replace_fail_raised
#print axioms PyOak.C03.get_sound
#print axioms PyOak.C03.asObj_evicts_live
