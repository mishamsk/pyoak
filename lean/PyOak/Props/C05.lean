/-
C05 — Traversals visit exactly the descendants, in order, with exact position info.

Specification (`preN`, `postN`, `level`) is the textbook structural recursion over the tree;
the theorems say that the stack/deque/queue loops of the implementation-shaped model
(`Model/Traverse.lean`) compute exactly that, for every tree, every prune and filter predicate
and both directions, and that the fuel handed to the loops is sufficient.
-/
import PyOak.Model.Traverse
import PyOak.Lemmas.Framing
namespace PyOak
namespace C05

variable (P F : Item → Bool)

/-! ### Specification -/

mutual
/-- pre-order below (and including) the position `⟨n, par, e⟩` -/
def preN (par : Node) (e : Edge) (n : Node) : List Item :=
  match n with
  | .mk h ks =>
    let it : Item := ⟨.mk h ks, par, e⟩
    (if F it then [it] else []) ++ (if P it then [] else preKs (.mk h ks) ks)
termination_by structural n
def preKs (par : Node) (ks : List Kid) : List Item :=
  match ks with
  | [] => []
  | k :: r => preK par k ++ preKs par r
termination_by structural ks
def preK (par : Node) (k : Kid) : List Item :=
  match k with
  | .mk name coll ns => preNs par name coll 0 ns
termination_by structural k
def preNs (par : Node) (name : Str) (coll : Bool) (i : Nat) (ns : List Node) : List Item :=
  match ns with
  | [] => []
  | n :: r => preN par ⟨name, if coll then some i else none⟩ n ++ preNs par name coll (i + 1) r
termination_by structural ns
end

mutual
/-- post-order below (and including) the position `⟨n, par, e⟩` -/
def postN (par : Node) (e : Edge) (n : Node) : List Item :=
  match n with
  | .mk h ks =>
    let it : Item := ⟨.mk h ks, par, e⟩
    (if P it then [] else postKs (.mk h ks) ks) ++ (if F it then [it] else [])
termination_by structural n
def postKs (par : Node) (ks : List Kid) : List Item :=
  match ks with
  | [] => []
  | k :: r => postK par k ++ postKs par r
termination_by structural ks
def postK (par : Node) (k : Kid) : List Item :=
  match k with
  | .mk name coll ns => postNs par name coll 0 ns
termination_by structural k
def postNs (par : Node) (name : Str) (coll : Bool) (i : Nat) (ns : List Node) : List Item :=
  match ns with
  | [] => []
  | n :: r => postN par ⟨name, if coll then some i else none⟩ n ++ postNs par name coll (i + 1) r
termination_by structural ns
end

/-- `dfs()` must be: pre-order of the proper descendants of `n` -/
def pre (n : Node) : List Item := preKs P F n n.kids
/-- `dfs(bottom_up=True)` must be: post-order of the proper descendants of `n` -/
def post (n : Node) : List Item := postKs P F n n.kids

/-- children positions of the not-pruned members of a level -/
def nextLevel (lvl : List Item) : List Item :=
  (lvl.filter (fun it => !P it)).flatMap (·.node.items)

/-- the positions at depth `k + 1` below `n` that are reachable without crossing a pruned one -/
def level (n : Node) : Nat → List Item
  | 0 => n.items
  | k + 1 => nextLevel P (level n k)

/-- `bfs()` must be: the levels one after the other, filtered -/
def bfs (n : Node) : List Item :=
  ((List.range n.size).flatMap (level P n)).filter F

/-! ### helper lemmas -/

def preItems (its : List Item) : List Item := its.flatMap fun it => preN P F it.parent it.edge it.node
def postItems (its : List Item) : List Item := its.flatMap fun it => postN P F it.parent it.edge it.node

def weight (its : List Item) : Nat := (its.map (·.node.size)).sum

@[simp] theorem weight_nil : weight [] = 0 := rfl
@[simp] theorem weight_cons (a : Item) (l : List Item) : weight (a :: l) = a.node.size + weight l := by
  simp [weight]
@[simp] theorem weight_append (a b : List Item) : weight (a ++ b) = weight a + weight b := by
  simp [weight]
@[simp] theorem weight_reverse (a : List Item) : weight a.reverse = weight a := by
  simp [weight]

theorem size_le_weight {it : Item} {l : List Item} (h : it ∈ l) : it.node.size ≤ weight l := by
  induction l with
  | nil => cases h
  | cons a r ih =>
    rw [weight_cons]
    rcases List.mem_cons.mp h with rfl | h
    · omega
    · have := ih h; omega

theorem weight_zero_nil (q : List Item) (h : weight q = 0) : q = [] := by
  cases q with
  | nil => rfl
  | cons it q => have := it.node.size_pos; rw [weight_cons] at h; omega

theorem kid_edges_eq (name : Str) (coll : Bool) (ns : List Node) :
    Kid.edges (.mk name coll ns) =
      (enumFrom 0 ns).map fun p => (p.2, ⟨name, if coll then some p.1 else none⟩) := by
  cases coll
  · have h : ∀ i, (enumFrom i ns).map (fun p => (p.2, (⟨name, none⟩ : Edge))) =
        ns.map fun n => (n, ⟨name, none⟩) := by
      induction ns with
      | nil => intro i; rfl
      | cons n r ih => intro i; simp only [enumFrom, List.map_cons, ih]
    simp only [Kid.edges, Bool.false_eq_true, if_false, h]
  · rfl

theorem kid_edges_nodes (k : Kid) : k.edges.map (·.1) = k.nodes := by
  cases k with
  | mk name coll ns =>
    rw [kid_edges_eq, List.map_map]
    exact Framing.enumFrom_map_snd 0 ns

theorem enumFrom_map_size (i : Nat) (ns : List Node) :
    ((enumFrom i ns).map (fun p => p.2.size)).sum = nodesSize ns := by
  induction ns generalizing i with
  | nil => rfl
  | cons n r ih => simp only [enumFrom, nodesSize, List.map_cons, List.sum_cons, ih]

theorem enumFrom_edges_nodup (name : Str) (i : Nat) (ns : List Node) :
    ((enumFrom i ns).map fun p => (⟨name, some p.1⟩ : Edge)).Nodup := by
  have := Framing.enumFrom_fst_nodup i ns
  rw [List.Nodup, List.pairwise_map] at this ⊢
  exact this.imp fun h he => h (Option.some.inj (Edge.mk.inj he).2)

theorem kid_edges_weight (k : Kid) : ((k.edges).map (·.1.size)).sum = k.size := by
  cases k with
  | mk name coll ns =>
    rw [kid_edges_eq, List.map_map]
    exact enumFrom_map_size 0 ns

theorem edges_weight (ks : List Kid) :
    ((ks.flatMap Kid.edges).map (·.1.size)).sum = kidsSize ks := by
  induction ks with
  | nil => rfl
  | cons k r ih =>
    simp only [kidsSize, List.flatMap_cons, List.map_append, List.sum_append, kid_edges_weight, ih]

theorem weight_items (n : Node) : weight n.items + 1 = n.size := by
  cases n with
  | mk h ks =>
    have := edges_weight ks
    simp only [weight, Node.items, Node.edges, Node.kids, Node.size, List.map_map,
      Function.comp_def] at *
    omega

theorem walkKs_eq {g : Node → Edge → Node → List Item}
    {gNs : Node → Str → Bool → Nat → List Node → List Item} {gK : Node → Kid → List Item}
    {gKs : Node → List Kid → List Item}
    (hNs0 : ∀ par name coll i, gNs par name coll i [] = [])
    (hNs1 : ∀ par name coll i n r, gNs par name coll i (n :: r) =
      g par ⟨name, if coll then some i else none⟩ n ++ gNs par name coll (i + 1) r)
    (hK : ∀ par name coll ns, gK par (.mk name coll ns) = gNs par name coll 0 ns)
    (hKs0 : ∀ par, gKs par [] = []) (hKs1 : ∀ par k r, gKs par (k :: r) = gK par k ++ gKs par r)
    (par : Node) (ks : List Kid) :
    gKs par ks = (ks.flatMap Kid.edges).flatMap fun ce => g par ce.2 ce.1 := by
  have hNs : ∀ name coll ns i, gNs par name coll i ns =
      ((enumFrom i ns).map fun p => (p.2, (⟨name, if coll then some p.1 else none⟩ : Edge))).flatMap
        fun ce => g par ce.2 ce.1 := by
    intro name coll ns
    induction ns with
    | nil => intro i; rw [hNs0]; rfl
    | cons n r ih => intro i; rw [hNs1, ih]; rfl
  induction ks with
  | nil => exact hKs0 par
  | cons k r ih =>
    cases k with
    | mk name coll ns => rw [hKs1, hK, hNs, ih, List.flatMap_cons, List.flatMap_append, kid_edges_eq]

theorem pre_eq_preItems (n : Node) : pre P F n = preItems P F n.items := by
  have := walkKs_eq (g := preN P F) (gNs := preNs P F) (gK := preK P F) (gKs := preKs P F)
    (fun _ _ _ _ => rfl) (fun _ _ _ _ _ _ => rfl) (fun _ _ _ _ => rfl) (fun _ => rfl)
    (fun _ _ _ => rfl) n n.kids
  simpa only [pre, preItems, Node.items, Node.edges, List.flatMap_map] using this

theorem post_eq_postItems (n : Node) : post P F n = postItems P F n.items := by
  have := walkKs_eq (g := postN P F) (gNs := postNs P F) (gK := postK P F) (gKs := postKs P F)
    (fun _ _ _ _ => rfl) (fun _ _ _ _ _ _ => rfl) (fun _ _ _ _ => rfl) (fun _ => rfl)
    (fun _ _ _ => rfl) n n.kids
  simpa only [post, postItems, Node.items, Node.edges, List.flatMap_map] using this

theorem preN_unfold (it : Item) :
    preN P F it.parent it.edge it.node =
      (if F it then [it] else []) ++ (if P it then [] else preItems P F it.node.items) := by
  obtain ⟨⟨h, ks⟩, par, e⟩ := it
  rw [← pre_eq_preItems]; rfl

theorem postN_unfold (it : Item) :
    postN P F it.parent it.edge it.node =
      (if P it then [] else postItems P F it.node.items) ++ (if F it then [it] else []) := by
  obtain ⟨⟨h, ks⟩, par, e⟩ := it
  rw [← post_eq_postItems]; rfl

/-- children contributed by one work-list element -/
def kidsOf (it : Item) : List Item := if P it then [] else it.node.items

theorem mem_kidsOf {it c : Item} : c ∈ kidsOf P it ↔ P it = false ∧ c ∈ it.node.items := by
  cases h : P it <;> simp [kidsOf, h]

theorem weight_kidsOf (it : Item) : weight (kidsOf P it) + 1 ≤ it.node.size := by
  have := weight_items it.node
  unfold kidsOf
  split
  · exact it.node.size_pos
  · omega

theorem preItems_cons (it : Item) (st : List Item) :
    preItems P F (it :: st) =
      (if F it then [it] else []) ++ preItems P F (kidsOf P it) ++ preItems P F st := by
  simp only [preItems, List.flatMap_cons]
  rw [preN_unfold]; unfold kidsOf; cases P it <;> rfl

theorem postItems_cons (it : Item) (st : List Item) :
    postItems P F (it :: st) =
      postItems P F (kidsOf P it) ++ (if F it then [it] else []) ++ postItems P F st := by
  simp only [postItems, List.flatMap_cons]
  rw [postN_unfold]; unfold kidsOf; cases P it <;> rfl

theorem preItems_append (a b : List Item) :
    preItems P F (a ++ b) = preItems P F a ++ preItems P F b := List.flatMap_append

theorem postItems_append (a b : List Item) :
    postItems P F (a ++ b) = postItems P F a ++ postItems P F b := List.flatMap_append

/-- induction over a work list: what the head puts on the list, then the tail -/
theorem items_induction {motive : List Item → Prop} (nil : motive [])
    (cons : ∀ it st, motive (kidsOf P it) → motive st → motive (it :: st)) :
    ∀ its, motive its := by
  intro its
  generalize hk : weight its = k
  induction k using Nat.strongRecOn generalizing its with
  | _ k ih =>
    cases its with
    | nil => exact nil
    | cons it st =>
      have := weight_kidsOf P it
      rw [weight_cons] at hk
      exact cons it st (ih _ (by omega) _ rfl) (ih _ (by omega) _ rfl)

theorem postItems_perm_preItems (its : List Item) :
    (postItems P F its).Perm (preItems P F its) := by
  induction its using items_induction P with
  | nil => exact .refl _
  | cons it st ih1 ih2 =>
    rw [postItems_cons, preItems_cons]
    exact (List.perm_append_comm.trans (ih1.append_left _)).append ih2

theorem preItems_forall {Q : Item → Prop}
    (hQ : ∀ it, Q it → P it = false → ∀ c ∈ it.node.items, Q c) (its : List Item)
    (h : ∀ it ∈ its, Q it) : ∀ x ∈ preItems P F its, Q x := by
  induction its using items_induction P with
  | nil => intro x hx; cases hx
  | cons it st ih1 ih2 =>
    intro x hx
    rw [preItems_cons, List.mem_append, List.mem_append] at hx
    have hit := h it List.mem_cons_self
    rcases hx with (hx | hx) | hx
    · split at hx
      · rw [List.mem_singleton.mp hx]; exact hit
      · cases hx
    · exact ih1 (fun c hc => hQ it hit ((mem_kidsOf P).mp hc).1 c ((mem_kidsOf P).mp hc).2) x hx
    · exact ih2 (fun i hi => h i (List.mem_cons_of_mem _ hi)) x hx

theorem dfsLoop_cons (b : Bool) (fuel : Nat) (it : Item) (stack queue : List Item) :
    dfsLoop P F b (fuel + 1) (it :: stack) queue =
      dfsLoop P F b fuel ((if b then (kidsOf P it).reverse else kidsOf P it) ++ stack)
        (if F it then (if b then it :: queue else queue ++ [it]) else queue) := by
  cases h : P it <;> cases b <;> simp [dfsLoop, kidsOf, h]

theorem dfsLoop_eq (b : Bool) (fuel : Nat) (stack queue : List Item) (h : weight stack ≤ fuel) :
    dfsLoop P F b fuel stack queue =
      if b then postItems P F stack.reverse ++ queue else queue ++ preItems P F stack := by
  induction fuel generalizing stack queue with
  | zero =>
    rw [weight_zero_nil stack (by omega)]
    cases b <;> simp [dfsLoop, preItems, postItems]
  | succ fuel ih =>
    cases stack with
    | nil => cases b <;> simp [dfsLoop, preItems, postItems]
    | cons it st =>
      have := weight_kidsOf P it
      rw [weight_cons] at h
      rw [dfsLoop_cons, ih _ _ (by cases b <;> simp <;> omega)]
      cases b
      · simp only [Bool.false_eq_true, if_false, preItems_append, preItems_cons]
        split <;> simp
      · simp only [if_true, List.reverse_append, List.reverse_reverse, List.reverse_cons,
          postItems_append, postItems_cons]
        split <;> simp [postItems]

theorem dfsLoop_topdown (fuel : Nat) (stack queue : List Item) (h : weight stack ≤ fuel) :
    dfsLoop P F false fuel stack queue = queue ++ preItems P F stack :=
  dfsLoop_eq P F false fuel stack queue h

theorem dfsLoop_bottomup (fuel : Nat) (stack queue : List Item) (h : weight stack ≤ fuel) :
    dfsLoop P F true fuel stack queue = postItems P F stack.reverse ++ queue :=
  dfsLoop_eq P F true fuel stack queue h

/-! ### C05 theorems: depth-first -/

/-- `dfs()` is the pre-order of the proper descendants, honouring prune and filter. -/
theorem dfs_top_down (n : Node) : dfsImpl P F false n = pre P F n := by
  have hw := weight_items n
  rw [dfsImpl, dfsLoop_topdown P F _ _ _ (by simp only [Bool.false_eq_true, if_false]; omega),
    pre_eq_preItems]
  rfl

/-- `dfs(bottom_up=True)` is the post-order of the proper descendants. -/
theorem dfs_bottom_up (n : Node) : dfsImpl P F true n = post P F n := by
  have hw := weight_items n
  rw [dfsImpl, dfsLoop_bottomup P F _ _ _ (by simp only [if_true, weight_reverse]; omega),
    post_eq_postItems]
  simp

/-- `gather` is the pre-order stream restricted to the class test and the extra filter. -/
theorem gather_eq (classes : List Str) (exact : Bool) (extra : Item → Bool) (n : Node) :
    gatherImpl classes exact extra P n =
      (pre P (fun it => (if exact then classes.contains it.node.cls
                         else classes.any it.node.isInst) && extra it) n).map (·.node) := by
  simp only [gatherImpl, dfs_top_down]

/-! ### breadth-first -/

theorem bfsLoop_cons (fuel : Nat) (it : Item) (q : List Item) :
    bfsLoop P F (fuel + 1) (it :: q) =
      (if F it then [it] else []) ++ bfsLoop P F fuel (q ++ kidsOf P it) := by
  cases h : P it <;> cases hF : F it <;> simp [bfsLoop, kidsOf, h, hF]

theorem bfsLoop_filter (fuel : Nat) (q : List Item) :
    bfsLoop P F fuel q = (bfsLoop P (fun _ => true) fuel q).filter F := by
  induction fuel generalizing q with
  | zero => rfl
  | succ fuel ih =>
    cases q with
    | nil => rfl
    | cons it q =>
      rw [bfsLoop_cons, bfsLoop_cons, ih]
      cases hF : F it <;> simp [hF]

theorem nextLevel_cons (it : Item) (q : List Item) :
    nextLevel P (it :: q) = kidsOf P it ++ nextLevel P q := by
  cases h : P it <;> simp [nextLevel, kidsOf, h]

@[simp] theorem nextLevel_nil : nextLevel P [] = [] := rfl

theorem weight_nextLevel (q : List Item) : weight (nextLevel P q) + q.length ≤ weight q := by
  induction q with
  | nil => exact Nat.le_refl _
  | cons it q ih =>
    have := weight_kidsOf P it
    rw [nextLevel_cons, weight_append, weight_cons, List.length_cons]; omega

/-- enough fuel: the result does not depend on the amount -/
theorem bfsLoop_fuel (f1 f2 : Nat) (q : List Item) (h1 : weight q ≤ f1) (h2 : weight q ≤ f2) :
    bfsLoop P (fun _ => true) f1 q = bfsLoop P (fun _ => true) f2 q := by
  induction f1 generalizing f2 q with
  | zero => rw [weight_zero_nil q (by omega)]; cases f2 <;> rfl
  | succ f1 ih =>
    cases q with
    | nil => cases f2 <;> rfl
    | cons it q =>
      have hp := it.node.size_pos
      have hk := weight_kidsOf P it
      rw [weight_cons] at h1 h2
      cases f2 with
      | zero => omega
      | succ f2 =>
        rw [bfsLoop_cons, bfsLoop_cons,
          ih f2 (q ++ kidsOf P it) (by rw [weight_append]; omega) (by rw [weight_append]; omega)]

/-- the fuel-free reading of the loop -/
def bfsFrom (q : List Item) : List Item := bfsLoop P (fun _ => true) (weight q) q

theorem bfsFrom_cons (it : Item) (q : List Item) : bfsFrom P (it :: q) = it :: bfsFrom P (q ++ kidsOf P it) := by
  have hk := weight_kidsOf P it
  obtain ⟨w, hw⟩ : ∃ w, weight (it :: q) = w + 1 := ⟨weight (it :: q) - 1, by rw [weight_cons]; omega⟩
  rw [bfsFrom, hw, bfsLoop_cons]
  rw [weight_cons] at hw
  exact congrArg _ (bfsLoop_fuel P _ _ _ (by rw [weight_append]; omega) (Nat.le_refl _))

theorem bfsFrom_append (q r : List Item) : bfsFrom P (q ++ r) = q ++ bfsFrom P (r ++ nextLevel P q) := by
  induction q generalizing r with
  | nil => simp
  | cons it q ih =>
    rw [List.cons_append, bfsFrom_cons, List.append_assoc, ih, nextLevel_cons, List.append_assoc,
      List.cons_append]

theorem bfsFrom_level (q : List Item) : bfsFrom P q = q ++ bfsFrom P (nextLevel P q) := by
  simpa using bfsFrom_append P q []

/-- iterating `nextLevel` -/
def levelFrom (q : List Item) : Nat → List Item
  | 0 => q
  | k + 1 => nextLevel P (levelFrom q k)

theorem levelFrom_succ (q : List Item) (k : Nat) : levelFrom P q (k + 1) = levelFrom P (nextLevel P q) k := by
  induction k with
  | zero => rfl
  | succ k ih => simp only [levelFrom] at *; rw [ih]

theorem bfsFrom_levels (k : Nat) (q : List Item) (h : weight q ≤ k) :
    bfsFrom P q = (List.range (k + 1)).flatMap (levelFrom P q) := by
  induction k generalizing q with
  | zero => rw [weight_zero_nil q (by omega)]; rfl
  | succ k ih =>
    have hw : weight (nextLevel P q) ≤ k := by
      cases q with
      | nil => exact Nat.zero_le _
      | cons it q => have := weight_nextLevel P (it :: q); rw [List.length_cons] at this; omega
    rw [bfsFrom_level, ih _ hw, List.range_succ_eq_map (n := k + 1), List.flatMap_cons, List.flatMap_map]
    simp only [levelFrom_succ, Nat.succ_eq_add_one]
    rfl

theorem level_eq_levelFrom (n : Node) : level P n = levelFrom P n.items := by
  funext k
  induction k with
  | zero => rfl
  | succ k ih => simp only [level, levelFrom, ih]

theorem bfsImpl_eq_bfsFrom (n : Node) : bfsImpl P F n = (bfsFrom P n.items).filter F := by
  have hw := weight_items n
  rw [bfsImpl, bfsLoop_filter, bfsLoop_fuel P n.size (weight n.items) _ (by omega) (Nat.le_refl _)]
  rfl

/-- `bfs()` yields the levels one after the other (each level in the order induced by the
previous one), skipping the children of pruned positions, and filtered. -/
theorem bfs_levels (n : Node) : bfsImpl P F n = bfs P F n := by
  have hw := weight_items n
  rw [bfsImpl_eq_bfsFrom, bfsFrom_levels P (n.size - 1) n.items (by omega), bfs,
    show n.size - 1 + 1 = n.size by omega, level_eq_levelFrom]

/-! ### position soundness, start node never yielded, exactly-once -/

theorem mem_items_iff (p : Node) (x : Item) :
    x ∈ p.items ↔ x.parent = p ∧ (x.node, x.edge) ∈ p.edges := by
  constructor
  · intro h
    obtain ⟨⟨c, e⟩, hce, rfl⟩ := List.mem_map.mp h
    exact ⟨rfl, hce⟩
  · rintro ⟨rfl, h⟩
    exact List.mem_map.mpr ⟨(x.node, x.edge), h, rfl⟩

theorem items_parent (n : Node) (it : Item) (h : it ∈ n.items) : it.parent = n :=
  ((mem_items_iff n it).mp h).1

theorem items_sound (n : Node) : ∀ it ∈ n.items, (it.node, it.edge) ∈ it.parent.edges :=
  fun it h => (items_parent n it h).symm ▸ ((mem_items_iff n it).mp h).2

theorem items_size (n : Node) (it : Item) (h : it ∈ n.items) : it.node.size < n.size := by
  have := size_le_weight h
  have := weight_items n
  omega

/-- position soundness of `dfs()` for every prune / filter: every yielded
`(node, parent, field, index)` is a real storage position of the parent, `parent.field` (at `index`
for tuples, index `None` otherwise) is that very node -/
theorem dfs_yield_sound (n : Node) (x : Item) (hx : x ∈ dfsImpl P F false n) :
    (x.node, x.edge) ∈ x.parent.edges := by
  rw [dfs_top_down, pre_eq_preItems] at hx
  exact preItems_forall P F (fun it _ _ => items_sound it.node) _ (items_sound n) x hx

/-- every yielded node is strictly smaller than the start node: the start node is never yielded -/
theorem dfs_never_yields_start (n : Node) (x : Item) (hx : x ∈ dfsImpl P F false n) :
    x.node.size < n.size := by
  rw [dfs_top_down, pre_eq_preItems] at hx
  exact preItems_forall P F (Q := fun x => x.node.size < n.size)
    (fun it hit _ c hc => Nat.lt_trans (items_size it.node c hc) hit) _ (items_size n) x hx

theorem preItems_length (its : List Item) :
    (preItems (fun _ => false) (fun _ => true) its).length = weight its := by
  induction its using items_induction (fun _ => false) with
  | nil => rfl
  | cons it st ih1 ih2 =>
    have : weight (kidsOf (fun _ => false) it) + 1 = it.node.size := weight_items it.node
    rw [preItems_cons, List.length_append, List.length_append, ih1, ih2, weight_cons]
    simp only [if_true, List.length_singleton]; omega

/-- without prune and filter every proper-descendant position is yielded exactly once:
the stream has exactly `size - 1` elements (together with soundness and order this is the
"exactly once" clause) -/
theorem dfs_all_positions (n : Node) :
    (dfsImpl (fun _ => false) (fun _ => true) false n).length + 1 = n.size := by
  rw [dfs_top_down, pre_eq_preItems, preItems_length]
  exact weight_items n

/-- post-order lists the same positions in another order: same length -/
theorem postItems_length (its : List Item) :
    (postItems (fun _ => false) (fun _ => true) its).length = weight its :=
  (postItems_perm_preItems _ _ its).length_eq.trans (preItems_length its)

/-! ### non-vacuity: a concrete tree with a tuple, a single child and a pruned position -/

private def leaf (u : Nat) : Node := .mk { uid := u, cls := ['L'], mro := [['L']], org := ⟨0, []⟩, props := [], truthy := true } []
private def tree : Node :=
  .mk { uid := 0, cls := ['R'], mro := [['R']], org := ⟨0, []⟩, props := [], truthy := true }
    [.mk ['a'] true [leaf 1, .mk { uid := 2, cls := ['M'], mro := [['M']], org := ⟨0, []⟩, props := [], truthy := false }
                                  [.mk ['x'] false [leaf 3]]],
     .mk ['b'] false [leaf 4]]

example : (dfsImpl (fun _ => false) (fun _ => true) false tree).map (·.node.uid) = [1, 2, 3, 4] := by decide
example : (dfsImpl (fun _ => false) (fun _ => true) true tree).map (·.node.uid) = [1, 3, 2, 4] := by decide
example : (dfsImpl (fun it => it.node.uid == 2) (fun _ => true) false tree).map (·.node.uid) = [1, 2, 4] := by decide
example : (bfsImpl (fun _ => false) (fun _ => true) tree).map (·.node.uid) = [1, 2, 4, 3] := by decide

end C05
end PyOak
