/-
C16 — serialization options apply to the whole call and to nothing after it.

Theorems about the executable model `PyOak/Model/SerOpts.lean` (the functions the driver runs
against the real pyoak on every check).  For all global states, calls, histories, option
subsets and object trees; no size bounds.

  §1 `reset_afterF`, `reset_after`, `seq_independent`; §3 `serObj_allMaps`, the induction that the
  shape theorems instantiate with §4 `hookShape_post`, `allMapsF_post`: §5–8 `untagged_all`,
  `tagged_all`, `explorer_lists_child_fields`, `sorted_all`; §9 `nested_same_options`;
  §10 `deser_sees_call_state`; §11 the unrepaired hook (F15, F23); §12 sample trees.
-/
import PyOak.Model.SerOptsF
import PyOak.Lemmas.Framing
namespace PyOak
namespace C16
open SerOpts

/-! ## 1. the globals are back to default after every call, whatever its outcome

Proved of `callF` (Model/SerOptsF.lean: the slots threaded through a body whose hooks may write
them or raise, wrapper `enter; tryFin body resetM`); `call`, which returns the literal `{}` in both
arms, is `callF` with the library's own hooks (`callF_eq_call`). -/

mutual
theorem serValM_noHook (v : SVal) (g : G) : serValM noHook v g = (g, serVal g v) := by
  match v with
  | .atom d c => rfl
  | .seq xs =>
    simp only [serValM, serVal, serValsM_noHook xs g]
    cases serVals g xs <;> rfl
  | .obj o => exact serObjM_noHook o g
  | .bomb => rfl
theorem serValsM_noHook (xs : List SVal) (g : G) : serValsM noHook xs g = (g, serVals g xs) := by
  match xs with
  | [] => rfl
  | x :: r =>
    simp only [serValsM, serVals, serValM_noHook x g]
    cases serVal g x with
    | error e => rfl
    | ok j =>
      simp only [serValsM_noHook r g]
      cases serVals g r <;> rfl
theorem serObjM_noHook (o : SObj) (g : G) : serObjM noHook o g = (g, serObj g o) := by
  match o with
  | .empty => rfl
  | .mk kind cls idx fields cn =>
    simp only [serObjM, serObj, noHook, M.pure]
    split
    · rfl
    · simp only [serFieldsM_noHook fields g]
      cases serFields g fields <;> rfl
theorem serFieldsM_noHook (fs : List SField) (g : G) : serFieldsM noHook fs g = (g, serFields g fs) := by
  match fs with
  | [] => rfl
  | f :: r =>
    simp only [serFieldsM, serFields, serFieldM_noHook f g]
    cases serField g f with
    | error e => rfl
    | ok jf =>
      simp only [serFieldsM_noHook r g]
      cases serFields g r <;> rfl
theorem serFieldM_noHook (f : SField) (g : G) : serFieldM noHook f g = (g, serField g f) := by
  match f with
  | .mk n v =>
    simp only [serFieldM, serField, serValM_noHook v g]
    cases serVal g v <;> rfl
end

mutual
theorem deserM_noDHook (d : DJ) (g : G) : deserM noDHook d g = (g, deser g d) := by
  match d with
  | .plain => rfl
  | .int c => simp only [deserM, deser]; split <;> rfl
  | .bad => rfl
  | .node p xs =>
    simp only [deserM, deser, noDHook, M.pure, deserLM_noDHook xs g]
    cases deserL g xs <;> rfl
theorem deserLM_noDHook (ds : List DJ) (g : G) : deserLM noDHook ds g = (g, deserL g ds) := by
  match ds with
  | [] => rfl
  | x :: r =>
    simp only [deserLM, deserL, deserM_noDHook x g]
    cases deser g x with
    | error e => rfl
    | ok l =>
      simp only [deserLM_noDHook r g]
      cases deserL g r <;> rfl
end

/-- the body of a call neither writes the globals nor depends on anything but the entered state:
the assumption "the body is a function of the entered state" of Model/SerOpts.lean, derived -/
theorem bodyM_noHook (inp : Input) (g : G) : bodyM noHook noDHook inp g = (g, body g inp) := by
  cases inp with
  | ser o => simp only [bodyM, body, serObjM_noHook o g]; cases serObj g o <;> rfl
  | deser d => simp only [bodyM, body, deserM_noDHook d g]; cases deser g d <;> rfl
  | unparsable => rfl

theorem tryFin_resetM {α : Type} (body : M α) (g : G) : tryFin body resetM g = ({}, (body g).2) :=
  rfl

theorem tryFin_reset {α : Type} (body : M α) (g : G) : (tryFin body resetM g).1 = {} := rfl

theorem tryFin_outcome {α : Type} (body : M α) (g : G) :
    (tryFin body resetM g).2 = (body g).2 := rfl

theorem callF_of_parsable (hook : Hook) (dhook : DHook) (g : G) (c : Call)
    (h : c.input ≠ .unparsable) :
    callF hook dhook g c = tryFin (bodyM hook dhook c.input) resetM (enter g c) := by
  unfold callF
  split
  · contradiction
  · rfl

theorem callF_unparsable (hook : Hook) (dhook : DHook) (g : G) (c : Call) (h : c.input = .unparsable) :
    callF hook dhook g c = (g, .error ()) := by
  unfold callF; rw [h]

/-- **Every call that reaches the wrapper leaves the two slots at their defaults** — for every user
hook (one that assigns the globals, one that raises, at any nested object), every state the call
was entered in, serialization and deserialization alike.  This is `reset_after` with content: it
holds because `callF` runs the reset in a `finally` (compare `callNoFinally_fails`). -/
theorem reset_afterF (hook : Hook) (dhook : DHook) (g : G) (c : Call) (h : c.input ≠ .unparsable) :
    (callF hook dhook g c).1 = {} := by
  rw [callF_of_parsable hook dhook g c h, tryFin_reset]

/-- `_hr` is not used: the `finally` runs on every exit -/
theorem reset_after_raiseF (hook : Hook) (dhook : DHook) (g : G) (c : Call) (e : Unit)
    (h : c.input ≠ .unparsable) (_hr : (callF hook dhook g c).2 = .error e) :
    (callF hook dhook g c).1 = {} := reset_afterF hook dhook g c h

theorem callF_outcome (hook : Hook) (dhook : DHook) (g : G) (c : Call) (h : c.input ≠ .unparsable) :
    (callF hook dhook g c).2 = (bodyM hook dhook c.input (enter g c)).2 := by
  rw [callF_of_parsable hook dhook g c h, tryFin_outcome]

theorem callF_default_state (hook : Hook) (dhook : DHook) (c : Call) : (callF hook dhook {} c).1 = {} := by
  by_cases h : c.input = .unparsable
  · rw [callF_unparsable hook dhook {} c h]
  · exact reset_afterF hook dhook {} c h

theorem seqF_independent (hook : Hook) (dhook : DHook) (cs : List Call) :
    runSeqF hook dhook {} cs = (cs.map fun c => ((callF hook dhook {} c).2, ({} : G)), {}) := by
  induction cs with
  | nil => rfl
  | cons c r ih =>
    have h : callF hook dhook {} c = ({}, (callF hook dhook {} c).2) :=
      Prod.ext (callF_default_state hook dhook c) rfl
    simp only [runSeqF, List.map_cons]
    rw [h, ih]

/-- **`SerOpts.call` = `callF` with the library's own hooks**: same final state, same outcome. -/
theorem callF_eq_call (g : G) (c : Call) : callF noHook noDHook g c = call g c := by
  unfold callF call
  generalize c.input = inp
  cases inp with
  | unparsable => rfl
  | _ => dsimp only; rw [tryFin_resetM, bodyM_noHook]; cases body (enter g c) _ <;> rfl

theorem runSeqF_eq_runSeq (g : G) (cs : List Call) : runSeqF noHook noDHook g cs = runSeq g cs := by
  induction cs generalizing g with
  | nil => rfl
  | cons c r ih => simp only [runSeqF, runSeq, callF_eq_call, ih]

theorem call_of_parsable (g : G) (c : Call) (h : c.input ≠ .unparsable) :
    call g c = ({}, body (enter g c) c.input) := by
  rw [← callF_eq_call, callF_of_parsable _ _ g c h, tryFin_resetM, bodyM_noHook]

/-- text that the front end rejects never reaches the wrapper: state untouched, call raises -/
theorem call_unparsable (g : G) (c : Call) (h : c.input = .unparsable) :
    call g c = (g, .error ()) := by
  rw [← callF_eq_call]; exact callF_unparsable _ _ g c h

/-- Every call whose input reaches the wrapper leaves the two slots at their defaults,
whether the body returned or raised (at any nested object). -/
theorem reset_after (g : G) (c : Call) (h : c.input ≠ .unparsable) : (call g c).1 = {} := by
  rw [← callF_eq_call]; exact reset_afterF _ _ g c h

/-- `_hr` is not used: the reset does not depend on the outcome -/
theorem reset_after_raise (g : G) (c : Call) (e : Unit) (h : c.input ≠ .unparsable)
    (_hr : (call g c).2 = .error e) : (call g c).1 = {} := reset_after g c h

theorem call_outcome (g : G) (c : Call) : (call g c).2 = body (enter g c) c.input := by
  by_cases h : c.input = .unparsable
  · rw [call_unparsable g c h, h]; rfl
  · rw [call_of_parsable g c h]

theorem update_empty (o : Opts) : Opts.update {} o = o := by
  cases o with
  -- each field of `update {} o` is `match o.f with | some b => some b | none => none`
  | mk a b c d => cases a <;> cases b <;> cases c <;> cases d <;> rfl

theorem enter_default (c : Call) :
    enter {} c = { opts := c.opts.getD {}, md := effMd c.kind c.md } := by
  unfold enter
  cases c.opts with
  | none => rfl
  | some o => simp only [update_empty, Option.getD_some]

/-- In a history started from the default state, every call behaves as if it were the only one:
its outcome is the outcome of that call from the default state, and the state after it is the
default state. -/
theorem seq_independent (cs : List Call) :
    runSeq {} cs = (cs.map fun c => ((call {} c).2, ({} : G)), {}) := by
  rw [← runSeqF_eq_runSeq, seqF_independent]
  simp only [callF_eq_call]

theorem seq_final_default (cs : List Call) : (runSeq {} cs).2 = {} := by
  rw [seq_independent]

/-- the outcome of a call from the default state is a function of its own arguments: the body
run under exactly the options and dialect the call was given -/
theorem call_depends_on_own_args (c : Call) :
    (call {} c).2 = body { opts := c.opts.getD {}, md := effMd c.kind c.md } c.input := by
  rw [call_outcome, enter_default]

/-! ## 2. order on keys, sorting -/

theorem strLt_irrefl (a : Str) : strLt a a = false := Framing.strLt_irrefl a

abbrev SortedK (ks : List Str) : Prop := ks.Pairwise fun a b => strLt b a = false

theorem mem_sortKeys (y : JF) (l : List JF) : y ∈ sortKeys l ↔ y ∈ l := Framing.mem_sortBy _ l y

theorem sorted_sortKeys (l : List JF) : SortedK (keys (sortKeys l)) :=
  List.pairwise_map.2 (Framing.sortBy_pairwise (fun a b : JF => strLt a.key b.key)
    (fun _ _ => Framing.strLt_asymm _ _) (fun _ _ _ => Framing.strLt_negtrans _ _ _) l)

/-! ## 3. "every nested mapping": predicates over the output tree and over the object tree -/

mutual
/-- every mapping nested in the output (the output itself included) satisfies `P` -/
def AllMaps (P : List JF → Prop) : J → Prop
  | .str _ => True
  | .lit _ => True
  | .arr xs => AllMapsL P xs
  | .map fs => P fs ∧ AllMapsF P fs
def AllMapsL (P : List JF → Prop) : List J → Prop
  | [] => True
  | x :: r => AllMaps P x ∧ AllMapsL P r
def AllMapsF (P : List JF → Prop) : List JF → Prop
  | [] => True
  | f :: r => AllMapsJF P f ∧ AllMapsF P r
def AllMapsJF (P : List JF → Prop) : JF → Prop
  | .mk _ v => AllMaps P v
end

theorem allMapsF_iff (P : List JF → Prop) (l : List JF) :
    AllMapsF P l ↔ ∀ f ∈ l, AllMaps P f.val := by
  induction l with
  | nil => simp [AllMapsF]
  | cons f r ih => cases f; simp [AllMapsF, AllMapsJF, ih, JF.val]

theorem allObj_mk (w : SObj → Bool) (k : Kind) (c : Str) (i : Nat) (fs : List SField)
    (cn : List Str) :
    allObj w (.mk k c i fs cn) = true ↔ w (.mk k c i fs cn) = true ∧ allObjFs w fs = true :=
  Bool.and_eq_true_iff

theorem allObjFs_cons (w : SObj → Bool) (f : SField) (r : List SField) :
    allObjFs w (f :: r) = true ↔ allObjF w f = true ∧ allObjFs w r = true := Bool.and_eq_true_iff

theorem allObjVs_cons (w : SObj → Bool) (x : SVal) (r : List SVal) :
    allObjVs w (x :: r) = true ↔ allObjV w x = true ∧ allObjVs w r = true := Bool.and_eq_true_iff

mutual
theorem allObj_true (o : SObj) : allObj (fun _ => true) o = true := by
  match o with
  | .empty => rfl
  | .mk k c i fs cn => exact (allObj_mk _ k c i fs cn).2 ⟨rfl, allObjFs_true fs⟩
theorem allObjFs_true (fs : List SField) : allObjFs (fun _ => true) fs = true := by
  match fs with
  | [] => rfl
  | f :: r => exact (allObjFs_cons _ f r).2 ⟨allObjF_true f, allObjFs_true r⟩
theorem allObjF_true (f : SField) : allObjF (fun _ => true) f = true := by
  match f with
  | .mk _ v => exact allObjV_true v
theorem allObjV_true (v : SVal) : allObjV (fun _ => true) v = true := by
  match v with
  | .atom _ _ => rfl
  | .seq xs => exact allObjVs_true xs
  | .obj o => exact allObj_true o
  | .bomb => rfl
theorem allObjVs_true (xs : List SVal) : allObjVs (fun _ => true) xs = true := by
  match xs with
  | [] => rfl
  | x :: r => exact (allObjVs_cons _ x r).2 ⟨allObjV_true x, allObjVs_true r⟩
end

theorem serVal_seq_ok {g : G} {xs : List SVal} {j : J} :
    serVal g (.seq xs) = .ok j ↔ ∃ js, serVals g xs = .ok js ∧ .arr js = j := by
  rw [serVal]; cases serVals g xs <;> simp

theorem serVals_cons_ok {g : G} {x : SVal} {r : List SVal} {js : List J} :
    serVals g (x :: r) = .ok js ↔
      ∃ j js', serVal g x = .ok j ∧ serVals g r = .ok js' ∧ j :: js' = js := by
  rw [serVals]; cases serVal g x <;> cases serVals g r <;> simp

theorem serField_ok {g : G} {n : Str} {v : SVal} {jf : JF} :
    serField g (.mk n v) = .ok jf ↔ ∃ j, serVal g v = .ok j ∧ .mk n j = jf := by
  rw [serField]; cases serVal g v <;> simp

theorem serFields_cons_ok {g : G} {f : SField} {r : List SField} {d : List JF} :
    serFields g (f :: r) = .ok d ↔
      ∃ jf d', serField g f = .ok jf ∧ serFields g r = .ok d' ∧ jf :: d' = d := by
  rw [serFields]; cases serField g f <;> cases serFields g r <;> simp

theorem serObj_idx {g : G} {kind : Kind} (cls : Str) (idx : Nat) (fs : List SField)
    (cn : List Str) (hidx : kind = .source ∧ g.opts.srcOn = true) :
    serObj g (.mk kind cls idx fs cn) = .ok (.map [.mk idxKey (.lit (natStr idx))]) := by
  rw [serObj, if_pos hidx]

theorem serObj_mk_ok {g : G} {kind : Kind} {cls : Str} {idx : Nat} {fs : List SField}
    {cn : List Str} {j : J} (hidx : ¬ (kind = .source ∧ g.opts.srcOn = true)) :
    serObj g (.mk kind cls idx fs cn) = .ok j ↔
      ∃ d, serFields g fs = .ok d ∧ .map (post g.opts kind cls cn d) = j := by
  rw [serObj, if_neg hidx]; cases serFields g fs <;> simp

theorem scalar_allMaps (P : List JF → Prop) (s : Scalar) : AllMaps P s.toJ := by
  cases s <;> trivial

/-! The induction behind every shape theorem (`serObj_allMaps`; the other four are its induction
over values, lists and fields): a shape `P` that `{}` has (`hE`), an index reference has (`hI`) and
every hook of an object satisfying the side condition `w` produces from good values (`hPost`). -/
section generic
set_option linter.unusedSectionVars false
variable (P : List JF → Prop) (w : SObj → Bool) (g : G)
variable (hE : P [])
variable (hI : g.opts.srcOn = true → ∀ n, P [.mk idxKey (.lit n)])
variable (hPost : ∀ kind cls idx fields cn d, w (.mk kind cls idx fields cn) = true →
    serFields g fields = .ok d → AllMapsF P d →
    (P (post g.opts kind cls cn d) ∧ AllMapsF P (post g.opts kind cls cn d)))
include hE hI hPost

mutual
theorem serVal_allMaps (v : SVal) (j : J) (hw : allObjV w v = true) (h : serVal g v = .ok j) :
    AllMaps P j := by
  match v with
  | .atom d c => cases h; split <;> exact scalar_allMaps P _
  | .seq xs =>
    obtain ⟨js, hjs, rfl⟩ := serVal_seq_ok.1 h
    exact serVals_allMaps xs js hw hjs
  | .obj o => exact serObj_allMaps o j hw h
  | .bomb => cases h
theorem serVals_allMaps (xs : List SVal) (js : List J) (hw : allObjVs w xs = true)
    (h : serVals g xs = .ok js) : AllMapsL P js := by
  match xs with
  | [] => cases h; trivial
  | x :: r =>
    obtain ⟨j, js', hj, hjs, rfl⟩ := serVals_cons_ok.1 h
    have hw := (allObjVs_cons w x r).1 hw
    exact ⟨serVal_allMaps x j hw.1 hj, serVals_allMaps r js' hw.2 hjs⟩
theorem serObj_allMaps (o : SObj) (j : J) (hw : allObj w o = true) (h : serObj g o = .ok j) :
    AllMaps P j := by
  match o with
  | .empty => cases h; exact ⟨hE, trivial⟩
  | .mk kind cls idx fields cn =>
    have hw := (allObj_mk w kind cls idx fields cn).1 hw
    by_cases hidx : kind = .source ∧ g.opts.srcOn = true
    · cases (serObj_idx cls idx fields cn hidx).symm.trans h
      exact ⟨hI hidx.2 _, trivial, trivial⟩
    · obtain ⟨d, hd, rfl⟩ := (serObj_mk_ok hidx).1 h
      exact hPost kind cls idx fields cn d hw.1 hd (serFields_allMaps fields d hw.2 hd)
theorem serFields_allMaps (fs : List SField) (d : List JF) (hw : allObjFs w fs = true)
    (h : serFields g fs = .ok d) : AllMapsF P d := by
  match fs with
  | [] => cases h; trivial
  | f :: r =>
    obtain ⟨jf, d', hjf, hd', rfl⟩ := serFields_cons_ok.1 h
    have hw := (allObjFs_cons w f r).1 hw
    exact ⟨serField_allMaps f jf hw.1 hjf, serFields_allMaps r d' hw.2 hd'⟩
theorem serField_allMaps (f : SField) (jf : JF) (hw : allObjF w f = true)
    (h : serField g f = .ok jf) : AllMapsJF P jf := by
  match f with
  | .mk n v =>
    obtain ⟨j, hj, rfl⟩ := serField_ok.1 h
    exact serVal_allMaps v j hw hj
end
end generic

/-! ## 4. how the hooks treat keys and nested values -/

theorem keys_ne_tag : childrenKey ≠ TYPE_KEY ∧ originKey ≠ TYPE_KEY ∧ sourceKey ≠ TYPE_KEY ∧
    rawKey ≠ TYPE_KEY ∧ idxKey ≠ TYPE_KEY ∧
    TYPE_KEY ∉ keys [.mk sourceUriKey (.str []), .mk sourceTypeKey (.str [])] := by
  decide +kernel

theorem childrenKey_ne_tag : childrenKey ≠ TYPE_KEY := keys_ne_tag.1
theorem originKey_ne_tag : originKey ≠ TYPE_KEY := let ⟨_, h, _⟩ := keys_ne_tag; h
theorem sourceKey_ne_tag : sourceKey ≠ TYPE_KEY := let ⟨_, _, h, _⟩ := keys_ne_tag; h
theorem rawKey_ne_tag : rawKey ≠ TYPE_KEY := let ⟨_, _, _, h, _⟩ := keys_ne_tag; h
theorem idxKey_ne_tag : idxKey ≠ TYPE_KEY := let ⟨_, _, _, _, h, _⟩ := keys_ne_tag; h

theorem tag_not_mem_testSource_keys :
    TYPE_KEY ∉ keys [.mk sourceUriKey (.str []), .mk sourceTypeKey (.str [])] :=
  let ⟨_, _, _, _, _, h⟩ := keys_ne_tag; h

theorem mem_keys_iff (k : Str) (l : List JF) : k ∈ keys l ↔ ∃ f ∈ l, f.key = k := List.mem_map

theorem mem_keys_sortKeys (k : Str) (l : List JF) : k ∈ keys (sortKeys l) ↔ k ∈ keys l := by
  simp only [keys, List.mem_map, mem_sortKeys]

theorem allMapsF_sortKeys (P : List JF → Prop) (d : List JF) :
    AllMapsF P (sortKeys d) ↔ AllMapsF P d := by
  simp only [allMapsF_iff, mem_sortKeys]

theorem mem_setKey_self (k : Str) (v : J) (l : List JF) : JF.mk k v ∈ setKey k v l := by
  induction l with
  | nil => exact List.mem_singleton.2 rfl
  | cons f r ih =>
    cases f with
    | mk k' v' =>
      rw [setKey]
      split
      · exact List.mem_cons_self
      · exact List.mem_cons_of_mem _ ih

theorem mem_setKey (k : Str) (v : J) (l : List JF) (x : JF) (h : x ∈ setKey k v l) :
    x = .mk k v ∨ x ∈ l := by
  induction l with
  | nil => exact .inl (List.mem_singleton.1 h)
  | cons f r ih =>
    cases f with
    | mk k' v' =>
      rw [setKey] at h
      split at h
      · exact (List.mem_cons.1 h).imp_right (List.mem_cons_of_mem _)
      · rcases List.mem_cons.1 h with h | h
        · exact .inr (h ▸ List.mem_cons_self)
        · exact (ih h).imp_right (List.mem_cons_of_mem _)

theorem mem_setKey_of_mem (k : Str) (v : J) (l : List JF) (x : JF) (h : x ∈ l) (hne : x.key ≠ k) :
    x ∈ setKey k v l := by
  induction l with
  | nil => cases h
  | cons f r ih =>
    cases f with
    | mk k' v' =>
      rw [setKey]
      rcases List.mem_cons.1 h with rfl | h
      · rw [if_neg (show k' ≠ k from hne)]; exact List.mem_cons_self
      · split
        · exact List.mem_cons_of_mem _ h
        · exact List.mem_cons_of_mem _ (ih h)

theorem keys_setKey_of_mem (k : Str) (v : J) (l : List JF) (h : k ∈ keys l) :
    keys (setKey k v l) = keys l := by
  induction l with
  | nil => cases h
  | cons f r ih =>
    cases f with
    | mk k' v' =>
      rw [setKey]
      split
      · next he => rw [he]; rfl
      · next hne =>
        have : k ∈ keys r := (List.mem_cons.1 h).resolve_left (Ne.symm hne)
        exact congrArg (k' :: ·) (ih this)

theorem mem_keys_setKey (k : Str) (v : J) (l : List JF) (x : Str) (h : x ∈ keys (setKey k v l)) :
    x = k ∨ x ∈ keys l := by
  obtain ⟨f, hf, rfl⟩ := (mem_keys_iff _ _).1 h
  rcases mem_setKey k v l f hf with rfl | hf
  · exact .inl rfl
  · exact .inr ((mem_keys_iff _ _).2 ⟨f, hf, rfl⟩)

theorem allMapsF_setKey (P : List JF → Prop) (k : Str) (v : J) (l : List JF)
    (hl : AllMapsF P l) (hv : AllMaps P v) : AllMapsF P (setKey k v l) := by
  rw [allMapsF_iff] at hl ⊢
  intro f hf
  rcases mem_setKey k v l f hf with rfl | h
  · exact hv
  · exact hl f h

theorem keys_popKey_sublist (k : Str) (l : List JF) : (keys (popKey k l)).Sublist (keys l) :=
  List.filter_sublist.map JF.key

theorem allMapsF_popKey (P : List JF → Prop) (k : Str) (l : List JF) (hl : AllMapsF P l) :
    AllMapsF P (popKey k l) := by
  rw [allMapsF_iff] at hl ⊢
  intro f hf
  exact hl f (List.mem_filter.1 hf).1

theorem popKey_tag_cons (cls : Str) (l : List JF) :
    popKey rawKey (.mk TYPE_KEY (.str cls) :: l) = .mk TYPE_KEY (.str cls) :: popKey rawKey l :=
  List.filter_cons_of_pos (by simpa [JF.key] using rawKey_ne_tag.symm)

theorem keys_patchOrigin (dm : J) (l : List JF) : keys (patchOrigin dm l) = keys l := by
  induction l with
  | nil => rfl
  | cons f r ih =>
    cases f with
    | mk k v =>
      simp only [patchOrigin]
      split
      · split <;> rfl
      · exact congrArg (k :: ·) ih

theorem patchOrigin_tag_cons (dm : J) (cls : Str) (l : List JF) :
    patchOrigin dm (.mk TYPE_KEY (.str cls) :: l) = .mk TYPE_KEY (.str cls) :: patchOrigin dm l := by
  simp only [patchOrigin, if_neg originKey_ne_tag.symm]

theorem allMapsF_patchOrigin (P : List JF → Prop) (dm : J) (l : List JF) (hl : AllMapsF P l)
    (hdm : AllMaps P dm)
    (hP : ∀ fs, JF.mk originKey (.map fs) ∈ l → P fs → P (setKey sourceKey dm fs)) :
    AllMapsF P (patchOrigin dm l) := by
  induction l with
  | nil => trivial
  | cons f r ih =>
    cases f with
    | mk k v =>
      simp only [patchOrigin]
      split
      · next hk =>
        subst hk
        split
        · next fs =>
          exact ⟨⟨hP fs List.mem_cons_self hl.1.1, allMapsF_setKey P _ _ _ hl.1.2 hdm⟩, hl.2⟩
        · exact hl
      · exact ⟨hl.1, ih hl.2 fun fs hm => hP fs (List.mem_cons_of_mem _ hm)⟩

/-- the entries of `d` in the order the mixin hook emits them -/
def mixinBody (o : Opts) (d : List JF) : List JF := if o.sortOn = true then sortKeys d else d

theorem postMixin_eq (o : Opts) (cls : Str) (d : List JF) :
    postMixin o cls d =
      if o.skipOn = true then mixinBody o d else .mk TYPE_KEY (.str cls) :: mixinBody o d := rfl

theorem mem_mixinBody (o : Opts) (d : List JF) (x : JF) : x ∈ mixinBody o d ↔ x ∈ d := by
  unfold mixinBody
  split
  · exact mem_sortKeys x d
  · rfl

theorem sortedK_mixinBody (o : Opts) (hs : o.sortOn = true) (d : List JF) :
    SortedK (keys (mixinBody o d)) := by
  rw [mixinBody, if_pos hs]
  exact sorted_sortKeys d

theorem mem_postMixin (o : Opts) (cls : Str) (d : List JF) (x : JF) :
    x ∈ postMixin o cls d ↔ (o.skipOn = false ∧ x = .mk TYPE_KEY (.str cls)) ∨ x ∈ d := by
  rw [postMixin_eq]
  split
  · next hs => simp [hs, mem_mixinBody]
  · next hs => simp [hs, mem_mixinBody]

theorem mem_postMixin_of_mem (o : Opts) (cls : Str) (d : List JF) (x : JF) (h : x ∈ d) :
    x ∈ postMixin o cls d := (mem_postMixin o cls d x).2 (.inr h)

theorem mem_keys_postMixin (o : Opts) (cls : Str) (d : List JF) (k : Str)
    (h : k ∈ keys (postMixin o cls d)) : k = TYPE_KEY ∨ k ∈ keys d := by
  obtain ⟨f, hf, rfl⟩ := (mem_keys_iff _ _).1 h
  rcases (mem_postMixin o cls d f).1 hf with ⟨-, rfl⟩ | hf
  · exact .inl rfl
  · exact .inr ((mem_keys_iff _ _).2 ⟨f, hf, rfl⟩)

theorem allMapsF_postMixin (P : List JF → Prop) (o : Opts) (cls : Str) (d : List JF)
    (hd : AllMapsF P d) : AllMapsF P (postMixin o cls d) := by
  rw [allMapsF_iff] at hd ⊢
  intro f hf
  rcases (mem_postMixin o cls d f).1 hf with ⟨-, rfl⟩ | hf
  · trivial
  · exact hd f hf

theorem allMaps_testSource (P : List JF → Prop) (o : Opts)
    (h : P (postMixin o sourceCls [.mk sourceUriKey (.str []), .mk sourceTypeKey (.str [])])) :
    AllMaps P (testSource o) :=
  ⟨h, allMapsF_postMixin P o _ _ ⟨trivial, trivial, trivial⟩⟩

/-- what `ASTNode.__post_serialize__` hands to the mixin hook -/
def withChildren (o : Opts) (cn : List Str) (d : List JF) : List JF :=
  if o.ast = some .explorer then setKey childrenKey (.arr (cn.map .str)) d else d

theorem postNode_eq (o : Opts) (cls : Str) (cn : List Str) (d : List JF) :
    postNode o cls cn d =
      if o.ast = some .test then patchOrigin (testSource o) (postMixin o cls (withChildren o cn d))
      else postMixin o cls (withChildren o cn d) := rfl

theorem allMaps_children (P : List JF → Prop) (cn : List Str) :
    AllMaps P (.arr (cn.map .str)) := by
  induction cn with
  | nil => trivial
  | cons c r ih => exact ⟨trivial, ih⟩

theorem allMapsF_withChildren (P : List JF → Prop) (o : Opts) (cn : List Str) (d : List JF)
    (hd : AllMapsF P d) : AllMapsF P (withChildren o cn d) := by
  unfold withChildren
  split
  · exact allMapsF_setKey _ _ _ _ hd (allMaps_children _ _)
  · exact hd

theorem mem_keys_withChildren (o : Opts) (cn : List Str) (d : List JF) (k : Str)
    (h : k ∈ keys (withChildren o cn d)) : k = childrenKey ∨ k ∈ keys d := by
  unfold withChildren at h
  split at h
  · exact mem_keys_setKey _ _ _ _ h
  · exact .inr h

/-- `htest`: under AST_TEST a node's hook writes the placeholder source into the `origin` mappings -/
theorem allMapsF_post (P : List JF → Prop) (o : Opts) (kind : Kind) (cls : Str) (cn : List Str)
    (d : List JF) (hd : AllMapsF P d)
    (htest : kind = .node → o.ast = some .test → AllMaps P (testSource o) ∧
      ∀ fs, JF.mk originKey (.map fs) ∈ d → P fs → P (setKey sourceKey (testSource o) fs)) :
    AllMapsF P (post o kind cls cn d) := by
  cases kind
  case node =>
    show AllMapsF P (postNode o cls cn d)
    rw [postNode_eq]
    split
    · next ht =>
      obtain ⟨hsrc, hset⟩ := htest rfl ht
      have hwc : withChildren o cn d = d := if_neg (by rw [ht]; decide)
      rw [hwc]
      refine allMapsF_patchOrigin P _ _ (allMapsF_postMixin P o cls d hd) hsrc fun fs hm => hset fs ?_
      rcases (mem_postMixin o cls d _).1 hm with ⟨-, he⟩ | hm
      · exact absurd (congrArg JF.key he) originKey_ne_tag
      · exact hm
    · exact allMapsF_postMixin P o cls _ (allMapsF_withChildren P o cn d hd)
  case source => exact allMapsF_popKey P _ _ (allMapsF_postMixin P o cls d hd)
  all_goals exact allMapsF_postMixin P o cls d hd

/-- what a `__post_serialize__` hook under `o` makes of a mapping with keys `ks` -/
def HookShape (o : Opts) (cls : Str) (ks : List Str) (fs : List JF) : Prop :=
  ∃ rest, fs = (if o.skipOn = true then rest else .mk TYPE_KEY (.str cls) :: rest) ∧
    (∀ k ∈ keys rest, k = childrenKey ∨ k ∈ ks) ∧ (o.sortOn = true → SortedK (keys rest))

/-- the mixin hook followed by any step `f` that leaves the tag in front and drops or keeps keys -/
theorem hookShape_of_postMixin (o : Opts) (cls : Str) (d1 : List JF) (ks : List Str)
    (f : List JF → List JF)
    (htag : ∀ l, f (.mk TYPE_KEY (.str cls) :: l) = .mk TYPE_KEY (.str cls) :: f l)
    (hsub : ∀ l, (keys (f l)).Sublist (keys l))
    (hd1 : ∀ k ∈ keys d1, k = childrenKey ∨ k ∈ ks) :
    HookShape o cls ks (f (postMixin o cls d1)) := by
  refine ⟨f (mixinBody o d1), ?_, fun k hk => hd1 k ?_,
    fun hs => List.Pairwise.sublist (hsub _) (sortedK_mixinBody o hs d1)⟩
  · rw [postMixin_eq]
    split
    · rfl
    · exact htag _
  · simpa only [mem_keys_iff, mem_mixinBody] using (hsub _).subset hk

theorem hookShape_postMixin (o : Opts) (cls : Str) (d : List JF) :
    HookShape o cls (keys d) (postMixin o cls d) :=
  hookShape_of_postMixin o cls d _ id (fun _ => rfl) (fun _ => .refl _) fun _ hk => .inr hk

theorem hookShape_post (o : Opts) (kind : Kind) (cls : Str) (cn : List Str) (d : List JF) :
    HookShape o cls (keys d) (post o kind cls cn d) := by
  cases kind
  case node =>
    show HookShape o cls (keys d) (postNode o cls cn d)
    rw [postNode_eq]
    split
    · exact hookShape_of_postMixin o cls _ _ (patchOrigin (testSource o))
        (patchOrigin_tag_cons _ cls) (fun l => by rw [keys_patchOrigin]; exact .refl _)
        (mem_keys_withChildren o cn d)
    · exact hookShape_of_postMixin o cls _ _ id (fun _ => rfl) (fun _ => .refl _)
        (mem_keys_withChildren o cn d)
  case source =>
    exact hookShape_of_postMixin o cls d _ (popKey rawKey) (popKey_tag_cons cls)
      (keys_popKey_sublist rawKey) fun _ hk => .inr hk
  all_goals exact hookShape_postMixin o cls d

theorem HookShape.head {o : Opts} {cls : Str} {ks : List Str} {fs : List JF}
    (h : HookShape o cls ks fs) (hs : o.skipOn = false) :
    ∃ rest, fs = .mk TYPE_KEY (.str cls) :: rest := by
  obtain ⟨rest, rfl, -⟩ := h
  exact ⟨rest, if_neg (by simp [hs])⟩

/-- without tag suppression the hook output of *every* kind of object starts with the class tag -/
theorem post_head (o : Opts) (hs : o.skipOn = false) (kind : Kind) (cls : Str) (cn : List Str)
    (d : List JF) : ∃ rest, post o kind cls cn d = .mk TYPE_KEY (.str cls) :: rest :=
  (hookShape_post o kind cls cn d).head hs

theorem serFields_keys (g : G) (fs : List SField) (d : List JF) (h : serFields g fs = .ok d) :
    keys d = fs.map SField.name := by
  induction fs generalizing d with
  | nil => cases h; rfl
  | cons f r ih =>
    obtain ⟨jf, d', hjf, hd', rfl⟩ := serFields_cons_ok.1 h
    cases f with
    | mk n v =>
      obtain ⟨j, -, rfl⟩ := serField_ok.1 hjf
      exact congrArg (n :: ·) (ih d' hd')

theorem serFields_mem (g : G) (fs : List SField) (d : List JF) (h : serFields g fs = .ok d)
    (jf : JF) (hm : jf ∈ d) : ∃ f ∈ fs, f.name = jf.key ∧ serVal g f.val = .ok jf.val := by
  induction fs generalizing d with
  | nil => cases h; cases hm
  | cons f r ih =>
    obtain ⟨jf0, d', hjf, hd', rfl⟩ := serFields_cons_ok.1 h
    rcases List.mem_cons.1 hm with rfl | hm
    · cases f with
      | mk n v =>
        obtain ⟨j, hj, rfl⟩ := serField_ok.1 hjf
        exact ⟨.mk n v, List.mem_cons_self, rfl, hj⟩
    · obtain ⟨f', hf', h12⟩ := ih d' hd' hm
      exact ⟨f', List.mem_cons_of_mem _ hf', h12⟩

theorem not_mem_keys_of_fields (g : G) (fs : List SField) (d : List JF)
    (h : serFields g fs = .ok d) (k : Str) (hk : (fs.all fun f => !(f.name == k)) = true) :
    k ∉ keys d := by
  rw [serFields_keys g fs d h]
  intro hm
  obtain ⟨f, hf, hfn⟩ := List.mem_map.1 hm
  have := List.all_eq_true.1 hk f hf
  simp [hfn] at this

/-! ## 5. tag suppression: no nested mapping carries a type tag -/

def NoTag (fs : List JF) : Prop := TYPE_KEY ∉ keys fs

def NoTagFields (o : SObj) : Prop := allObj noTagField1 o = true

theorem HookShape.noTag {o : Opts} {cls : Str} {ks : List Str} {fs : List JF}
    (h : HookShape o cls ks fs) (hs : o.skipOn = true) (hk : TYPE_KEY ∉ ks) : NoTag fs := by
  obtain ⟨rest, rfl, hsub, -⟩ := h
  rw [if_pos hs]
  intro hm
  rcases hsub _ hm with e | hm
  · exact childrenKey_ne_tag e.symm
  · exact hk hm

/-- **With tag suppression no nested mapping carries a type tag** — for every object tree (over
any class model whose fields are not themselves called `__type`), every other option, every
dialect. -/
theorem untagged_all (g : G) (hs : g.opts.skipOn = true) (o : SObj) (j : J) (hw : NoTagFields o)
    (h : serObj g o = .ok j) : AllMaps NoTag j := by
  refine serObj_allMaps NoTag noTagField1 g List.not_mem_nil
    (fun _ n hm => idxKey_ne_tag (List.mem_singleton.1 hm).symm) ?_ o j hw h
  intro kind cls idx fields cn d hwf hser hd
  refine ⟨(hookShape_post g.opts kind cls cn d).noTag hs
      (not_mem_keys_of_fields g fields d hser TYPE_KEY hwf),
    allMapsF_post NoTag g.opts kind cls cn d hd fun _ _ =>
      ⟨allMaps_testSource NoTag _
        ((hookShape_postMixin g.opts _ _).noTag hs tag_not_mem_testSource_keys),
        fun fs _ hfs hm => ?_⟩⟩
  rcases mem_keys_setKey _ _ _ _ hm with e | hm
  · exact sourceKey_ne_tag e.symm
  · exact hfs hm

/-! ## 6. by default every serialized object carries its class tag, first -/

/-- **A serialized node / origin / source / position / code point that is neither an empty
`No*` placeholder nor written as an index reference carries its class name as type tag, as the
first key** (whenever tags are not suppressed; in particular by default). -/
theorem mk_carries_class_tag (g : G) (hs : g.opts.skipOn = false) (kind : Kind) (cls : Str)
    (idx : Nat) (fs : List SField) (cn : List Str) (j : J)
    (hidx : ¬ (kind = .source ∧ g.opts.srcOn = true))
    (h : serObj g (.mk kind cls idx fs cn) = .ok j) :
    ∃ rest, j = .map (.mk TYPE_KEY (.str cls) :: rest) := by
  obtain ⟨d, -, rfl⟩ := (serObj_mk_ok hidx).1 h
  obtain ⟨rest, hr⟩ := post_head g.opts hs kind cls cn d
  exact ⟨rest, congrArg J.map hr⟩

/-- only the `No*` placeholders serialize to the empty mapping -/
theorem empty_only_placeholder (g : G) (hs : g.opts.skipOn = false) (o : SObj)
    (h : serObj g o = .ok (.map [])) : o = .empty := by
  cases o with
  | empty => rfl
  | mk kind cls idx fs cn =>
    exfalso
    by_cases hidx : kind = .source ∧ g.opts.srcOn = true
    · cases (serObj_idx cls idx fs cn hidx).symm.trans h
    · obtain ⟨rest, hr⟩ := mk_carries_class_tag g hs kind cls idx fs cn _ hidx h
      cases hr

def TaggedMap (fs : List JF) : Prop :=
  fs = [] ∨ keys fs = [idxKey] ∨ (keys fs).head? = some TYPE_KEY

def TaggedMap' (fs : List JF) : Prop := fs = [] ∨ (keys fs).head? = some TYPE_KEY

theorem tagged_post (P : List JF → Prop) (hP : ∀ fs, (keys fs).head? = some TYPE_KEY → P fs)
    (o : Opts) (hs : o.skipOn = false) (ht : o.ast ≠ some .test)
    (kind : Kind) (cls : Str) (cn : List Str) (d : List JF) (hd : AllMapsF P d) :
    P (post o kind cls cn d) ∧ AllMapsF P (post o kind cls cn d) := by
  refine ⟨?_, allMapsF_post P o kind cls cn d hd fun _ h => absurd h ht⟩
  obtain ⟨rest, hr⟩ := post_head o hs kind cls cn d
  rw [hr]
  exact hP _ rfl

/-- **Without tag suppression (and outside the AST_TEST dialect, which rewrites origins) every
nested mapping is an empty placeholder, an index reference, or starts with the type tag.** -/
theorem tagged_all (g : G) (hs : g.opts.skipOn = false) (ht : g.opts.ast ≠ some .test)
    (o : SObj) (j : J) (h : serObj g o = .ok j) : AllMaps TaggedMap j := by
  refine serObj_allMaps TaggedMap (fun _ => true) g (.inl rfl) (fun _ n => .inr (.inl rfl)) ?_
    o j (allObj_true o) h
  intro kind cls idx fields cn d _ _ hd
  exact tagged_post TaggedMap (fun _ h => .inr (.inr h)) g.opts hs ht kind cls cn d hd

/-- **By default** (no options at all) there are no index references either: every nested
mapping is an empty placeholder or starts with the type tag. -/
theorem default_tagged_all (md : Option MD) (o : SObj) (j : J)
    (h : serObj { opts := {}, md := md } o = .ok j) : AllMaps TaggedMap' j := by
  refine serObj_allMaps TaggedMap' (fun _ => true) _ (.inl rfl) (fun hc => Bool.noConfusion hc) ?_
    o j (allObj_true o) h
  intro kind cls idx fields cn d _ _ hd
  exact tagged_post TaggedMap' (fun _ h => .inr h) {} rfl (by decide) kind cls cn d hd

/-! ## 7. the explorer dialect lists each node's child field names -/

/-- **Under the AST_EXPLORER dialect the mapping of a node has the entry
`_children: [child field names]`** (with or without key sorting, tag suppression, …). -/
theorem explorer_lists_child_fields (g : G) (he : g.opts.ast = some .explorer) (cls : Str)
    (idx : Nat) (fs : List SField) (cn : List Str) (m : List JF)
    (h : serObj g (.mk .node cls idx fs cn) = .ok (.map m)) :
    JF.mk childrenKey (.arr (cn.map .str)) ∈ m := by
  obtain ⟨d, -, hm⟩ := (serObj_mk_ok (kind := .node) (fun hc => nomatch hc.1)).1 h
  cases hm
  show _ ∈ postNode g.opts cls cn d
  rw [postNode_eq, if_neg (by rw [he]; decide), withChildren, if_pos he]
  exact mem_postMixin_of_mem _ _ _ _ (mem_setKey_self _ _ _)

/-! ## 8. key sorting: type tag first, remaining keys sorted, in every nested mapping -/

def dropTagK : List Str → List Str
  | [] => []
  | k :: r => if k = TYPE_KEY then r else k :: r

/-- the keys after a leading type tag (if any) are in sorted order -/
def SortedMap (fs : List JF) : Prop :=
  (dropTagK (keys fs)).Pairwise fun a b => strLt b a = false

instance (fs : List JF) : Decidable (SortedMap fs) := by unfold SortedMap; infer_instance

theorem sortedMap_of_sorted (l : List JF) (h : SortedK (keys l)) : SortedMap l := by
  unfold SortedMap
  generalize keys l = ks at h ⊢
  cases ks with
  | nil => exact h
  | cons k r =>
    rw [dropTagK]
    split
    · exact (List.pairwise_cons.1 h).2
    · exact h

theorem HookShape.sortedMap {o : Opts} {cls : Str} {ks : List Str} {fs : List JF}
    (h : HookShape o cls ks fs) (hs : o.sortOn = true) : SortedMap fs := by
  obtain ⟨rest, rfl, -, hsorted⟩ := h
  split
  · exact sortedMap_of_sorted _ (hsorted hs)
  · simpa [SortedMap, keys, JF.key, dropTagK] using hsorted hs

/-- decidable well-formedness used by `sorted_all` (only the AST_TEST dialect needs it) -/
def OriginOK (o : SObj) : Prop := allObj originOK1 o = true

theorem originLike_ser (g : G) (v : SVal) (hv : originLike v = true) (fs : List JF)
    (h : serVal g v = .ok (.map fs)) : fs = [] ∨ sourceKey ∈ keys fs := by
  match v, hv with
  | .obj .empty, _ => cases h; exact .inl rfl
  | .obj (.mk .origin c i fs' cn'), hv =>
    obtain ⟨d', hd', hm⟩ := (serObj_mk_ok (kind := .origin) (idx := i) (fun hc => nomatch hc.1)).1 h
    cases hm
    have hk : sourceKey ∈ keys d' := by
      rw [serFields_keys g fs' d' hd']; exact List.contains_iff_mem.1 hv
    obtain ⟨f, hf, hfk⟩ := (mem_keys_iff _ _).1 hk
    exact .inr ((mem_keys_iff _ _).2 ⟨f, mem_postMixin_of_mem _ _ _ _ hf, hfk⟩)

theorem origin_entry_shape (g : G) (cls : Str) (idx : Nat) (fields : List SField)
    (cn : List Str) (d : List JF) (hw : originOK1 (.mk .node cls idx fields cn) = true)
    (hser : serFields g fields = .ok d) (fs : List JF) (hm : JF.mk originKey (.map fs) ∈ d) :
    fs = [] ∨ sourceKey ∈ keys fs := by
  obtain ⟨f, hf, hfn, hfv⟩ := serFields_mem g fields d hser _ hm
  have := List.all_eq_true.1 hw f hf
  simp only [show f.name = originKey from hfn, beq_self_eq_true, Bool.not_true,
    Bool.false_or] at this
  exact originLike_ser g f.val this fs hfv

theorem sortedMap_setSource (dm : J) (fs : List JF) (h : fs = [] ∨ sourceKey ∈ keys fs)
    (hs : SortedMap fs) : SortedMap (setKey sourceKey dm fs) := by
  rcases h with rfl | h
  · exact sortedMap_of_sorted _ (List.pairwise_singleton _ _)
  · rw [SortedMap, keys_setKey_of_mem _ _ _ h]; exact hs

/-- **With key sorting every nested mapping lists the type tag first (when it has one) and the
remaining keys in sorted order** — for every object tree, every other option (tag suppression,
explorer / test dialect, index-based sources), every mashumaro dialect. -/
theorem sorted_all (g : G) (hs : g.opts.sortOn = true) (o : SObj) (j : J) (hw : OriginOK o)
    (h : serObj g o = .ok j) : AllMaps SortedMap j := by
  refine serObj_allMaps SortedMap originOK1 g List.Pairwise.nil
    (fun _ n => sortedMap_of_sorted _ (List.pairwise_singleton _ _)) ?_ o j hw h
  intro kind cls idx fields cn d hwf hser hd
  refine ⟨(hookShape_post g.opts kind cls cn d).sortedMap hs,
    allMapsF_post SortedMap g.opts kind cls cn d hd fun hk _ =>
      ⟨allMaps_testSource SortedMap g.opts ((hookShape_postMixin g.opts _ _).sortedMap hs),
        fun fs hm hfs => sortedMap_setSource _ fs ?_ hfs⟩⟩
  subst hk
  exact origin_entry_shape g cls idx fields cn d hwf hser fs hm

/-! ## 9. every nested object is written under the options of the call -/

mutual
/-- all values nested in an output (the output itself included) -/
def subsJ : J → List J
  | .str s => [.str s]
  | .lit s => [.lit s]
  | .arr xs => .arr xs :: subsJL xs
  | .map fs => .map fs :: subsJF fs
def subsJL : List J → List J
  | [] => []
  | x :: r => subsJ x ++ subsJL r
def subsJF : List JF → List J
  | [] => []
  | f :: r => subsJFld f ++ subsJF r
def subsJFld : JF → List J
  | .mk _ v => subsJ v
end

theorem self_mem_subsJ (j : J) : j ∈ subsJ j := by
  cases j <;> exact List.mem_cons_self

theorem mem_subsJF (m : List JF) (jf : JF) (hm : jf ∈ m) (x : J) (hx : x ∈ subsJ jf.val) :
    x ∈ subsJF m := by
  induction m with
  | nil => cases hm
  | cons f r ih =>
    rw [subsJF, List.mem_append]
    rcases List.mem_cons.1 hm with rfl | hm
    · cases jf; exact .inl hx
    · exact .inr (ih hm)

mutual
/-- the objects a serialization under `g` reaches (itself included): it does not descend into a
source that is written as an index reference, nor into the `_raw` field of a source -/
def subObjs (g : G) : SObj → List SObj
  | .empty => [.empty]
  | .mk kind cls idx fs cn => .mk kind cls idx fs cn ::
      (if kind = .source ∧ g.opts.srcOn = true then [] else subObjsFs g kind fs)
def subObjsFs (g : G) (kind : Kind) : List SField → List SObj
  | [] => []
  | f :: r => subObjsF g kind f ++ subObjsFs g kind r
def subObjsF (g : G) (kind : Kind) : SField → List SObj
  | .mk n v => if kind = .source ∧ n = rawKey then [] else subObjsV g v
def subObjsV (g : G) : SVal → List SObj
  | .atom _ _ => []
  | .seq xs => subObjsVs g xs
  | .obj o => subObjs g o
  | .bomb => []
def subObjsVs (g : G) : List SVal → List SObj
  | [] => []
  | x :: r => subObjsV g x ++ subObjsVs g r
end

theorem mem_post_of_mem (o : Opts) (ht : o.ast ≠ some .test) (kind : Kind) (cls : Str)
    (cn : List Str) (d : List JF) (hc : childrenKey ∉ keys d) (jf : JF) (hm : jf ∈ d)
    (hraw : ¬ (kind = .source ∧ jf.key = rawKey)) : jf ∈ post o kind cls cn d := by
  cases kind
  case node =>
    show jf ∈ postNode o cls cn d
    rw [postNode_eq, if_neg ht, withChildren]
    apply mem_postMixin_of_mem
    split
    · exact mem_setKey_of_mem _ _ _ _ hm fun he => hc ((mem_keys_iff _ _).2 ⟨jf, hm, he⟩)
    · exact hm
  case source =>
    exact List.mem_filter.2 ⟨mem_postMixin_of_mem _ _ _ _ hm, by simpa using hraw⟩
  all_goals exact mem_postMixin_of_mem _ _ _ _ hm

section nested
set_option linter.unusedSectionVars false
variable (g : G) (ht : g.opts.ast ≠ some .test)
include ht

/-- what "reached object `o'` is written under `g` inside `j`" means -/
abbrev Written (g : G) (o' : SObj) (within : List J) : Prop :=
  ∃ j', j' ∈ within ∧ serObj g o' = .ok j'

mutual
theorem serVal_nested (v : SVal) (j : J) (hw : allObjV noChildrenField1 v = true)
    (h : serVal g v = .ok j) : ∀ o' ∈ subObjsV g v, Written g o' (subsJ j) := by
  match v with
  | .atom d c => intro o' ho; cases ho
  | .bomb => intro o' ho; cases ho
  | .seq xs =>
    obtain ⟨js, hjs, rfl⟩ := serVal_seq_ok.1 h
    exact fun o' ho => (serVals_nested xs js hw hjs o' ho).imp fun _ =>
      And.imp_left (List.mem_cons_of_mem _)
  | .obj o => exact serObj_nested o j hw h
theorem serVals_nested (xs : List SVal) (js : List J) (hw : allObjVs noChildrenField1 xs = true)
    (h : serVals g xs = .ok js) : ∀ o' ∈ subObjsVs g xs, Written g o' (subsJL js) := by
  match xs with
  | [] => intro o' ho; cases ho
  | x :: r =>
    obtain ⟨j, js', hj, hjs, rfl⟩ := serVals_cons_ok.1 h
    have hw := (allObjVs_cons _ x r).1 hw
    intro o' ho
    rcases List.mem_append.1 ho with ho | ho
    · exact (serVal_nested x j hw.1 hj o' ho).imp fun _ => And.imp_left (List.mem_append_left _)
    · exact (serVals_nested r js' hw.2 hjs o' ho).imp fun _ => And.imp_left (List.mem_append_right _)
theorem serObj_nested (o : SObj) (j : J) (hw : allObj noChildrenField1 o = true)
    (h : serObj g o = .ok j) : ∀ o' ∈ subObjs g o, Written g o' (subsJ j) := by
  match o with
  | .empty =>
    intro o' ho
    cases List.mem_singleton.1 ho
    exact ⟨j, self_mem_subsJ j, h⟩
  | .mk kind cls idx fields cn =>
    have hw := (allObj_mk _ kind cls idx fields cn).1 hw
    intro o' ho
    rcases List.mem_cons.1 ho with rfl | ho
    · exact ⟨j, self_mem_subsJ j, h⟩
    · by_cases hc : kind = .source ∧ g.opts.srcOn = true
      · rw [if_pos hc] at ho; cases ho
      · rw [if_neg hc] at ho
        obtain ⟨d, hd, rfl⟩ := (serObj_mk_ok hc).1 h
        obtain ⟨jf, hjf, hraw, j', hj', hs⟩ := serFields_nested kind fields d hw.2 hd o' ho
        have := mem_post_of_mem g.opts ht kind cls cn d
          (not_mem_keys_of_fields g fields d hd childrenKey hw.1) jf hjf hraw
        exact ⟨j', List.mem_cons_of_mem _ (mem_subsJF _ jf this j' hj'), hs⟩
theorem serFields_nested (kind : Kind) (fs : List SField) (d : List JF)
    (hw : allObjFs noChildrenField1 fs = true) (h : serFields g fs = .ok d) :
    ∀ o' ∈ subObjsFs g kind fs, ∃ jf ∈ d, ¬ (kind = .source ∧ jf.key = rawKey) ∧
      Written g o' (subsJ jf.val) := by
  match fs with
  | [] => intro o' ho; cases ho
  | f :: r =>
    obtain ⟨jf, d', hjf, hd', rfl⟩ := serFields_cons_ok.1 h
    have hw := (allObjFs_cons _ f r).1 hw
    intro o' ho
    rcases List.mem_append.1 ho with ho | ho
    · exact ⟨jf, List.mem_cons_self, serField_nested kind f jf hw.1 hjf o' ho⟩
    · obtain ⟨jf', hm, hwr⟩ := serFields_nested kind r d' hw.2 hd' o' ho
      exact ⟨jf', List.mem_cons_of_mem _ hm, hwr⟩
theorem serField_nested (kind : Kind) (f : SField) (jf : JF)
    (hw : allObjF noChildrenField1 f = true) (h : serField g f = .ok jf) :
    ∀ o' ∈ subObjsF g kind f, ¬ (kind = .source ∧ jf.key = rawKey) ∧
      Written g o' (subsJ jf.val) := by
  match f with
  | .mk n v =>
    obtain ⟨j, hj, rfl⟩ := serField_ok.1 h
    intro o' ho
    rw [subObjsF] at ho
    split at ho
    · cases ho
    · next hc => exact ⟨hc, serVal_nested v j hw hj o' ho⟩
end
end nested

/-- **The options of a call take effect on every nested object of that call**: each object the
serialization reaches is written exactly as the same `_serialize` under the same global state
writes it on its own, and that output occurs inside the output of the call.  (Outside the
AST_TEST dialect, which by design overwrites the `source` of node origins afterwards.) -/
theorem nested_same_options (g : G) (ht : g.opts.ast ≠ some .test) (o : SObj) (j : J)
    (hw : allObj noChildrenField1 o = true) (h : serObj g o = .ok j) (o' : SObj)
    (ho : o' ∈ subObjs g o) : ∃ j', j' ∈ subsJ j ∧ serObj g o' = .ok j' :=
  serObj_nested g ht o j hw h o' ho

/-- consequently, under the explorer dialect **each** nested node lists its child field names -/
theorem explorer_lists_child_fields_nested (g : G) (he : g.opts.ast = some .explorer) (o : SObj)
    (j : J) (hw : allObj noChildrenField1 o = true) (h : serObj g o = .ok j)
    (cls : Str) (idx : Nat) (fs : List SField) (cn : List Str)
    (ho : SObj.mk .node cls idx fs cn ∈ subObjs g o) :
    ∃ m, J.map m ∈ subsJ j ∧ JF.mk childrenKey (.arr (cn.map .str)) ∈ m := by
  obtain ⟨j', hj', hs⟩ := nested_same_options g (by rw [he]; decide) o j hw h _ ho
  obtain ⟨d, -, rfl⟩ := (serObj_mk_ok (kind := .node) (fun hc => nomatch hc.1)).1 hs
  exact ⟨_, hj', explorer_lists_child_fields g he cls idx fs cn _ hs⟩

/-! ## 10. deserialization: nested hooks see the state the call entered -/

mutual
theorem deser_sees (g : G) (d : DJ) (l : List G) (h : deser g d = .ok l) : ∀ x ∈ l, x = g := by
  match d with
  | .plain => cases h; exact fun _ hx => nomatch hx
  | .int c => rw [deser] at h; split at h <;> cases h; exact fun _ hx => nomatch hx
  | .bad => cases h
  | .node p xs =>
    rw [deser] at h
    split at h
    · cases h
    · next l' hl' =>
      cases h
      intro x hx
      split at hx
      · exact (List.mem_cons.1 hx).elim id (deserL_sees g xs l' hl' x)
      · exact deserL_sees g xs l' hl' x hx
theorem deserL_sees (g : G) (ds : List DJ) (l : List G) (h : deserL g ds = .ok l) :
    ∀ x ∈ l, x = g := by
  match ds with
  | [] => cases h; exact fun _ hx => nomatch hx
  | d :: r =>
    rw [deserL] at h
    split at h
    · cases h
    · next l1 h1 =>
      split at h
      · cases h
      · next l2 h2 =>
        cases h
        intro x hx
        exact (List.mem_append.1 hx).elim (deser_sees g d l1 h1 x) (deserL_sees g r l2 h2 x)
end

/-- **Every nested hook of a deserialization call sees exactly the options and dialect that call
was given** (call started from the default state), and nothing else. -/
theorem deser_sees_call_state (c : Call) (d : DJ) (hc : c.input = .deser d) (l : List G)
    (h : (call {} c).2 = .ok (.seen l)) :
    ∀ x ∈ l, x = { opts := c.opts.getD {}, md := effMd c.kind c.md } := by
  rw [call_depends_on_own_args, hc, body] at h
  split at h
  · next l' hl' => cases h; exact deser_sees _ d _ hl'
  · cases h

/-! ## 11. the two defects of the unrepaired hook, on concrete witnesses

`postNodeOld` is `ASTNode.__post_serialize__` as it stood before the repairs F15 / F23: `_children`
assigned after the mixin hook had sorted, and the AST_TEST placeholder source written as a
literal `{__type, source_uri, source_type}`. -/

def postNodeOld (o : Opts) (cls : Str) (cn : List Str) (d : List JF) : List JF :=
  let out := postMixin o cls d
  let out1 := if o.ast = some .explorer then setKey childrenKey (.arr (cn.map .str)) out else out
  if o.ast = some .test then
    patchOrigin (.map [.mk TYPE_KEY (.str sourceCls), .mk sourceUriKey (.str []),
      .mk sourceTypeKey (.str [])]) out1
  else out1

def idKey : Str := "id".toList

/-- F15: SORT_KEYS + AST_EXPLORER — `_children` ends up after `id`: not sorted. -/
theorem unpatched_children_unsorted_fails :
    ¬ SortedMap (postNodeOld { sort := some true, ast := some .explorer } "N".toList []
        [.mk idKey (.str [])]) := by decide +kernel

/-- … while the repaired hook sorts it in -/
example : SortedMap (postNode { sort := some true, ast := some .explorer } "N".toList []
    [.mk idKey (.str [])]) :=
  (hookShape_post { sort := some true, ast := some .explorer } .node "N".toList [] _).sortedMap rfl

/-- F23 with SKIP_CLASS: the placeholder source of AST_TEST carries a type tag. -/
theorem unpatched_test_source_tagged_fails :
    ¬ AllMapsF NoTag (postNodeOld { skip := some true, ast := some .test } "N".toList []
        [.mk originKey (.map [])]) := by
  intro h
  have h1 : AllMapsF NoTag [JF.mk originKey (.map [JF.mk sourceKey
      (.map [.mk TYPE_KEY (.str sourceCls), .mk sourceUriKey (.str []),
        .mk sourceTypeKey (.str [])])])] := h  -- the hook's output, by evaluation
  obtain ⟨⟨-, ⟨hsource, -⟩, -⟩, -⟩ := h1
  exact hsource List.mem_cons_self

/-- F23 with SORT_KEYS: the literal that `postNodeOld` writes as placeholder source lists
`source_uri` before `source_type`. -/
theorem unpatched_test_source_unsorted_fails :
    ¬ SortedMap [.mk TYPE_KEY (.str sourceCls), .mk sourceUriKey (.str []),
        .mk sourceTypeKey (.str [])] := by decide +kernel

example (o : Opts) (hs : o.sortOn = true) :
    AllMaps SortedMap (testSource o) :=
  allMaps_testSource SortedMap o ((hookShape_postMixin o _ _).sortedMap hs)

/-! ## 12. non-vacuity: concrete trees, calls and histories -/

def sc (s : String) : Scalar := .str s.toList
def fld (n : String) (v : SVal) : SField := .mk n.toList v
def at1 (s : String) : SVal := .atom (sc s) (sc s)

def demoSource : SObj :=
  .mk .source "MemoryTextSource".toList 3
    [fld "source_uri" (at1 "mem0"), fld "source_type" (at1 "<memory>"), fld "_raw" (at1 "text")] []
def demoPoint : SObj :=
  .mk .point "CodePoint".toList 0
    [fld "index" (.atom (.lit "4".toList) (sc "#4")), fld "line" (.atom (.lit "1".toList) (sc "#1"))] []
def demoOrigin : SObj :=
  .mk .origin "CodeOrigin".toList 0
    [fld "source" (.obj demoSource),
     fld "position" (.obj (.mk .position "CodeRange".toList 0 [fld "start" (.obj demoPoint)] []))] []
def demoLeaf (v : SVal) : SObj :=
  .mk .node "Leaf".toList 0
    [fld "id" (at1 "L"), fld "content_id" (at1 "cl"), fld "origin" (.obj .empty), fld "v" v] []
def demoTree (v : SVal) : SObj :=
  .mk .node "Tup".toList 0
    [fld "id" (at1 "T"), fld "content_id" (at1 "ct"), fld "origin" (.obj demoOrigin),
     fld "items" (.seq [.obj (demoLeaf v), .obj (demoLeaf (at1 "z"))])] ["items".toList]
def good : SObj := demoTree (.atom (.lit "7".toList) (sc "#7"))
def bombed : SObj := demoTree .bomb      -- the raising property sits two levels down

def gAll : G := { opts := { skip := some true, sort := some true, src := some true, ast := some .test },
                  md := some .custom }
def gSortExplorer : G := { opts := { sort := some true, ast := some .explorer } }

def cAll (o : SObj) : Call :=
  { kind := .asDict, opts := some gAll.opts, md := some .custom, input := .ser o }
def cPlain (o : SObj) : Call := { kind := .asDict, opts := none, md := none, input := .ser o }

theorem good_wellFormed :
    NoTagFields good ∧ allObj noChildrenField1 good = true ∧ OriginOK good := by
  have h : wellFormed good = true := by decide +kernel
  simp only [wellFormed, Bool.and_eq_true] at h
  exact ⟨h.1.1, h.1.2, h.2⟩

theorem good_noTagFields : NoTagFields good := good_wellFormed.1
theorem good_noChildrenFields : allObj noChildrenField1 good = true := good_wellFormed.2.1
theorem good_originOK : OriginOK good := good_wellFormed.2.2

/-- a call with every option raises two levels down — the slots are reset all the same … -/
example : (call {} (cAll bombed)).2 = .error () ∧ (call {} (cAll bombed)).1 = {} :=
  ⟨rfl, reset_after _ _ (by simp [cAll])⟩
example (g : G) : (call g (cAll bombed)).1 = {} :=
  reset_after_raise g _ () (by simp [cAll]) rfl
example (g : G) : call g { kind := .fromJson, opts := some gAll.opts, md := none, input := .unparsable }
    = (g, .error ()) := call_unparsable g _ rfl

/-- … and the next call without options produces the default output: tagged, unsorted, no
index reference, ints in plain format (history: options + raise, options + success, plain) -/
example : ((runSeq {} [cAll bombed, cAll good, cPlain good]).1.map (·.2)) = [{}, {}, {}] ∧
    ((runSeq {} [cAll bombed, cAll good, cPlain good]).1.map (·.1))[2]? =
      some (body {} (.ser good)) := by
  rw [seq_independent]; exact ⟨rfl, by simp [call_depends_on_own_args, cPlain, effMd]⟩
example : (runSeq {} [cAll bombed, cAll good, cPlain good]).2 = {} := seq_final_default _

example : (call {} (cAll good)).2 = body gAll (.ser good) := call_depends_on_own_args _

/-- hypotheses of the shape theorems are satisfiable on a tree with an origin, a source, a code
point and nested nodes, and the conclusions are about a real (successful) output -/
example : ∃ j, serObj gSortExplorer good = .ok j ∧ AllMaps SortedMap j :=
  ⟨_, rfl, sorted_all gSortExplorer rfl good _ good_originOK rfl⟩
example : ∃ j, serObj gAll good = .ok j ∧ AllMaps SortedMap j ∧ AllMaps NoTag j :=
  ⟨_, rfl, sorted_all gAll rfl good _ good_originOK rfl, untagged_all gAll rfl good _ good_noTagFields rfl⟩
example : ∃ j, serObj { opts := { src := some true } } good = .ok j ∧ AllMaps TaggedMap j :=
  ⟨_, rfl, tagged_all { opts := { src := some true } } rfl (by decide) good _ rfl⟩
example : ∃ j, serObj {} good = .ok j ∧ AllMaps TaggedMap' j :=
  ⟨_, rfl, default_tagged_all none good _ rfl⟩
example : (serObj {} demoSource).toBool = true := rfl
example (j : J) (h : serObj {} demoSource = .ok j) :
    ∃ rest, j = .map (.mk TYPE_KEY (.str "MemoryTextSource".toList) :: rest) :=
  mk_carries_class_tag {} rfl .source _ 3 _ [] j (by decide) h
example : serObj {} .empty = .ok (.map []) := rfl
example (o : SObj) (h : serObj {} o = .ok (.map [])) : o = .empty := empty_only_placeholder {} rfl o h
example : (serObj gSortExplorer good).toBool = true := rfl
example (m : List JF) (h : serObj gSortExplorer good = .ok (.map m)) :
    JF.mk childrenKey (.arr [.str "items".toList]) ∈ m :=
  explorer_lists_child_fields gSortExplorer rfl _ _ _ _ m h

theorem self_mem_subObjs (g : G) (o : SObj) : o ∈ subObjs g o := by
  cases o <;> simp [subObjs]

theorem leaf_reached : demoLeaf (at1 "z") ∈ subObjs gSortExplorer good := by
  apply List.mem_cons_of_mem
  -- `items` is the fourth field of the root, the leaf its second element
  refine List.mem_append_right _ (List.mem_append_right _ (List.mem_append_right _
    (List.mem_append_left _ ?_)))
  exact List.mem_append_right _ (List.mem_append_left _ (self_mem_subObjs _ _))

/-- the nested leaf is reached, written under the same options, and lists its (zero) child fields -/
example (j : J) (h : serObj gSortExplorer good = .ok j) :
    ∃ m, J.map m ∈ subsJ j ∧ JF.mk childrenKey (.arr []) ∈ m :=
  explorer_lists_child_fields_nested gSortExplorer rfl good j good_noChildrenFields h "Leaf".toList 0 _ []
    leaf_reached

/-- deserialization: a probe two levels down sees the entered state; a malformed spot raises and
the state is reset -/
def cDeser (d : DJ) : Call :=
  { kind := .fromMsgpck, opts := some gAll.opts, md := none, input := .deser d }
example : (call {} (cDeser (.node false [.plain, .node true [.int false]]))).2 =
    .ok (.seen [{ opts := gAll.opts, md := some .msgpack }]) := rfl
example : call {} (cDeser (.node false [.plain, .node true [.bad]])) = ({}, .error ()) := rfl
example (l : List G) (h : (call {} (cDeser (.node false [.plain, .node true [.int false]]))).2
      = .ok (.seen l)) : ∀ x ∈ l, x = { opts := gAll.opts, md := some .msgpack } :=
  deser_sees_call_state _ _ rfl l h

end C16
end PyOak
