/- C12, multiple inheritance.

`dataclasses._process_class` collects, for `class C(B₁, …)`, the **resolved** field dicts of the
classes of `C.__mro__[1:]` in reverse order and then `C`'s own annotations, all written into one
dict: in the model that is `resolve (bases.map resolve ++ [own])`, where every base is given by
the levels it was itself built from.  `resolve_replay` shows that writing a base's resolved fields
is the same as *replaying the base's declarations*: so the fields of any class of any hierarchy
(diamonds, marker subclasses, mix-ins without fields) are `resolve` of one flat list of levels —
the own declarations of the classes met while expanding the reversed MRO recursively — which is
what the harness sends (`Hier.expand` in harness/zoo_c12.py), and every theorem about
`ClassDecl.fields` applies unchanged. -/
import PyOak.Props.C12Fields
namespace PyOak
namespace Acc
namespace C12

theorem dictSet_same_name (l : List FDecl) (g f : FDecl) (h : g.name = f.name) :
    dictSet (dictSet l g) f = dictSet l f := by
  induction l with
  | nil => simp [dictSet, h]
  | cons x r ih =>
    simp only [dictSet]
    by_cases hx : x.name = g.name
    · simp [hx, h, dictSet]
    · have hx' : ¬ x.name = f.name := fun e => hx (e.trans h.symm)
      simp [hx, hx', dictSet, ih]

theorem name_mem_dictSet (l : List FDecl) (h : FDecl) (n : Str) (hn : n ∈ l.map FDecl.name) :
    n ∈ (dictSet l h).map FDecl.name := by
  rw [dictSet_names]
  split
  · exact hn
  · exact List.mem_append_left _ hn

/-- an in-place update commutes with any write under another name -/
theorem dictSet_comm (l : List FDecl) (f h : FDecl) (hf : f.name ∈ l.map FDecl.name)
    (hne : h.name ≠ f.name) : dictSet (dictSet l h) f = dictSet (dictSet l f) h := by
  induction l with
  | nil => simp at hf
  | cons x r ih =>
    simp only [dictSet]
    by_cases hxf : x.name = f.name
    · have hxh : ¬ x.name = h.name := fun e => hne (e.symm.trans hxf)
      have hfh : ¬ f.name = h.name := fun e => hne e.symm
      simp [hxf, hfh, dictSet]
    · have hf' : f.name ∈ r.map FDecl.name := by
        simp only [List.map_cons, List.mem_cons] at hf
        rcases hf with e | e
        · exact absurd e.symm hxf
        · exact e
      by_cases hxh : x.name = h.name
      · have hhf : ¬ h.name = f.name := hne
        simp [hxh, hhf, dictSet]
      · simp [hxf, hxh, dictSet, ih hf']

theorem name_mem_foldl (R l : List FDecl) (n : Str) (hn : n ∈ l.map FDecl.name) :
    n ∈ (R.foldl dictSet l).map FDecl.name := by
  induction R generalizing l with
  | nil => exact hn
  | cons x r ih => exact ih _ (name_mem_dictSet l x n hn)

/-- pushing an in-place update through later writes under other names -/
theorem foldl_dictSet_push (R l : List FDecl) (f : FDecl) (hf : f.name ∈ l.map FDecl.name)
    (hR : ∀ x ∈ R, x.name ≠ f.name) :
    dictSet (R.foldl dictSet l) f = R.foldl dictSet (dictSet l f) := by
  induction R generalizing l with
  | nil => rfl
  | cons x r ih =>
    simp only [List.foldl_cons]
    rw [ih (dictSet l x) (name_mem_dictSet l x _ hf) (fun y hy => hR y (by simp [hy]))]
    rw [dictSet_comm l f x hf (hR x (by simp))]

/-- writing `dictSet R f` into a dict = writing `R`, then `f` -/
theorem foldl_dictSet_dictSet (acc R : List FDecl) (f : FDecl) (hn : (R.map FDecl.name).Nodup) :
    (dictSet R f).foldl dictSet acc = dictSet (R.foldl dictSet acc) f := by
  induction R generalizing acc with
  | nil => rfl
  | cons x r ih =>
    rw [List.map_cons, List.nodup_cons] at hn
    by_cases hx : x.name = f.name
    · -- `f` takes the slot of `x`; nothing later in `R` has that name, so the update moves to the front
      have hmem : f.name ∈ (dictSet acc x).map FDecl.name := by
        rw [dictSet_names]
        split
        · rename_i h; exact hx ▸ h
        · simp [hx]
      rw [dictSet, if_pos hx, List.foldl_cons, List.foldl_cons,
        foldl_dictSet_push r _ f hmem fun y hy e => hn.1 (List.mem_map.mpr ⟨y, hy, e.trans hx.symm⟩),
        dictSet_same_name _ x f hx]
    · rw [dictSet, if_neg hx, List.foldl_cons, List.foldl_cons, ih _ hn.2]

/-- **writing the resolved fields of a class into a dict = replaying its declarations** -/
theorem foldl_resolved (acc ds : List FDecl) :
    (ds.foldl dictSet []).foldl dictSet acc = ds.foldl dictSet acc := by
  have key : ∀ (rev : List FDecl), (rev.reverse.foldl dictSet []).foldl dictSet acc
      = rev.reverse.foldl dictSet acc := by
    intro rev
    induction rev with
    | nil => rfl
    | cons f r ih =>
      simp only [List.reverse_cons, List.foldl_append, List.foldl_cons, List.foldl_nil]
      have hinv : ResInv (r.reverse.foldl dictSet []) ([] ++ r.reverse) :=
        ResInv.foldl (acc := []) (seen := []) ⟨rfl, by simp⟩ r.reverse
      rw [foldl_dictSet_dictSet acc _ f hinv.nodup, ih]
  simpa using key ds.reverse

/-- **`dataclasses` field collection under (multiple) inheritance**: the fields of a class whose
MRO bases (reversed) were built from the level lists `Ls`, with own declarations `own`, are
`resolve` of the flat replay of all those levels followed by `own` -/
theorem resolve_replay (Ls : List (List (List FDecl))) (own : List FDecl) :
    resolve (Ls.map resolve ++ [own]) = resolve (Ls.flatten ++ [own]) := by
  simp only [resolve_eq_foldl, List.flatten_append, List.foldl_append]
  congr 1
  generalize ([] : List FDecl) = acc
  induction Ls generalizing acc with
  | nil => rfl
  | cons L r ih =>
    simp only [List.map_cons, List.flatten_cons, List.foldl_append]
    rw [resolve_eq_foldl, foldl_resolved, ih]
    simp [List.foldl_append]

/-! non-vacuity: the quirk of diamonds with a common parent — `P: x`, `A(P)`, `B(P): x` (override),
`C(A, B)`: reversed MRO is P, B, A and A re-writes P's `x` over B's -/
private def px : FDecl := ⟨['x'], .prop, true, true, false⟩
private def bx : FDecl := ⟨['x'], .prop, false, true, false⟩
private def ay : FDecl := ⟨['y'], .childOne, true, true, false⟩
example : resolve ([[[px]], [[px], [bx]], [[px], [ay]]].map resolve ++ [[]]) = [px, ay] := by decide
example : resolve ([[[px]], [[px], [bx]], [[px], [ay]]].flatten ++ [[]]) = [px, ay] := by decide

end C12
end Acc
end PyOak
