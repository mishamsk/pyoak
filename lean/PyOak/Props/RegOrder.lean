/-
The heap of the registry machine is well-founded: every child was created before its parent, and
every harness variable refers to an object (`WF`, preserved by every admissible operation:
`wf_step`, `wf_run`).  Consequences:

* `descendants_complete`: the fuel `heap.length + 1` of the model's traversal `descendants`
  (`self.dfs()` inside `detach`) always suffices: it finds EVERY node below `x`
  (`C10X.Below`, the independent inductive reading).  With `C10X.descendants_sound`:
  `mem_descendants_iff`.
* `detach_unregisters_below`: after `x.detach()` neither `x` nor any node below `x` is returned
  by the registry — the "exactly as specified for detach" half of the C10 registry frame, over the
  inductive reading `Below` (a corollary of `C10X.detach_unregisters`).
-/
import PyOak.Props.C10Extra
namespace PyOak
namespace RegOrd
open RState RegL C03 C10X

/-- children are created before their parents (positions in the heap) -/
def Ordered (s : RState) : Prop :=
  ∀ (i : Nat) (o : RObj), s.heap[i]? = some o → ∀ k ∈ o.kids, ∃ j, j < i ∧ (s.heap.map (·.uid))[j]? = some k

def RootsOk (s : RState) : Prop := ∀ r ∈ s.roots, r.2 ∈ s.heap.map (·.uid)

structure WF (s : RState) : Prop where
  ordered : Ordered s
  roots : RootsOk s

theorem wf_empty : WF {} := ⟨by intro i o h; simp at h, by intro r h; simp at h⟩

theorem mem_uids_idx {heap : List RObj} {k : Nat} (h : k ∈ heap.map (·.uid)) :
    ∃ j, j < heap.length ∧ (heap.map (·.uid))[j]? = some k := by
  obtain ⟨j, hj⟩ := List.mem_iff_getElem?.mp h
  refine ⟨j, ?_, hj⟩
  have := (List.getElem?_eq_some_iff.mp hj).1
  simpa using this

theorem ordered_kids_mem {s : RState} (h : Ordered s) {o : RObj} (ho : o ∈ s.heap) : ∀ k ∈ o.kids, k ∈ s.heap.map (·.uid) := by
  obtain ⟨i, hi⟩ := List.mem_iff_getElem?.mp ho
  intro k hk
  obtain ⟨j, _, hj⟩ := h i o hi k hk
  exact List.mem_iff_getElem?.mpr ⟨j, hj⟩

/-- live objects are objects -/
theorem live_mem {s : RState} (hI : Inv s) (hW : WF s) {u : Nat} (hl : s.isLive u = true) : u ∈ s.heap.map (·.uid) := by
  refine isLive_ind (s := s) (fun a => a ∈ s.heap.map (fun (o : RObj) => o.uid)) (fun r hr => hW.roots r hr) ?_ hl
  intro a ha b hb
  obtain ⟨o, ho, rfl⟩ := List.mem_map.mp ha
  rw [kidsOf_of_mem hI.heapNodup ho] at hb
  exact ordered_kids_mem hW.ordered ho b hb

theorem ordered_pNew {s : RState} (h : Ordered s) (tok : Nat) (cls : Str) (mro : List Str) (base : Str) {kids : List Nat}
    (hk : ∀ k ∈ kids, k ∈ s.heap.map (·.uid)) : Ordered (s.pNew tok cls mro base kids) := by
  intro i o hi k hko
  have lift : ∀ j, j < i → (s.heap.map (·.uid))[j]? = some k →
      ∃ j, j < i ∧ ((s.pNew tok cls mro base kids).heap.map (·.uid))[j]? = some k := fun j hj hjk =>
    ⟨j, hj, by rw [uids_pNew, List.getElem?_append_left (List.getElem?_eq_some_iff.mp hjk).1]; exact hjk⟩
  have hi' : (s.heap ++ [{ uid := tok, cls := cls, mro := mro, base := base, id := s.freshId base, kids := kids }])[i]?
      = some o := hi
  rw [List.getElem?_append] at hi'
  split at hi'
  · obtain ⟨j, hj, hjk⟩ := h i o hi' k hko
    exact lift j hj hjk
  · obtain rfl := List.mem_singleton.mp (List.mem_of_getElem? hi')
    obtain ⟨j, hj, hjk⟩ := mem_uids_idx (hk k hko)
    exact lift j (by omega) hjk

theorem ordered_pForceId {s : RState} (h : Ordered s) (u : Nat) (sid : Str) : Ordered (s.pForceId u sid) := by
  intro i o hi k hko
  have huids := pForceId_uids s u sid
  rw [huids]
  simp only [pForceId, List.getElem?_map] at hi
  cases ho : s.heap[i]? with
  | none => simp [ho] at hi
  | some o' =>
    simp only [ho, Option.map_some, Option.some.injEq] at hi
    have hk' : o'.kids = o.kids := by rw [← hi]; split <;> rfl
    exact h i o' ho k (hk' ▸ hko)

theorem ordered_of_heap {s s' : RState} (hh : s'.heap = s.heap) (h : Ordered s) : Ordered s' := by
  intro i o hi; rw [hh] at hi ⊢; exact h i o hi

theorem dupAux_ordered (fuel : Nat) (s : RState) (x : Nat) (fresh : Fresh) (s' : RState) (u : Nat) (fr : Fresh)
    (hO : Ordered s) (h : s.dupAux fuel x fresh = some (s', u, fr)) : Ordered s' ∧ u ∈ s'.heap.map (·.uid) := by
  refine dupAux_ind
    (P := fun _ s _ _ s' u _ => Ordered s → Ordered s' ∧ u ∈ s'.heap.map (·.uid))
    (PK := fun _ s _ _ s' ks _ => Ordered s → Ordered s' ∧ (∀ k ∈ ks, k ∈ s'.heap.map (·.uid)) ∧
      ∀ w ∈ s.heap.map (·.uid), w ∈ s'.heap.map (·.uid))
    (fun _ _ _ hO => ⟨hO, (fun _ h => nomatch h), fun _ h => h⟩) ?_ ?_ fuel s x fresh s' u fr h hO
  · intro n s c rest f s1 c' f1 s2 cs f2 hd hP hPK hO
    obtain ⟨hO1, hc⟩ := hP hO
    obtain ⟨hO2, hks, hext⟩ := hPK hO1
    exact ⟨hO2, List.forall_mem_cons.mpr ⟨hext _ hc, hks⟩,
      fun w hw => hext w (evol_uids_sub (dupAux_evol _ _ _ _ _ _ _ hd) w hw)⟩
  · intro n s u f o s1 ks tok base fr _ hPK hO
    obtain ⟨hO1, hks, _⟩ := hPK hO
    exact ⟨ordered_pNew hO1 _ _ _ _ hks, by rw [uids_pNew]; simp⟩

mutual
theorem deserAux_ordered : ∀ (t : SerTree) (s : RState) (fresh : Fresh) (s' : RState) (r : Nat) (fr : Fresh),
    Inv s → FreshOk s fresh → Ordered s → s.deserAux t fresh = some (s', r, fr) →
    Ordered s' ∧ r ∈ s'.heap.map (·.uid)
  | .mk sid cls mro kids, s, fresh, s', r, fr, hI, hf, hO, h => by
    rcases deserAux_inv h with ⟨hg, rfl, rfl⟩ | ⟨_, s1, ks, base, hk, rfl⟩
    · obtain ⟨o, ho, h1, _⟩ := hI.regId _ _ (rget_some_mem hg)
      exact ⟨hO, List.mem_map.mpr ⟨o, ho, h1⟩⟩
    · obtain ⟨hO1, hks, _⟩ := deserKids_ordered kids s fresh s1 ks _ hI hf hO hk
      have hO2 := ordered_pNew hO1 r cls mro base hks
      split
      · exact ⟨hO2, by rw [uids_pNew]; simp⟩
      · exact ⟨ordered_pForceId hO2 _ _, by rw [pForceId_uids, uids_pNew]; simp⟩
theorem deserKids_ordered : ∀ (ts : List SerTree) (s : RState) (fresh : Fresh) (s' : RState) (us : List Nat) (fr : Fresh),
    Inv s → FreshOk s fresh → Ordered s → s.deserKids ts fresh = some (s', us, fr) →
    Ordered s' ∧ (∀ u ∈ us, u ∈ s'.heap.map (·.uid)) ∧ ∀ w ∈ s.heap.map (·.uid), w ∈ s'.heap.map (·.uid)
  | [], s, fresh, s', us, fr, _, _, hO, h => by
    simp [deserKids_nil] at h
    obtain ⟨rfl, rfl, _⟩ := h
    exact ⟨hO, (fun u hu => nomatch hu), fun _ hw => hw⟩
  | t :: r, s, fresh, s', us, fr, hI, hf, hO, h => by
    obtain ⟨s1, u, fr1, us', ha, hk, rfl⟩ := deserKids_cons_inv h
    have hE := deserAux_evol t s fresh s1 u fr1 ha
    obtain ⟨hI1, hf1⟩ := evol_good hE hI hf
    obtain ⟨hO1, hu⟩ := deserAux_ordered t s fresh s1 u fr1 hI hf hO ha
    obtain ⟨hO2, hus, hext2⟩ := deserKids_ordered r s1 fr1 s' us' fr hI1 hf1 hO1 hk
    refine ⟨hO2, fun w hw => ?_, fun w hw => hext2 w (evol_uids_sub hE w hw)⟩
    rcases List.mem_cons.mp hw with rfl | hw
    · exact hext2 _ hu
    · exact hus w hw
end

theorem roots_bind {s : RState} (h : RootsOk s) {v u : Nat} (hu : u ∈ s.heap.map (·.uid)) : RootsOk (s.bind v u) := by
  intro r hr
  simp only [RState.bind, List.mem_append, List.mem_singleton] at hr
  rcases hr with hr | rfl
  · exact h r (List.mem_filter.mp hr).1
  · exact hu

theorem roots_ext {s s' : RState} (hr : s'.roots = s.roots) (hext : ∀ w ∈ s.heap.map (·.uid), w ∈ s'.heap.map (·.uid))
    (h : RootsOk s) : RootsOk s' := by
  intro r hr'; rw [hr] at hr'; exact hext _ (h r hr')

theorem wf_pNew_bind {s : RState} (hW : WF s) (tok : Nat) (cls : Str) (mro : List Str) (base : Str) {kids : List Nat}
    (hk : ∀ k ∈ kids, k ∈ s.heap.map (·.uid)) (v : Nat) : WF ((s.pNew tok cls mro base kids).bind v tok) := by
  refine ⟨ordered_of_heap (s := s.pNew tok cls mro base kids) rfl (ordered_pNew hW.ordered tok cls mro base hk), ?_⟩
  apply roots_bind
  · exact roots_ext (s := s) rfl (fun w hw => by rw [uids_pNew]; exact List.mem_append_left _ hw) hW.roots
  · rw [uids_pNew]; simp

theorem wf_of_same {s s' : RState} (hh : s'.heap = s.heap) (hr : s'.roots = s.roots) (h : WF s) : WF s' :=
  ⟨ordered_of_heap hh h.ordered, roots_ext hr (fun w hw => by rw [hh]; exact hw) h.roots⟩

theorem wf_pre {s : RState} {op : ROp} {s1 : RState} (hI : Inv s) (hok : OpOk s op) (hW : WF s) (hp : Pre s op s1) :
    WF s1 := by
  have live_all : ∀ {kids : List Nat}, kids.all s.isLive = true → ∀ k ∈ kids, k ∈ s.heap.map (·.uid) :=
    fun hk k hk' => live_mem hI hW (List.all_eq_true.mp hk k hk')
  cases hp with
  | construct hk | dcReplace hx hk ho => exact wf_pNew_bind hW _ _ _ _ (live_all hk) _
  | @duplicate v x fresh s' u hx h =>
    have hE := dupAux_evol _ _ _ _ _ _ _ h
    obtain ⟨hO, hu⟩ := dupAux_ordered _ _ _ _ _ _ _ hW.ordered h
    exact ⟨ordered_of_heap (s := s') rfl hO, roots_bind (roots_ext hE.roots (evol_uids_sub hE) hW.roots) hu⟩
  | @duplicateD v x fresh s' u e fr hx h =>
    have hE := dupAux_evol _ _ _ _ _ _ _ h
    exact ⟨(dupAux_ordered _ _ _ _ _ _ _ hW.ordered h).1, roots_ext hE.roots (evol_uids_sub hE) hW.roots⟩
  | @replaceFail v x kids hx hk => exact wf_of_same (rollback_heap s x) (rollback_roots s x) hW
  | @replaceOk v x kids tok base o hx hk ho =>
    have hW1 : WF (s.pDetachSelf x).1 := wf_of_same (pDetachSelf_fst_heap s x) (pDetachSelf_fst_roots s x) hW
    exact wf_pNew_bind hW1 _ _ _ _ (by rw [pDetachSelf_fst_heap]; exact live_all hk) _
  | @detach x hx => exact wf_of_same (detachAll_heap (x :: _) s) (detachAll_roots (x :: _) s) hW
  | @detachSelf x hx => exact wf_of_same (detachAll_heap [x] s) (detachAll_roots [x] s) hW
  | @asObj v t fresh s' u h =>
    have hE := deserAux_evol _ _ _ _ _ _ h
    obtain ⟨hO, hu⟩ := deserAux_ordered _ _ _ _ _ _ hI hok hW.ordered h
    exact ⟨ordered_of_heap (s := s') rfl hO, roots_bind (roots_ext hE.roots (evol_uids_sub hE) hW.roots) hu⟩
  | @asObjD v t fresh s' u e fr h =>
    have hE := deserAux_evol _ _ _ _ _ _ h
    exact ⟨(deserAux_ordered _ _ _ _ _ _ hI hok hW.ordered h).1, roots_ext hE.roots (evol_uids_sub hE) hW.roots⟩
  | alias hu => exact ⟨ordered_of_heap (s := s) rfl hW.ordered, roots_bind hW.roots (live_mem hI hW hu)⟩
  | drop => exact ⟨ordered_of_heap (s := s) rfl hW.ordered, fun r hr => hW.roots r (List.mem_filter.mp hr).1⟩

/-- well-foundedness of the heap is preserved by every admissible operation -/
theorem wf_step {s : RState} {op : ROp} (hI : Inv s) (hok : OpOk s op) (hW : WF s) : WF (s.step op).1 := by
  rcases step_shape s op with h | ⟨s1, hp, h⟩
  · rw [h]; exact hW
  · rw [h]; exact wf_of_same (s := s1) rfl rfl (wf_pre hI hok hW hp)

theorem wf_run_from : ∀ (ops : List ROp) (s : RState), Inv s → WF s → AllOk s ops → WF (run s ops)
  | [], _, _, hW, _ => hW
  | _ :: r, _, hI, hW, hok => wf_run_from r _ (inv_step hI hok.1) (wf_step hI hok.1 hW) hok.2

theorem wf_run (ops : List ROp) (hok : AllOk {} ops) : WF (run {} ops) := wf_run_from ops {} inv_empty wf_empty hok

/-! ### the fuel of `descendants` suffices -/

theorem below_head {s : RState} {x u : Nat} (h : Below s x u) : ∃ c ∈ s.kidsOf x, u = c ∨ Below s c u := by
  induction h with
  | @kid c hc => exact ⟨c, hc, Or.inl rfl⟩
  | @step a c _ hc ih =>
    obtain ⟨c0, hc0, h | h⟩ := ih
    · subst h; exact ⟨a, hc0, Or.inr (Below.kid hc)⟩
    · exact ⟨c0, hc0, Or.inr (Below.step h hc)⟩

theorem descendants_complete_aux {s : RState} (hnd : (s.heap.map (·.uid)).Nodup) (hO : Ordered s) :
    ∀ (fuel i : Nat) (o : RObj), s.heap[i]? = some o → i < fuel → ∀ u, Below s o.uid u → u ∈ s.descendants fuel o.uid
  | 0, i, _, _, hlt, _, _ => by omega
  | fuel + 1, i, o, hi, hlt, u, hb => by
    have hom : o ∈ s.heap := List.mem_iff_getElem?.mpr ⟨i, hi⟩
    obtain ⟨c, hc, h⟩ := below_head hb
    simp only [descendants, List.mem_flatMap, List.mem_cons]
    refine ⟨c, hc, ?_⟩
    rcases h with h | h
    · exact Or.inl h
    · right
      rw [kidsOf_of_mem hnd hom] at hc
      obtain ⟨j, hj, hjk⟩ := hO i o hi c hc
      rw [List.getElem?_map] at hjk
      cases hoc : s.heap[j]? with
      | none => simp [hoc] at hjk
      | some oc =>
        simp only [hoc, Option.map_some, Option.some.injEq] at hjk
        subst hjk
        exact descendants_complete_aux hnd hO fuel j oc hoc (by omega) u h

/-- **the fuel `heap.length + 1` always suffices**: the model's traversal finds every node below `x` -/
theorem descendants_complete {s : RState} (hI : Inv s) (hW : WF s) {x : Nat} (hx : x ∈ s.heap.map (·.uid)) :
    ∀ u, Below s x u → u ∈ s.descendants (s.heap.length + 1) x := by
  obtain ⟨o, ho, rfl⟩ := List.mem_map.mp hx
  obtain ⟨i, hi⟩ := List.mem_iff_getElem?.mp ho
  have hlt : i < s.heap.length := (List.getElem?_eq_some_iff.mp hi).1
  exact descendants_complete_aux hI.heapNodup hW.ordered _ i o hi (by omega)

theorem mem_descendants_iff {s : RState} (hI : Inv s) (hW : WF s) {x : Nat} (hx : x ∈ s.heap.map (·.uid)) (u : Nat) :
    u ∈ s.descendants (s.heap.length + 1) x ↔ Below s x u :=
  ⟨descendants_sound s _ x u, descendants_complete hI hW hx u⟩

/-- **`x.detach()`: neither `x` nor ANY node below `x` is returned by the registry afterwards** -/
theorem detach_unregisters_below {s : RState} (hI : Inv s) (hW : WF s) {x : Nat} (hx : s.isLive x = true) :
    ∀ u, u = x ∨ Below s x u → ∀ k, (s.step (.detach x)).1.getAny k ≠ some u := by
  intro u hu
  apply detach_unregisters hI hx u
  rcases hu with rfl | hu
  · simp
  · exact List.mem_cons_of_mem _ (descendants_complete hI hW (live_mem hI hW hx) u hu)

/-- the registry frame of `detach`, both directions, over the inductive reading of "below" -/
theorem detach_exact {s : RState} (hI : Inv s) (hW : WF s) {x : Nat} (hx : s.isLive x = true) (e : Str × Nat)
    (he : e ∈ s.reg) (hl : (s.step (.detach x)).1.isLive e.2 = true) :
    e ∈ (s.step (.detach x)).1.reg ↔ ¬ (e.2 = x ∨ Below s x e.2) := by
  constructor
  · intro hm hb
    have hI2 := inv_step hI (op := .detach x) (opOk_nil rfl)
    exact detach_unregisters_below hI hW hx e.2 hb e.1 (rget_of_mem hI2.keysNodup hm)
  · intro hn
    rcases reg_frame_detach hI x e he with h | h | h | h
    · exact h
    · rw [hl] at h; cases h
    · exact absurd (Or.inl h) hn
    · exact absurd (Or.inr h) hn

/-! ### non-vacuity -/

section Examples
private def A : Str := "A".toList
/-- 1, 2 = A(1), 3 = A(2, 1), 4 (unrelated twin of 1) -/
def hist : List ROp :=
  [ .construct 0 A [A] [] [(1, "a".toList)], .construct 1 A [A] [1] [(2, "b".toList)],
    .construct 2 A [A] [2, 1] [(3, "c".toList)], .construct 3 A [A] [] [(4, "a".toList)] ]
example : AllOk {} hist := by decide
example : WF (run {} hist) := wf_run hist (by decide)
example : Below (run {} hist) 3 1 := Below.step (a := 2) (Below.kid (by decide)) (by decide)
example : (run {} hist).isLive 3 = true ∧ (run {} hist).descendants ((run {} hist).heap.length + 1) 3 = [2, 1, 1] := by decide
example : ((run {} hist).step (.detach 3)).1.reg = [("a_1".toList, 4)] := by decide +kernel
end Examples

end RegOrd
end PyOak

#print axioms PyOak.RegOrd.wf_step
#print axioms PyOak.RegOrd.wf_run
#print axioms PyOak.RegOrd.descendants_complete
#print axioms PyOak.RegOrd.mem_descendants_iff
#print axioms PyOak.RegOrd.detach_unregisters_below
#print axioms PyOak.RegOrd.detach_exact
