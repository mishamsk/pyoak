/-
C10 — no operation modifies an existing node: frame theorem on the registry machine.
Every record of the heap (class, mro, digest, id, children) is still there, unchanged, after any
operation; the only primitive that rewrites a record (`pForceId`, the tail of `_deserialize`)
touches objects created by the same operation.
-/
import PyOak.Props.C03
namespace PyOak
namespace C10
open RState RegL C03

/-- the heap is append-only for every operation but `as_obj` -/
theorem heap_frame_ext (s : RState) (op : ROp) (hop : isAsObj op = false) :
    ∃ ext, (s.step op).1.heap = s.heap ++ ext := by
  rcases step_shape s op with h | ⟨s1, hp, h⟩
  · rw [h]; exact ⟨[], (List.append_nil _).symm⟩
  · rw [h]
    rcases pre_normal hp with ⟨x, rfl⟩ | ⟨us, s', fr, r, hE, rfl, _⟩
    · exact ⟨[], by rw [← rollback_heap s x, List.append_nil]; rfl⟩
    · rw [hop] at hE
      obtain ⟨ext, he⟩ := hE.heap_ext
      exact ⟨ext, he.trans (congrArg (· ++ ext) (detachAll_heap us s))⟩

/-- every pre-existing record is unchanged (same cls/mro/base/id/kids) -/
theorem heap_frame (s : RState) (op : ROp) (hop : isAsObj op = false) :
    ∀ o ∈ s.heap, o ∈ (s.step op).1.heap := by
  intro o ho
  obtain ⟨ext, he⟩ := heap_frame_ext s op hop
  rw [he]; exact List.mem_append_left _ ho

/-- `as_obj`: every pre-existing record is unchanged provided its uid is not one of the fresh
tokens (which holds for every record when the operation is admissible, see `heap_frame_asObj'`) -/
theorem heap_frame_asObj (s : RState) (v : Nat) (t : SerTree) (fresh : Fresh) :
    ∀ o ∈ s.heap, o.uid ∉ fresh.map (·.1) → o ∈ (s.step (.asObj v t fresh)).1.heap := by
  intro o ho hu
  rcases step_shape s (.asObj v t fresh) with h | ⟨s1, hp, h⟩
  · rw [h]; exact ho
  · rw [h]
    cases hp with
    | asObj hd => exact evol_heap_frame (deserAux_evol _ _ _ _ _ _ hd) ho hu
    | asObjD hd => exact evol_heap_frame (deserAux_evol _ _ _ _ _ _ hd) ho hu

/-- for an admissible `as_obj` no pre-existing record is touched -/
theorem heap_frame_asObj' (s : RState) (v : Nat) (t : SerTree) (fresh : Fresh)
    (hok : OpOk s (.asObj v t fresh)) : ∀ o ∈ s.heap, o ∈ (s.step (.asObj v t fresh)).1.heap := by
  intro o ho
  apply heap_frame_asObj s v t fresh o ho
  intro hm
  exact hok.2 _ hm (List.mem_map.mpr ⟨o, ho, rfl⟩)

/-- all admissible operations: pre-existing records are unchanged -/
theorem heap_frame_all (s : RState) (op : ROp) (hok : OpOk s op) : ∀ o ∈ s.heap, o ∈ (s.step op).1.heap := by
  cases hop : isAsObj op with
  | false => exact heap_frame s op hop
  | true =>
    cases op with
    | asObj v t fresh => exact heap_frame_asObj' s v t fresh hok
    | _ => cases hop

/-- looked up by identity, an object shows the same record before and after -/
theorem obj_frame {s : RState} {op : ROp} (hI : Inv s) (hok : OpOk s op) {u : Nat} {o : RObj}
    (h : s.obj? u = some o) : (s.step op).1.obj? u = some o := by
  obtain ⟨hm, rfl⟩ := obj?_some h
  exact obj?_of_mem (inv_step hI hok).heapNodup (heap_frame_all s op hok o hm)

/-- over a whole admissible history -/
theorem heap_frame_run : ∀ (ops : List ROp) (s : RState), AllOk s ops → ∀ o ∈ s.heap, o ∈ (run s ops).heap
  | [], _, _, _, ho => ho
  | op :: r, s, hok, o, ho => heap_frame_run r _ hok.2 o (heap_frame_all s op hok.1 o ho)

end C10
end PyOak

#print axioms PyOak.C10.heap_frame
#print axioms PyOak.C10.heap_frame_ext
#print axioms PyOak.C10.heap_frame_asObj
#print axioms PyOak.C10.heap_frame_asObj'
#print axioms PyOak.C10.heap_frame_all
#print axioms PyOak.C10.obj_frame
#print axioms PyOak.C10.heap_frame_run
