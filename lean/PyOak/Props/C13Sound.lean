/-
C13 — what holds of the checker WITHOUT a don't-care hypothesis, and exactness under the weakest one.

The model is never stricter than the specification, at any value and any annotation of the grammar
(the first half of `C13.between`):
    conforms_imp               conforms v t = true → isInstance v t = true
    construct_ok_of_conforms   every checked field conforms ⇒ construction succeeds (switch on)
    checkRuntimeTypes_sublist  the reported fields are a sub-LIST (order, multiplicity) of the
                               non-conforming ones: nothing conforming is ever reported
    construct_error_sound      an `InvalidTypes` error names only non-conforming fields, and ≥ 1
    construct_on_checked       `C13.construct_on` with the don't-care hypothesis for the CHECKED fields
                               only (`C13.invalid_fields_exact_checked`): `id` / `content_id` may hold anything
    field_reported_iff         per-field exactness: one don't-care field does not spoil the others
    lit_exact                  literals: checker = specification when no member is cross-type-equal
Cf. AUDIT.md item 8.
-/
import PyOak.Props.C13
namespace PyOak
namespace C13
open RT

theorem conforms_imp (v : PyVal) (t : Ty) (h : conforms v t = true) : isInstance v t = true :=
  (between v t).1 h

theorem conformsAny_imp (v : PyVal) (ts : List Ty) (h : conformsAny v ts = true) : isInstAny v ts = true :=
  (betweenAny v ts).1 h

theorem conformsZip_imp (xs : List PyVal) (ts : List Ty) (h : conformsZip xs ts = true) : isInstZip xs ts = true :=
  (betweenZip xs ts).1 h

theorem filter_sublist_of_imp {α : Type} (p q : α → Bool) (hpq : ∀ x, p x = true → q x = true) (l : List α) :
    (l.filter p).Sublist (l.filter q) := by
  have : l.filter p = (l.filter q).filter p := by
    rw [List.filter_filter]
    exact List.filter_congr fun x _ => by cases h : p x <;> simp [hpq x, h]
  exact this ▸ List.filter_sublist

/-- what `_check_runtime_types` reports is a sub-list of the non-conforming checked fields (same
order, no field reported twice as often): a conforming field is never reported — for all field
lists, no don't-care hypothesis -/
theorem checkRuntimeTypes_sublist (fs : List FieldV) :
    (checkRuntimeTypes fs).Sublist (nonConforming fs) := by
  unfold checkRuntimeTypes nonConforming
  apply List.Sublist.map
  apply filter_sublist_of_imp
  intro f hf
  simp only [Bool.not_eq_true', isInstance_unwrap] at hf ⊢
  cases hc : conforms f.val f.ty with
  | false => rfl
  | true => rw [conforms_imp _ _ hc] at hf; cases hf

/-- success direction of the statement, no don't-care hypothesis: if every checked field holds a
conforming value, construction with the switch on succeeds (and builds what the switch-off
construction builds, `construct_off`) -/
theorem construct_ok_of_conforms (fs : List FieldV)
    (h : ∀ f ∈ fs, f.checked = true → conforms f.val f.ty = true) :
    construct true fs = .ok (mkBuilt fs) := by
  have : checkRuntimeTypes fs = [] :=
    List.eq_nil_of_sublist_nil ((nonConforming_nil_iff fs).mpr h ▸ checkRuntimeTypes_sublist fs)
  simp [construct, this]

theorem checkRuntimeTypes_subset (fs : List FieldV) : ∀ x ∈ checkRuntimeTypes fs, x ∈ nonConforming fs :=
  fun _ hx => (checkRuntimeTypes_sublist fs).subset hx

/-- an `InvalidTypes` error lists at least one field, and only non-conforming checked fields -/
theorem construct_error_sound (fs : List FieldV) (bad : List Str) (h : construct true fs = .error bad) :
    bad ≠ [] ∧ bad.Sublist (nonConforming fs) := by
  obtain ⟨h1, h2⟩ := construct_on_error_nonempty fs bad h
  exact ⟨h1, h2 ▸ checkRuntimeTypes_sublist fs⟩

/-- construction with the switch on fails only if some checked field really does not conform -/
theorem construct_error_witness (fs : List FieldV) (bad : List Str) (h : construct true fs = .error bad) :
    ∃ f ∈ fs, f.checked = true ∧ conforms f.val f.ty = false := by
  obtain ⟨h1, h2⟩ := construct_error_sound fs bad h
  obtain ⟨x, hx⟩ := List.exists_mem_of_ne_nil bad h1
  have := h2.subset hx
  simp only [nonConforming, List.mem_map, List.mem_filter, Bool.not_eq_true'] at this
  obtain ⟨f, ⟨⟨a, b⟩, c⟩, -⟩ := this
  exact ⟨f, a, b, c⟩

theorem construct_on_checked (fs : List FieldV)
    (h : ∀ f ∈ fs, f.checked = true → dontCare f.val f.ty = false) :
    construct true fs =
      if (∀ f ∈ fs, f.checked = true → conforms f.val f.ty = true) then .ok (mkBuilt fs)
      else .error (nonConforming fs) :=
  construct_of_exact fs (invalid_fields_exact_checked fs h)

/-- per-field exactness: whether ONE field is reported depends on that field alone; outside its own
don't-care points it is reported iff it is checked and does not conform (whatever the other fields hold) -/
theorem field_reported_iff (pre post : List FieldV) (f : FieldV) (hd : dontCare f.val f.ty = false) :
    checkRuntimeTypes (pre ++ f :: post) =
      checkRuntimeTypes pre ++ (if f.checked && !conforms f.val f.ty then [f.name] else []) ++
        checkRuntimeTypes post := by
  simp only [checkRuntimeTypes, List.filter_append, List.filter_cons, List.map_append, List.append_assoc]
  congr 1
  have e := isInstance_eq_conforms f.val f.ty hd
  rw [← isInstance_unwrap] at e
  cases hc : f.checked <;> cases hv : conforms f.val f.ty <;> simp [hv, e]

/-! ### "literals by membership" -/

/-- the specification: membership with equal values OF EQUAL TYPES -/
theorem conforms_lit (v : PyVal) (ms : List Lit) : conforms v (.lit ms) = ms.any (fun m => strictEqLit v m) := rfl

/-- they agree whenever no member is cross-type-equal to the value (`1 == True`, `1 == 1.0`) -/
theorem lit_exact (v : PyVal) (ms : List Lit) (h : ∀ m ∈ ms, crossEqLit v m = false) :
    isInstance v (.lit ms) = conforms v (.lit ms) :=
  isInstance_eq_conforms v (.lit ms) (List.any_eq_false.mpr fun m hm => Bool.eq_false_iff.mp (h m hm))

-- `conforms_imp` is strict: at a don't-care point the model accepts more than the specification
example : conforms (.bool true) .float = false ∧ isInstance (.bool true) .float = true := by decide
-- a field list with a don't-care field (`w : float = True`): `construct_on` does not apply,
-- `construct_ok_of_conforms` / `checkRuntimeTypes_sublist` do
def fsDC : List FieldV :=
  [⟨"id".toList, .str, .int 5⟩, ⟨"y".toList, .newtype sA .bool, .bool false⟩,
   ⟨"w".toList, .lit [.int 1, .bool true], .int 1⟩]
example : ¬ (∀ f ∈ fsDC, dontCare f.val f.ty = false) := by decide
private theorem fsDC_conforms : ∀ f ∈ fsDC, f.checked = true → conforms f.val f.ty = true := by decide +kernel
example : ∀ f ∈ fsDC, f.checked = true → conforms f.val f.ty = true := fsDC_conforms
example : construct true fsDC = .ok (mkBuilt fsDC) := construct_ok_of_conforms fsDC fsDC_conforms
-- the error case: `fsDemo` (from C13.lean) is rejected; the reported fields are non-conforming
example : construct true fsDemo = .error ["x".toList, "z".toList] ∧
    nonConforming fsDemo = ["x".toList, "z".toList] := ⟨rfl, by decide⟩
-- the inclusion can be strict (reported ⊊ non-conforming) exactly at don't-care points
def fsStrict : List FieldV := [⟨"w".toList, .float, .bool true⟩]
example : checkRuntimeTypes fsStrict = [] ∧ nonConforming fsStrict = ["w".toList] := by decide +kernel
-- `invalid_fields_exact_checked`: the unchecked `id` field may be a don't-care point
def fsId : List FieldV := [⟨"id".toList, .float, .bool true⟩, ⟨"x".toList, .int, .bool true⟩]
example : dontCare (.bool true) .float = true ∧ ∀ f ∈ fsId, f.checked = true → dontCare f.val f.ty = false := by
  decide +kernel
example : construct true fsId = .error ["x".toList] := rfl
-- literals: membership, strict in the specification, Python `==` in the code
example : isInstance (.str sA) (.lit [.int 1, .str sA]) = true ∧ conforms (.str sA) (.lit [.int 1, .str sA]) = true ∧
    isInstance (.bool true) (.lit [.int 1]) = true ∧ conforms (.bool true) (.lit [.int 1]) = false := by decide
example : isInstance (.int 2) (.lit [.int 1, .str sA]) = conforms (.int 2) (.lit [.int 1, .str sA]) :=
  lit_exact _ _ (by decide)

end C13
end PyOak
