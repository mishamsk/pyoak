/-
C04 (registry half) — `_deserialize` on the registry machine: a serialized node whose id is
registered is answered by the registered original (nothing is created); otherwise a new node is
created, registered under exactly the serialized id, with the serialized class and, as children,
the results of its serialized children in order; the same serialized id always maps to the same
object (these absent the id clash of defect F19, `clashAux`); and no registry entry is ever overwritten.
-/
import PyOak.Props.C10Extra
namespace PyOak
namespace C04
open RState RegL C03

def SerTree.sid : SerTree → Str
  | .mk sid _ _ _ => sid

/-- the registered original is returned, nothing is created, the state is unchanged -/
theorem deser_reuse {s : RState} {sid : Str} {u : Nat} (h : s.regGet sid = some u) (cls : Str) (mro : List Str)
    (kids : List SerTree) (fresh : Fresh) : s.deserAux (.mk sid cls mro kids) fresh = some (s, u, fresh) := by
  rw [deserAux_eq, h]

theorem deser_reuse' {s : RState} {t : SerTree} {u : Nat} (h : s.regGet (SerTree.sid t) = some u) (fresh : Fresh) :
    s.deserAux t fresh = some (s, u, fresh) := by
  cases t with
  | mk sid cls mro kids => exact deser_reuse h cls mro kids fresh

/-- every node id of the tree is registered (to a live object, at quiescent points: `RegLive`) -/
def AllRegistered (s : RState) : SerTree → Prop
  | .mk sid _ _ kids => (s.regGet sid).isSome = true ∧ ∀ t ∈ kids, AllRegistered s t

/-- a tree all of whose ids are registered deserializes to the original root, state unchanged
(only the root is ever looked at) -/
theorem deser_reuse_all {s : RState} {t : SerTree} (h : AllRegistered s t) (fresh : Fresh) :
    ∃ u, s.regGet (SerTree.sid t) = some u ∧ s.deserAux t fresh = some (s, u, fresh) := by
  cases t with
  | mk sid cls mro kids =>
    unfold AllRegistered at h
    obtain ⟨u, hu⟩ := Option.isSome_iff_exists.mp h.1
    exact ⟨u, hu, deser_reuse hu cls mro kids fresh⟩

/-- a list of children whose ids are all registered: the registered objects, in order -/
theorem deserKids_reuse {s : RState} : ∀ (ts : List SerTree) (fresh : Fresh),
    (∀ t ∈ ts, (s.regGet (SerTree.sid t)).isSome = true) →
    ∃ us, s.deserKids ts fresh = some (s, us, fresh) ∧ us.map some = ts.map (fun t => s.regGet (SerTree.sid t))
  | [], fresh, _ => ⟨[], deserKids_nil s fresh, rfl⟩
  | t :: r, fresh, h => by
    obtain ⟨u, hu⟩ := Option.isSome_iff_exists.mp (h t (by simp))
    obtain ⟨us, h1, h2⟩ := deserKids_reuse r fresh (fun t' ht' => h t' (List.mem_cons_of_mem _ ht'))
    refine ⟨u :: us, ?_, by simp [hu, h2]⟩
    simp only [deserKids_cons, deser_reuse' hu, h1]

/-- `s'` extends `s`: every registry entry and every record of `s` is in `s'` -/
structure Persist (s s' : RState) : Prop where
  inv : Inv s'
  reg : ∀ e ∈ s.reg, e ∈ s'.reg
  heap : ∀ o ∈ s.heap, o ∈ s'.heap

theorem Persist.refl {s : RState} (h : Inv s) : Persist s s := ⟨h, fun _ h => h, fun _ h => h⟩

theorem Persist.trans {a b c : RState} (h1 : Persist a b) (h2 : Persist b c) : Persist a c :=
  ⟨h2.inv, fun e he => h2.reg e (h1.reg e he), fun o ho => h2.heap o (h1.heap o ho)⟩

theorem Persist.regGet {s s' : RState} (h : Persist s s') {k : Str} {u : Nat} (hg : s.regGet k = some u) :
    s'.regGet k = some u :=
  rget_of_mem h.inv.keysNodup (h.reg _ (rget_some_mem hg))

theorem Persist.mem_reg {s s' : RState} (h : Persist s s') {k : Str} {u : Nat} (hm : (k, u) ∈ s.reg) :
    s'.regGet k = some u :=
  rget_of_mem h.inv.keysNodup (h.reg _ hm)

theorem Persist.obj {s s' : RState} (h : Persist s s') {o : RObj} (ho : o ∈ s.heap) : s'.obj? o.uid = some o :=
  obj?_of_mem h.inv.heapNodup (h.heap o ho)

theorem evol_persist {K L : Nat → Prop} {F : Bool} {s f s1 f1} (hE : Evol K L F false s f s1 f1)
    (hI : Inv s) (hf : FreshOk s f) : Persist s s1 where
  inv := (evol_good hE hI hf).1
  reg := (evol_cases hE hI hf).2
  heap := by
    intro o ho
    apply C10.evol_heap_frame hE ho
    intro hm
    exact hf.2 _ hm (List.mem_map.mpr ⟨o, ho, rfl⟩)

/-- `_deserialize` overwrites no registry entry — every `(k, u)` of the registry is still there afterwards, so no
registered foreign node is evicted — and changes no record, id clash (defect F19) or not: a forced id was looked
up and found free at the start of the call (`C10X.deserAux_reg_keep`) -/
theorem deser_persist {s : RState} {t : SerTree} {fresh : Fresh} {s' : RState} {u : Nat} {fr : Fresh}
    (hI : Inv s) (hf : FreshOk s fresh) (h : s.deserAux t fresh = some (s', u, fr)) : Persist s s' where
  inv := (evol_good (deserAux_evol t s fresh s' u fr h) hI hf).1
  reg := C10X.deserAux_reg_keep t s fresh s' u fr hI hf h
  heap := fun o ho => C10.evol_heap_frame (deserAux_evol t s fresh s' u fr h) ho
    fun hm => hf.2 _ hm (List.mem_map.mpr ⟨o, ho, rfl⟩)

/-- the two registry readings of `deser_persist` (`hnc` is not needed) -/
theorem deser_never_overwrites_live {s : RState} {t : SerTree} {fresh : Fresh} {s' : RState} {u : Nat}
    {fr : Fresh} (hI : Inv s) (hf : FreshOk s fresh) (hnc : clashAux s t fresh = false)
    (h : s.deserAux t fresh = some (s', u, fr)) :
    (∀ k w, (k, w) ∈ s.reg → (k, w) ∈ s'.reg) ∧ (∀ k w, s.regGet k = some w → s'.regGet k = some w) :=
  ⟨fun k w hm => (deser_persist hI hf h).reg (k, w) hm, fun _ _ hg => (deser_persist hI hf h).regGet hg⟩

theorem deserKids_persist {s : RState} {ts : List SerTree} {fresh : Fresh} {s' : RState} {us : List Nat}
    {fr : Fresh} (hI : Inv s) (hf : FreshOk s fresh) (hnc : clashKids s ts fresh = false)
    (h : s.deserKids ts fresh = some (s', us, fr)) : Persist s s' ∧ FreshOk s' fr :=
  have hE := (deserKids_evolK (fun _ => True) ts s fresh s' us fr (fun _ _ => trivial) (fun _ _ => trivial) hnc h).1
  ⟨evol_persist hE hI hf, (evol_good hE hI hf).2⟩

mutual
/-- `Realizes s' si f t u`: deserializing `t` in state `si` (fresh tokens `f`) yields `u`, described
by facts of the **final** state `s'`. -/
inductive Realizes (s' : RState) : RState → Fresh → SerTree → Nat → Prop
  /-- the id was registered when the node was processed: the registered object is returned
  (and is still the one registered under `sid` at the end) -/
  | reuse {si : RState} {f : Fresh} {sid cls : Str} {mro : List Str} {kids : List SerTree} {u : Nat}
      (h : si.regGet sid = some u) (hreg : s'.regGet sid = some u) :
      Realizes s' si f (.mk sid cls mro kids) u
  /-- the id was free: a new object (a fresh token, not an object before) is created; at the end it
  is registered under exactly `sid`, carries `sid`, the serialized class, and its children are the
  results of the serialized children, in order -/
  | create {si : RState} {f : Fresh} {sid cls : Str} {mro : List Str} {kids : List SerTree} {u : Nat}
      {us : List Nat} {o : RObj} {s1 : RState} {base : Str} {fr : Fresh}
      (h : si.regGet sid = none)
      (hk : si.deserKids kids f = some (s1, us, (u, base) :: fr))
      (hkids : RealizesL s' si f kids us)
      (htok : u ∈ f.map (·.1)) (hnew : u ∉ si.heap.map (·.uid))
      (hreg : s'.regGet sid = some u) (ho : s'.obj? u = some o)
      (hid : o.id = sid) (hcls : o.cls = cls) (hmro : o.mro = mro) (hks : o.kids = us) :
      Realizes s' si f (.mk sid cls mro kids) u
inductive RealizesL (s' : RState) : RState → Fresh → List SerTree → List Nat → Prop
  | nil {si : RState} {f : Fresh} : RealizesL s' si f [] []
  | cons {si : RState} {f : Fresh} {t : SerTree} {r : List SerTree} {u : Nat} {us : List Nat}
      {s1 : RState} {f1 : Fresh}
      (ha : si.deserAux t f = some (s1, u, f1)) (h1 : Realizes s' si f t u) (h2 : RealizesL s' s1 f1 r us) :
      RealizesL s' si f (t :: r) (u :: us)
end

mutual
theorem deserAux_realizes : ∀ (t : SerTree) (si : RState) (f : Fresh) (s2 : RState) (u : Nat) (f2 : Fresh),
    Inv si → FreshOk si f → clashAux si t f = false → si.deserAux t f = some (s2, u, f2) →
    ∀ s', Persist s2 s' → Realizes s' si f t u
  | .mk sid cls mro kids, si, f, s2, u, f2, hI, hf, hc, h, s', hP => by
    rcases deserAux_inv h with ⟨hg, rfl, rfl⟩ | ⟨hg, s1, us, base, hk, hs2⟩
    · exact Realizes.reuse hg (hP.regGet hg)
    · have hc' := hc
      rw [clashAux_eq] at hc'
      simp only [hg, hk, Bool.or_eq_false_iff] at hc'
      obtain ⟨hc1, hc2⟩ := hc'
      obtain ⟨hP1, hf1⟩ := deserKids_persist hI hf hc1 hk
      have hI1 := hP1.inv
      have htok1 : u ∉ s1.heap.map (·.uid) := hf1.head
      -- the last step, as a one-step evolution from `s1`
      have hE : Evol (fun _ => True) (fun _ => True) true false s1 ((u, base) :: f2) s2 f2 := by
        rw [hs2]
        split
        · exact Evol.new (Evol.refl _ _) _ _ _ (fun _ _ => trivial) trivial
        · rename_i hne
          refine Evol.newForce rfl (Evol.refl _ _) _ _ _ (fun _ _ => trivial) trivial _ (fun _ => ?_)
          simp only [hne, Bool.not_false, Bool.true_and] at hc2
          rw [← rget_isSome_iff, ← regGet_def]
          simp [hc2]
      have hP12 : Persist s1 s2 := evol_persist hE hI1 hf1
      have hkids := deserKids_realizes kids si f s1 us _ hI hf hc1 hk s' (hP12.trans hP)
      have htok : u ∈ f.map (·.1) := (deserKids_evol kids si f s1 us _ hk).head_mem
      have hnew : u ∉ si.heap.map (·.uid) := hf.2 u htok
      -- the record created, in `s2`
      have hrec : ∃ o ∈ s2.heap, o.uid = u ∧ o.id = sid ∧ o.cls = cls ∧ o.mro = mro ∧ o.kids = us ∧
          (sid, u) ∈ s2.reg := by
        rw [hs2]
        split
        · rename_i heq
          have heq' : (s1.pNew u cls mro base us).idOf u = sid := by simpa using heq
          rw [idOf_pNew htok1] at heq'
          refine ⟨_, List.mem_append_right _ (List.mem_singleton.mpr rfl), rfl, heq', rfl, rfl, rfl, ?_⟩
          simp only [pNew]
          rw [heq']
          exact mem_regSet.mpr (Or.inr rfl)
        · refine ⟨{ uid := u, cls := cls, mro := mro, base := base, id := sid, kids := us }, ?_, rfl, rfl, rfl,
            rfl, rfl, ?_⟩
          · simp only [pForceId, pNew]
            refine List.mem_map.mpr ⟨{ uid := u, cls := cls, mro := mro, base := base, id := s1.freshId base, kids := us }, List.mem_append_right _ (List.mem_singleton.mpr rfl), ?_⟩
            simp
          · simp only [pForceId]
            exact mem_regSet.mpr (Or.inr rfl)
      obtain ⟨o, ho, hu, hid, hcls, hmro, hks, hreg⟩ := hrec
      exact Realizes.create hg hk hkids htok hnew (hP.mem_reg hreg) (hu ▸ hP.obj ho) hid hcls hmro hks
theorem deserKids_realizes : ∀ (ts : List SerTree) (si : RState) (f : Fresh) (s2 : RState) (us : List Nat)
    (f2 : Fresh), Inv si → FreshOk si f → clashKids si ts f = false → si.deserKids ts f = some (s2, us, f2) →
    ∀ s', Persist s2 s' → RealizesL s' si f ts us
  | [], si, f, s2, us, f2, _, _, _, h, s', _ => by
    simp [deserKids_nil] at h
    obtain ⟨_, rfl, _⟩ := h
    exact RealizesL.nil
  | t :: r, si, f, s2, us, f2, hI, hf, hc, h, s', hP => by
    obtain ⟨s1, u, f1, us', ha, hk, rfl⟩ := deserKids_cons_inv h
    rw [clashKids_cons] at hc
    simp only [ha, Bool.or_eq_false_iff] at hc
    have hE1 := (deserAux_evolK (fun _ => True) t si f s1 u f1 (fun _ _ => trivial) (fun _ _ => trivial)
      hc.1 ha).1
    obtain ⟨hI1, hf1⟩ := evol_good hE1 hI hf
    obtain ⟨hP12, _⟩ := deserKids_persist hI1 hf1 hc.2 hk
    exact RealizesL.cons ha (deserAux_realizes t si f s1 u f1 hI hf hc.1 ha s' (hP12.trans hP))
      (deserKids_realizes r s1 f1 s2 us' f2 hI1 hf1 hc.2 hk s' hP)
end

/-- the result of `_deserialize`, described in the final state (`Realizes`) -/
theorem deser_fresh_ids {s : RState} {t : SerTree} {fresh : Fresh} {s' : RState} {u : Nat} {fr : Fresh}
    (hI : Inv s) (hf : FreshOk s fresh) (hnc : clashAux s t fresh = false)
    (h : s.deserAux t fresh = some (s', u, fr)) : Realizes s' s fresh t u :=
  deserAux_realizes t s fresh s' u fr hI hf hnc h s' (Persist.refl (deser_persist hI hf h).inv)

/-- every deserialized node — re-used or created — ends up registered under its serialized id and
carries that id -/
theorem Realizes.registered {s' si : RState} {f : Fresh} {t : SerTree} {u : Nat} (hI' : Inv s')
    (h : Realizes s' si f t u) : s'.regGet (SerTree.sid t) = some u ∧ s'.idOf u = SerTree.sid t := by
  cases h with
  | reuse _ hreg => exact ⟨hreg, key_of_mem hI' (rget_some_mem hreg)⟩
  | create _ _ _ _ _ hreg => exact ⟨hreg, key_of_mem hI' (rget_some_mem hreg)⟩

/-- root-level reading of (2) for a node whose id was free -/
theorem deser_root_created {s : RState} {sid cls : Str} {mro : List Str} {kids : List SerTree} {fresh : Fresh}
    {s' : RState} {u : Nat} {fr : Fresh} (hI : Inv s) (hf : FreshOk s fresh)
    (hnc : clashAux s (.mk sid cls mro kids) fresh = false)
    (h : s.deserAux (.mk sid cls mro kids) fresh = some (s', u, fr)) (hfree : s.regGet sid = none) :
    u ∈ fresh.map (·.1) ∧ u ∉ s.heap.map (·.uid) ∧ s'.regGet sid = some u ∧ s'.idOf u = sid ∧
    ∃ o s1 us base, s'.obj? u = some o ∧ o.cls = cls ∧ o.mro = mro ∧ o.kids = us ∧
      s.deserKids kids fresh = some (s1, us, (u, base) :: fr) ∧ RealizesL s' s fresh kids us := by
  have hR := deser_fresh_ids hI hf hnc h
  have hI' := (deser_persist hI hf h).inv
  have hreg := (hR.registered hI')
  cases hR with
  | reuse hg _ => rw [hfree] at hg; cases hg
  | @create _ _ _ _ _ _ _ us o s1 base fr' _ hk hkids htok hnew _ ho _ hcls hmro hks =>
    have : fr' = fr := by
      rcases deserAux_inv h with ⟨hg, _, _⟩ | ⟨_, s1', us', base', hk', _⟩
      · rw [hfree] at hg; cases hg
      · rw [hk] at hk'
        simp only [Option.some.injEq, Prod.mk.injEq, List.cons.injEq] at hk'
        exact hk'.2.2.2
    subst this
    exact ⟨htok, hnew, hreg.1, hreg.2, o, s1, us, base, ho, hcls, hmro, hks, hk, hkids⟩

/-- **sharing**: once a node with id `sid` has been deserialized (re-used or created), any further
serialized node with the same id — whatever its other fields — is answered by that same object,
and nothing is created -/
theorem deser_shared {s : RState} {sid cls : Str} {mro : List Str} {kids : List SerTree} {fresh : Fresh}
    {s' : RState} {u : Nat} {fr : Fresh} (hI : Inv s) (hf : FreshOk s fresh)
    (hnc : clashAux s (.mk sid cls mro kids) fresh = false)
    (h : s.deserAux (.mk sid cls mro kids) fresh = some (s', u, fr))
    (cls' : Str) (mro' : List Str) (kids' : List SerTree) (f' : Fresh) :
    s'.deserAux (.mk sid cls' mro' kids') f' = some (s', u, f') := by
  have hI' := (deser_persist hI hf h).inv
  exact deser_reuse ((deser_fresh_ids hI hf hnc h).registered hI').1 cls' mro' kids' f'

/-- … and this keeps holding after any later clash-free `_deserialize` -/
theorem deser_shared_later {s s' s'' : RState} {t t' : SerTree} {fresh f' : Fresh} {u u' : Nat} {fr fr' : Fresh}
    (hI : Inv s) (hf : FreshOk s fresh) (hnc : clashAux s t fresh = false)
    (h : s.deserAux t fresh = some (s', u, fr))
    (hf' : FreshOk s' f') (hnc' : clashAux s' t' f' = false) (h' : s'.deserAux t' f' = some (s'', u', fr'))
    (f'' : Fresh) : s''.deserAux t f'' = some (s'', u, f'') := by
  have hP := deser_persist hI hf h
  have hP' := deser_persist hP.inv hf' h'
  exact deser_reuse' (hP'.regGet ((deser_fresh_ids hI hf hnc h).registered hP.inv).1) f''

/-! non-vacuity: a parent with two occurrences of the same child id: one object is created for the
child and shared -/

section Examples
private def A : Str := "A".toList
private def P : Str := "P".toList
private def tree : SerTree :=
  .mk "p".toList P [P] [.mk "c".toList A [A] [], .mk "c".toList A [A] []]
private def toks : Fresh := [(1, "d1".toList), (2, "d2".toList)]

example : clashAux {} tree toks = false := by decide +kernel
example : (({} : RState).deserAux tree toks).map (fun r => r.1.reg) =
    some [("c".toList, 1), ("p".toList, 2)] := by decide +kernel
example : (({} : RState).deserAux tree toks).map (fun r => r.1.kidsOf 2) = some [1, 1] := by decide +kernel
example : (({} : RState).deserAux tree toks).map (fun r => r.2.1) = some 2 := by decide
end Examples

end C04
end PyOak

#print axioms PyOak.C04.deser_reuse
#print axioms PyOak.C04.deser_reuse_all
#print axioms PyOak.C04.deserKids_reuse
#print axioms PyOak.C04.deser_fresh_ids
#print axioms PyOak.C04.deser_root_created
#print axioms PyOak.C04.Realizes.registered
#print axioms PyOak.C04.deser_shared
#print axioms PyOak.C04.deser_shared_later
#print axioms PyOak.C04.deser_persist
#print axioms PyOak.C04.deser_never_overwrites_live
