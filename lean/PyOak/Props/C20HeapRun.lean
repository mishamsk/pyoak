/-
C20 — the heap-level theorems over histories (`heap_walks_run`: after any admissible history of legacy operations from
the empty world, from every live object, legacy `dfs` / `bfs` / `gather` on the heap are the successor's walks on the
represented tree, and `calculate_xpath` of a live root is the successor's `Tree.get_xpath`; `legacy_match_heap_run`
is in Props/C20ParentClean.lean), and their non-vacuity.

The examples run the theorems on the state after `C18.histAdm.take 10` (construct, replace of a child, a rejected
constructor, replace_with by a detached node and by an attached root): the live tree is
`3:U(arg = 4:U(arg = 7:U(arg = 0:L)))`, objects 1, 2, 6 are detached, 5 is the garbage of the rejected call.
-/
import PyOak.Props.C20HeapWalk
import PyOak.Props.C20ParentClean
namespace PyOak
namespace C20
open Legacy Legacy.C18 LState

variable (H Hc : Str → Str)

/-- the walks and `calculate_xpath` on the heap against the successor, after every admissible history -/
theorem heap_walks_run (ops : List LOp) (hg : AdmRun H Hc init ops) {u : Nat} (hu : Att (run H Hc init ops) u)
    (p f : Nat → Bool) :
    let s := run H Hc init ops
    (∀ bu, hdfsImpl s p f bu true u = (dfsImpl (onUid p) (onUid f) bu (treeOf s u)).map (·.node.uid)) ∧
    hbfsImpl s p f true u = (bfsImpl (onUid p) (onUid f) (treeOf s u)).map (·.node.uid) ∧
    (∀ classes exact, hgatherImpl s classes exact f p true u =
      (gatherImpl classes exact (onUid f) (onUid p) (treeOf s u)).map (·.uid)) ∧
    (s.parent u = none → ∃ l, hcalcXpath s u = .ok l ∧
      ∀ x str, (x, str) ∈ l → (TreeT.build (treeOf s u)).getXpath (treeOf s x) = .ok str) := by
  intro s
  obtain ⟨hI, hR, _⟩ := reachable_ok H Hc ops hg
  refine ⟨fun bu => (heap_dfs_successor Hc hI hR hu p f bu).1, (heap_bfs_successor Hc hI hR hu p f).1,
    fun classes exact => heap_gather_successor Hc hI hR hu classes exact f p, fun hp => ?_⟩
  obtain ⟨l, h1, _, h3⟩ := heap_calc_eq_get_xpath Hc hI hR hu hp
  exact ⟨l, h1, fun x str hm => (h3 x str hm).2⟩

/-! ## examples -/
section Examples
open PyOak.Legacy.Ex

private abbrev sA : LState := st (histAdm.take 10)
private theorem okA : Inv id sA ∧ Ranked sA ∧ ParentClean sA := reachable_ok id id _ admRun_histAdm

-- `liveA`, `matchA`, `walkA`, `dirtyA` hold what the examples below read off `sA` / `sDirty`.

private theorem liveA :
    (Att sA 0 ∧ Att sA 7 ∧ Att sA 4 ∧ Att sA 3 ∧ ¬ Att sA 1 ∧ ¬ Att sA 2 ∧ ¬ Att sA 6) ∧
    (sA.parent 0 = some 7 ∧ sA.parent 7 = some 4 ∧ sA.parent 4 = some 3 ∧ sA.parent 3 = none) ∧
    (1 < sA.size ∧ 2 < sA.size ∧ (treeOf sA 2).size ≤ sA.size) ∧
    Legacy.ancestors sA 0 = some [7, 4, 3] ∧
    ((treeOf sA 3).size = 4 ∧ descU sA 3 = [3, 4, 7, 0]) ∧
    (heapChain sA 0 [7, 4, 3]).map (fun x => (x.1.uid, x.2)) =
      [(3, none), (4, some ⟨"arg".toList, none⟩), (7, some ⟨"arg".toList, none⟩), (0, some ⟨"arg".toList, none⟩)] := by
  decide +kernel
private theorem att0 : Att sA 0 := liveA.1.1
private theorem att3 : Att sA 3 := liveA.1.2.2.2.1
private theorem root3 : sA.parent 3 = none := liveA.2.1.2.2.2
example : Att sA 0 ∧ Att sA 7 ∧ Att sA 4 ∧ Att sA 3 ∧ ¬ Att sA 1 ∧ ¬ Att sA 2 ∧ ¬ Att sA 6 := liveA.1
example : Legacy.ancestors sA 0 = some [7, 4, 3] := liveA.2.2.2.1
private theorem chainA : UpChain sA 0 [7, 4, 3] :=
  have ⟨p0, p7, p4, _⟩ := liveA.2.1
  .step p0 (.step p7 (.step p4 (.root root3)))
example : topOf 0 [7, 4, 3] = 3 := rfl
example : (treeOf sA 3).size = 4 ∧ descU sA 3 = [3, 4, 7, 0] := liveA.2.2.2.2.1
example : (heapChain sA 0 [7, 4, 3]).map (fun x => (x.1.uid, x.2)) =
    [(3, none), (4, some ⟨"arg".toList, none⟩), (7, some ⟨"arg".toList, none⟩), (0, some ⟨"arg".toList, none⟩)] :=
  liveA.2.2.2.2.2
example : IsChain (treeOf sA 3) (heapChain sA 0 [7, 4, 3]) :=
  (heapChain_isChain id okA.1 okA.2.1 okA.2.2 att0 chainA :)
example : NoRepeat (treeOf sA 3) := treeOf_noRepeat id okA.1 okA.2.1 att3
example := heapChain_unique id okA.1 okA.2.1 okA.2.2 (u := 0) att0 chainA
example := (mem_allNodes_treeOf okA.2.1 okA.1.closed (u := 3) (att_lt okA.1 att3) (treeOf sA 0)).mpr
  ⟨0, (topOf_spec id okA.1 att0 chainA).2.2, rfl⟩

-- `//U/@arg L` (legacy element list: self first, the leading `//` as a separate entry)
private def lUL : List LElem :=
  [.el ⟨"L".toList, some "arg".toList, none, false⟩, .el ⟨"U".toList, none, none, false⟩, .anyw]
-- `/U/U//L`
private def lUUL : List LElem :=
  [.el ⟨"L".toList, none, none, false⟩, .el ⟨"U".toList, none, none, true⟩, .el ⟨"U".toList, none, none, false⟩]
private theorem matchA :
    (lxmatchH sA lUL 0 = some true ∧ lxmatchH sA lUL 7 = some false ∧ lxmatchH sA lUUL 0 = some true ∧
      lxmatchH sA lUUL 4 = some false ∧ lxmatchH sA lUL 1 = some false) ∧
    lxmatchH sA [.el ⟨"L".toList, none, none, false⟩] 1 = some true ∧
    (sat (heapChain sA 0 [7, 4, 3]) (shift lUUL).reverse = true ∧
      sat (heapChain sA 7 [4, 3]) (shift lUL).reverse = false) := by decide +kernel
example : HeadOK lUL ∧ HeadOK lUUL := by decide
example : lxmatchH sA lUL 0 = some true ∧ lxmatchH sA lUL 7 = some false ∧ lxmatchH sA lUUL 0 = some true ∧
    lxmatchH sA lUUL 4 = some false ∧ lxmatchH sA lUL 1 = some false := matchA.1
example := legacy_match_heap id okA.1 okA.2.1 okA.2.2 (u := 0) att0 lUL (by decide)
example := legacy_match_heap_successor id okA.1 okA.2.1 okA.2.2 (u := 0) att0 lUUL (by decide)
example := (findall_heap id okA.1 okA.2.1 okA.2.2 (r := 3) att3 root3 lUL (by decide) (treeOf sA 0)).mpr
  ⟨0, (topOf_spec id okA.1 att0 chainA).2.2, att0, rfl, matchA.1.1⟩
example := legacy_match_heap_detached id okA.1 okA.2.2 (u := 1) liveA.2.2.1.1 liveA.1.2.2.2.2.1 lUL (by decide)
example : lxmatchH sA [.el ⟨"L".toList, none, none, false⟩] 1 = some true := matchA.2.1   -- `/L` on the detached leaf 1
example := legacy_match_heap_run id id (histAdm.take 10) admRun_histAdm (u := 0) att0 lUL (by decide)
example : sat (heapChain sA 0 [7, 4, 3]) (shift lUUL).reverse = true ∧
    sat (heapChain sA 7 [4, 3]) (shift lUL).reverse = false := matchA.2.2
private def knownA : Str → Bool := fun c => c == "L".toList || c == "U".toList
private theorem parseA : lparseXPath knownA "//U/@arg L".toList = some lUL := by decide +kernel
example : lparseXPath knownA "//U/@arg L".toList = some lUL := parseA
example := legacy_match_heap_text id okA.1 okA.2.1 okA.2.2 (u := 0) att0 knownA "//U/@arg L".toList lUL parseA

-- the heap walk and the chain-level model agree even without the invariant; with a dirty root slot (a `parent_field` on a
-- node without parent — excluded by `ParentClean`) the heap matcher would look at it: the hypothesis is needed
private abbrev sDirty : LState := sA.modify 3 fun o => { o with pfield := some "arg".toList }
private def lArgU : List LElem := [.el ⟨"U".toList, some "arg".toList, none, false⟩]
private theorem dirtyA : lxmatchH sDirty lArgU 3 = some true ∧
    sat [(treeOf sDirty 3, none)] (shift lArgU).reverse = false ∧ sDirty.parent 3 = none ∧
    (sDirty.obj 3).pid = none ∧ (sDirty.obj 3).pfield ≠ none := by decide +kernel
example : ParentClean sA := parentClean_run_init id id _
example : ¬ ParentClean (sA.modify 3 fun o => { o with pfield := some "arg".toList }) := fun h =>
  dirtyA.2.2.2.2 ((h 3).1 dirtyA.2.2.2.1)

-- … and without it the conclusion fails: on the dirty state legacy `match` accepts `/@arg U` at the root 3, the documented
-- semantics along the chain of the root position (which has no field) does not
theorem legacy_match_heap_dirty_fails : lxmatchH sDirty lArgU 3 = some true ∧
    sat [(treeOf sDirty 3, none)] (shift lArgU).reverse = false ∧ UpChain sDirty 3 [] ∧ HeadOK lArgU :=
  ⟨dirtyA.1, dirtyA.2.1, .root dirtyA.2.2.1, by decide⟩

private theorem walkA :
    (hdfsImpl sA (fun _ => false) (fun _ => true) false false 3 = [3, 4, 7, 0] ∧
      hdfsImpl sA (fun _ => false) (fun _ => true) true false 3 = [0, 7, 4, 3] ∧
      hdfsImpl sA (fun _ => false) (fun _ => true) false true 4 = [7, 0] ∧
      hdfsImpl sA (fun x => x == 7) (fun x => x != 4) false false 3 = [3, 7] ∧
      hbfsImpl sA (fun _ => false) (fun _ => true) false 3 = [3, 4, 7, 0] ∧
      hgatherImpl sA ["L".toList] false (fun _ => true) (fun _ => false) false 3 = [0]) ∧
    (∃ x, x ∈ dfsImpl (fun _ => false) (fun _ => true) false (treeOf sA 3) ∧ x.node.uid = 0 ∧ x.parent.uid = 7) ∧
    (match hcalcXpath sA 3 with
      | .ok l => l.map fun p => (p.1, String.ofList p.2)
      | _ => []) =
      [(3, "/@root[0]U"), (4, "/@root[0]U/@arg[0]U"), (7, "/@root[0]U/@arg[0]U/@arg[0]U"),
       (0, "/@root[0]U/@arg[0]U/@arg[0]U/@arg[0]L")] ∧
    (match hcalcXpath sA 4 with | .refused => true | _ => false) = true := by decide +kernel
example : hdfsImpl sA (fun _ => false) (fun _ => true) false false 3 = [3, 4, 7, 0] ∧
    hdfsImpl sA (fun _ => false) (fun _ => true) true false 3 = [0, 7, 4, 3] ∧
    hdfsImpl sA (fun _ => false) (fun _ => true) false true 4 = [7, 0] ∧
    hdfsImpl sA (fun x => x == 7) (fun x => x != 4) false false 3 = [3, 7] ∧
    hbfsImpl sA (fun _ => false) (fun _ => true) false 3 = [3, 4, 7, 0] ∧
    hgatherImpl sA ["L".toList] false (fun _ => true) (fun _ => false) false 3 = [0] := walkA.1
example := heap_dfs_of_size okA.2.1 okA.1.closed (u := 2) liveA.2.2.1.2.1 liveA.2.2.1.2.2 (fun n => n.uid == 7) (fun _ => true)
  (fun x => x == 7) (fun _ => true) (fun _ => by simp) (fun _ => rfl) false false   -- from the detached node 2
example := heap_dfs_successor id okA.1 okA.2.1 (u := 3) att3 (fun x => x == 7) (fun x => x != 4) false
example := heap_bfs_successor id okA.1 okA.2.1 (u := 3) att3 (fun x => x == 7) (fun x => x != 4)
example := heap_gather_successor id okA.1 okA.2.1 (u := 3) att3 ["L".toList] false (fun _ => true) (fun _ => false)
example := heap_walks_run id id (histAdm.take 10) admRun_histAdm (u := 3) att3 (fun x => x == 7) (fun x => x != 4)
example : ∃ x, x ∈ dfsImpl (fun _ => false) (fun _ => true) false (treeOf sA 3) ∧ x.node.uid = 0 ∧ x.parent.uid = 7 :=
  walkA.2.1
example := heap_items_agree id okA.1 okA.2.1 (u := 3) att3 (fun _ => false) (fun _ => true)

example : (match hcalcXpath sA 3 with
    | .ok l => l.map fun p => (p.1, String.ofList p.2)
    | _ => []) =
    [(3, "/@root[0]U"), (4, "/@root[0]U/@arg[0]U"), (7, "/@root[0]U/@arg[0]U/@arg[0]U"),
     (0, "/@root[0]U/@arg[0]U/@arg[0]U/@arg[0]L")] := walkA.2.2.1
example : (match hcalcXpath sA 4 with | .refused => true | _ => false) = true := walkA.2.2.2
example := heap_calc_xpath id okA.1 okA.2.1 (u := 3) att3 root3
example := heap_calc_eq_get_xpath id okA.1 okA.2.1 (u := 3) att3 root3

end Examples

end C20
end PyOak
