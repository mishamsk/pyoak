/-
C02 — `==` is an equivalence relation OUTRIGHT (cf. AUDIT.md item #6).

`C02.eq_symm` / `C02.eq_trans` carry `Function.Injective H`, `WFN` and `Conforms sig` for every
node involved; none of these is needed.  C02 proves them from
    eq_comm        eqImpl H a b = eqImpl H b a            (also when the strict zip raises)
    eq_symm_any    eqImpl H a b = .ok true → eqImpl H b a = .ok true
    eq_trans_any   eqImpl H a b = .ok true → eqImpl H b c = .ok true → eqImpl H a c = .ok true
which hold for every digest function `H` (collisions allowed) and arbitrary trees (no class table,
no name hygiene); here are the consequences
    ne_comm        neImpl H a b = neImpl H b a
    eq_equivalence `fun a b => eqImpl H a b = .ok true` is an `Equivalence`
and test vectors with a colliding digest (also for `C02.eq_of_nodeEq`, the sound direction of
`eq_iff` for an arbitrary digest).
-/
import PyOak.Props.C02
import PyOak.Props.C01Sound
namespace PyOak
namespace C02
open C01

/-- `!=` is symmetric as well -/
theorem ne_comm (H : Str → Str) (a b : Node) : neImpl H a b = neImpl H b a := by
  rw [ne_eq_not, ne_eq_not, eq_comm]

/-- "`==` is an equivalence relation on nodes" — for every digest, all trees -/
theorem eq_equivalence (H : Str → Str) : Equivalence (fun a b : Node => eqImpl H a b = .ok true) :=
  ⟨eq_refl H, fun {a b} => eq_symm_any H a b, fun {a b c} => eq_trans_any H a b c⟩

/-! the statements of `eq_symm` / `eq_trans` are instances -/
example (H : Str → Str) (_hinj : Function.Injective H) (_hsep : ∀ s, ∀ c ∈ H s, c ≠ ':')
    (sig : Str → List (Str × Bool)) (a b : Node) (_ : WFN a) (_ : WFN b) (_ : Conforms sig a)
    (_ : Conforms sig b) (h : eqImpl H a b = .ok true) : eqImpl H b a = .ok true :=
  eq_symm_any H a b h
example (H : Str → Str) (_hinj : Function.Injective H) (_hsep : ∀ s, ∀ c ∈ H s, c ≠ ':')
    (sig : Str → List (Str × Bool)) (a b c : Node) (_ : WFN a) (_ : WFN b) (_ : WFN c)
    (_ : Conforms sig a) (_ : Conforms sig b) (_ : Conforms sig c)
    (h1 : eqImpl H a b = .ok true) (h2 : eqImpl H b c = .ok true) : eqImpl H a c = .ok true :=
  eq_trans_any H a b c h1 h2

namespace Demo
open C01.Demo (Hconst)

-- non-vacuity of `eq_trans_any`'s hypotheses, with a colliding digest
theorem eqc_t1_t2 : eqImpl Hconst t1 t2 = .ok true ∧ eqImpl Hconst t2 t1 = .ok true := by
  decide +kernel
example : eqImpl Hconst t1 t2 = .ok true ∧ eqImpl Hconst t2 t1 = .ok true := eqc_t1_t2
example : eqImpl Hconst t1 t1 = .ok true := eq_trans_any Hconst t1 t2 t1 eqc_t1_t2.1 eqc_t1_t2.2
-- `eq_comm` also covers the raising case: with a colliding digest the strict zip raises, both ways
example : eqImpl Hconst t1 t4 = .error () ∧ eqImpl Hconst t4 t1 = .error () := by decide +kernel
-- and the False case
example : eqImpl Hesc t1 t3 = .ok false ∧ eqImpl Hesc t3 t1 = .ok false :=
  ⟨eq_t1_t3, eq_comm Hesc t1 t3 ▸ eq_t1_t3⟩
-- `eq_of_nodeEq` with the colliding digest
example : eqImpl Hconst t1 t2 = .ok true :=
  eq_of_nodeEq Hconst sig t1 t2 (wf_tree ..) (wf_tree ..) (conf_tree ..) (conf_tree ..) nodeEq_t1_t2

end Demo

end C02
end PyOak
