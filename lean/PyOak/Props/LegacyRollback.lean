/-
The roll-back of `replace_with`: after the receiver's subtree has been detached (`detach`) and the
attachment of the new node was rejected, `_attach("replace")` on the receiver re-attaches the
subtree.  We show that this restores every record and every registry entry (C19).

`commit_restore`: committing nodes that were attached in a reference state `s` satisfying the invariant, in a
state whose records agree with `s` up to parent slots, gives the children of those nodes exactly the parent slots
they have in `s`, leaves all other slots alone, recomputes the content ids to the values of `s`, and registers
the nodes under their ids.  `reattach_frame`: detach, neutral steps, successful re-attach is the identity on
records and lookups.  Also: which errors `_attach` raises, and that taking a node over and giving it its ids back
restores its record.
-/
import PyOak.Props.LegacyReplace
namespace PyOak.Legacy
open LState

/-- every child of a planned node is planned too, or an attached root -/
theorem OrderOk.mem {s : LState} {seg : List Nat} (h : OrderOk s [] seg) :
    ∀ m ∈ seg, ∀ c ∈ (s.obj m).kidList, c ∈ seg ∨ RootOk s c := by
  intro m hm c hc
  obtain ⟨l1, l2, hdec⟩ := List.append_of_mem hm
  rcases OrderOk.flat seg h l1 m l2 hdec c hc with h0 | h0 | h0
  · cases h0
  · exact .inl (by rw [hdec]; exact List.mem_append_left _ h0)
  · exact .inr h0

section
variable (Hc : Str → Str)

/-! ### committing restores -/

theorem eq_of_same_slots {a b : LObj} (h : SameButParent a b) (hs : slots a = slots b) : a = b := by
  unfold slots at hs
  simp only [Prod.mk.injEq] at hs
  exact eq_of_sameButParent h hs.1 hs.2.1 hs.2.2

theorem commit_restore {s : LState} (hI : Inv Hc s) : ∀ (seg : List Nat) (t : LState),
    (∀ x, SameButParent (t.obj x) (s.obj x)) → (∀ m ∈ seg, Att s m) →
    (∀ x, SameButParent ((seg.foldl (commitOne Hc) t).obj x) (s.obj x)) ∧
    (∀ x, (x ∈ kidsOf s seg → slots ((seg.foldl (commitOne Hc) t).obj x) = slots (s.obj x)) ∧
          (x ∉ kidsOf s seg → slots ((seg.foldl (commitOne Hc) t).obj x) = slots (t.obj x))) ∧
    (∀ k, (∀ m ∈ seg, s.idOf m ≠ k) → (seg.foldl (commitOne Hc) t).lookup k = t.lookup k) ∧
    (∀ m ∈ seg, (seg.foldl (commitOne Hc) t).lookup (s.idOf m) = some m) := by
  intro seg
  induction seg with
  | nil =>
    intro t hsame _
    exact ⟨hsame, fun x => ⟨fun h => by simp [kidsOf] at h, fun _ => rfl⟩, fun _ _ => rfl, fun m hm => by cases hm⟩
  | cons m r ih =>
    intro t hsame hatt
    have hma : Att s m := hatt m (List.mem_cons_self ..)
    have hidt : ∀ x, t.idOf x = s.idOf x := fun x => (hsame x).id
    have hkp : (t.obj m).kidsPos = (s.obj m).kidsPos := by unfold LObj.kidsPos; rw [(hsame m).fields]
    have hrep_kid : ∀ x, x ∈ (s.obj m).kidList → (reparent m t (t.obj m).kidsPos).obj x = s.obj x := by
      intro x hx
      apply reparent_restore m (fun y => s.obj y) _ t hsame
      · intro e he
        rw [hkp] at he
        obtain ⟨_, b, c, d⟩ := hI.down' m hma e he
        exact ⟨by rw [b, hidt], c, d⟩
      · rw [hkp, kidsPos_map_fst]; exact hx
    have hrep_other : ∀ x, x ∉ (s.obj m).kidList → (reparent m t (t.obj m).kidsPos).obj x = t.obj x := by
      intro x hx
      exact reparent_obj_not_mem m _ t x (by rw [hkp, kidsPos_map_fst]; exact hx)
    have hrep_same : ∀ x, SameButParent ((reparent m t (t.obj m).kidsPos).obj x) (s.obj x) := fun x =>
      SameButParent.trans (SameButParent.symm (reparent_same m _ t x)) (hsame x)
    -- the content id that is recomputed is the one of `s`
    have hcid : Hc (cidPre (reparent m t (t.obj m).kidsPos) ((reparent m t (t.obj m).kidsPos).obj m)) = (s.obj m).cid := by
      rw [hI.cid' m hma]
      congr 1
      exact cidPre_congr (hrep_same m).cls (hrep_same m).props (hrep_same m).fields (fun c _ => (hrep_same c).cid)
    have h1obj : ∀ x, (commitOne Hc t m).obj x =
        if x = m then { (reparent m t (t.obj m).kidsPos).obj m with cid := (s.obj m).cid }
        else (reparent m t (t.obj m).kidsPos).obj x := by
      intro x
      unfold commitOne
      rw [register_obj, setContentId_obj, hcid]
    have h1same : ∀ x, SameButParent ((commitOne Hc t m).obj x) (s.obj x) := by
      intro x
      rw [h1obj]; split
      · next hx =>
        subst hx
        have := hrep_same x
        exact ⟨this.cls, this.mro, this.fqn, this.props, this.id, this.origId, this.collWith, rfl, this.fields⟩
      · exact hrep_same x
    have h1slots : ∀ x, slots ((commitOne Hc t m).obj x) = slots ((reparent m t (t.obj m).kidsPos).obj x) := by
      intro x; rw [h1obj]; split
      · next hx => subst hx; rfl
      · rfl
    have h1lk : ∀ k, (commitOne Hc t m).lookup k = if s.idOf m = k then some m else t.lookup k := by
      intro k; rw [commitOne_lookup, hidt]
    obtain ⟨i1, i2, i3, i4⟩ := ih (commitOne Hc t m) h1same (fun m' hm' => hatt m' (List.mem_cons_of_mem _ hm'))
    simp only [List.foldl_cons]
    refine ⟨i1, ?_, ?_, ?_⟩
    · intro x
      have hk : kidsOf s (m :: r) = (s.obj m).kidList ++ kidsOf s r := by simp [kidsOf]
      rw [hk]
      constructor
      · intro hx
        by_cases hxr : x ∈ kidsOf s r
        · exact (i2 x).1 hxr
        · rw [(i2 x).2 hxr, h1slots]
          have hxm : x ∈ (s.obj m).kidList := by
            rcases List.mem_append.mp hx with h | h
            · exact h
            · exact absurd h hxr
          rw [hrep_kid x hxm]
      · intro hx
        rw [List.mem_append, not_or] at hx
        rw [(i2 x).2 hx.2, h1slots, hrep_other x hx.1]
    · intro k hk
      rw [i3 k (fun m' hm' => hk m' (List.mem_cons_of_mem _ hm')), h1lk]
      simp [hk m (List.mem_cons_self ..)]
    · intro m' hm'
      rcases List.mem_cons.mp hm' with rfl | hm'
      · by_cases hin : ∃ m'' ∈ r, s.idOf m'' = s.idOf m'
        · obtain ⟨m'', hm'', hid⟩ := hin
          have : m'' = m' := att_inj (hatt m'' (List.mem_cons_of_mem _ hm'')) hma hid
          subst this
          exact i4 m'' hm''
        · rw [i3 _ (fun m'' hm'' e => hin ⟨m'', hm'', e⟩), h1lk]; simp
      · exact i4 m' hm'

/-! ### detach, then re-attach -/

/-- `t1` is `s` with at most the parent slots of `u` cleared; `t2` is `t1` after `detach` of `u`; `t6` is
`t2` with the record of `u` as in `s` and at most the registry key `kn` missing (the new node that was
taken out of the registry); re-attaching `u` in `t6` gives back `s`, except for the key `kn`. -/
theorem reattach_frame {s t1 t2 t6 t7 : LState} {u fuel fuel' : Nat} {b : Bool} {kn : Option Str}
    (hI : Inv Hc s) (hua : Att s u)
    (h1lk : ∀ k, t1.lookup k = s.lookup k)
    (h1obj : ∀ x, x ≠ u → t1.obj x = s.obj x) (h1u : SameButParent (t1.obj u) (s.obj u))
    (hdet : detachGo fuel false t1 u = (t2, some b))
    (h6obj : ∀ x, x ≠ u → t6.obj x = t2.obj x) (h6u : t6.obj u = s.obj u)
    (h6lk : ∀ k, t6.lookup k = t2.lookup k ∨ (t6.lookup k = none ∧ some k = kn))
    (hkn : ∀ k, kn = some k → ∀ m, Desc s u m → s.idOf m ≠ k)
    (hat : attach Hc fuel' t6 u = (t7, .ok ())) :
    (∀ x, t7.obj x = s.obj x) ∧ (∀ k, some k ≠ kn → t7.lookup k = s.lookup k) ∧
    (∀ k, kn = some k → t7.lookup k = t6.lookup k) := by
  have hF := detachGo_facts fuel false t1 u b (by rw [hdet])
  have hDesc := detachGo_desc fuel false t1 u b (by rw [hdet])
  rw [hdet] at hF hDesc
  have hS : Shrinks t1 t2 := hF.shr
  have h1same : ∀ x, SameButParent (t1.obj x) (s.obj x) := by
    intro x
    by_cases hx : x = u
    · subst hx; exact h1u
    · rw [h1obj x hx]; exact SameButParent.refl _
  have h2same : ∀ x, SameButParent (t2.obj x) (s.obj x) := by
    intro x
    rcases hS.obj x with h | h
    · rw [h]; exact h1same x
    · rw [h]; exact SameButParent.trans (sameButParent_clearP _) (h1same x)
  have h6same : ∀ x, SameButParent (t6.obj x) (s.obj x) := by
    intro x
    by_cases hx : x = u
    · subst hx; rw [h6u]; exact SameButParent.refl _
    · rw [h6obj x hx]; exact h2same x
  have hkl1 : ∀ v, (t1.obj v).kidList = (s.obj v).kidList := by
    intro v; unfold LObj.kidList; rw [(h1same v).fields]
  have hkl6 : ∀ v, (t6.obj v).kidList = (s.obj v).kidList := by
    intro v; unfold LObj.kidList; rw [(h6same v).fields]
  have hid1 : ∀ x, t1.idOf x = s.idOf x := fun x => (h1same x).id
  have hid2 : ∀ x, t2.idOf x = s.idOf x := fun x => (h2same x).id
  have hid6 : ∀ x, t6.idOf x = s.idOf x := fun x => (h6same x).id
  have hatt1 : ∀ x, Att t1 x ↔ Att s x := by intro x; unfold Att; rw [hid1, h1lk]
  unfold attach at hat
  cases hp : attachPlan t6 fuel' u {} with
  | error e => rw [hp] at hat; simp at hat
  | ok res =>
    obtain ⟨pl, col⟩ := res
    rw [hp] at hat
    cases col with
    | some cc => simp at hat
    | none =>
      simp only [Prod.mk.injEq, and_true] at hat
      obtain ⟨seg, hPF, huseg, _⟩ := attachPlan_facts t6 fuel' u {} pl hp
      have hseg : pl.order = seg := by have := hPF.order; simpa using this
      rw [hseg] at hat
      have hsegdesc : ∀ m ∈ seg, Desc s u m := by
        intro m hm
        rcases attachPlan_desc t6 fuel' u {} pl none hp m (by rw [hseg]; exact hm) with h | h
        · cases h
        · exact h.congr (fun v => (hkl6 v).symm)
      have hsegatt : ∀ m ∈ seg, Att s m := fun m hm =>
        (upFree_of_desc hI hua (hsegdesc m hm) (fun _ _ hx => hx.elim)).1
      obtain ⟨i1, i2, i3, i4⟩ := commit_restore Hc hI seg t6 h6same hsegatt
      rw [hat] at i1 i2 i3 i4
      -- every node that `detach` unregistered is planned
      have hQ : ∀ q, Desc t1 u q → Unreg t1 t2 q → q ∈ seg := by
        intro q hd
        induction hd with
        | refl => intro _; exact huseg
        | @step q' q hd' hk ih =>
          intro hun
          rcases hF.origin q hun with h | ⟨q'', hq'', hk''⟩
          · simp at h; subst h; exact huseg
          · have hq's : Att s q' :=
              (upFree_of_desc hI hua (hd'.congr (fun v => (hkl1 v).symm)) (fun _ _ hx => hx.elim)).1
            have hq''s : Att s q'' := (hatt1 q'').mp hq''.1
            rw [hkl1] at hk hk''
            obtain ⟨e, he, he1⟩ := (mem_kidList_iff _ _).mp hk
            obtain ⟨e2, he2, he21⟩ := (mem_kidList_iff _ _).mp hk''
            obtain ⟨_, b1, _, _⟩ := hI.down' q' hq's e he
            obtain ⟨_, b2, _, _⟩ := hI.down' q'' hq''s e2 he2
            rw [he1] at b1; rw [he21, b1] at b2
            have : q' = q'' := att_inj hq's hq''s (Option.some.inj b2)
            subst this
            have hq'seg := ih hq''
            rcases OrderOk.mem hPF.orderOk q' hq'seg q (by rw [hkl6]; exact hk) with h | h
            · exact h
            · exfalso
              have h6 := h.1
              unfold Att at h6
              rcases h6lk (t6.idOf q) with h' | h'
              · rw [h'] at h6
                apply hun.2
                unfold Att; rw [hid2, ← hid6]; exact h6
              · rw [h'.1] at h6; cases h6
      have hQ' : ∀ q, Unreg t1 t2 q → q ∈ seg := fun q hq => hQ q (hDesc q hq) hq
      refine ⟨?_, ?_, ?_⟩
      · intro x
        apply eq_of_same_slots (i1 x)
        by_cases hxk : x ∈ kidsOf s seg
        · exact (i2 x).1 hxk
        · rw [(i2 x).2 hxk]
          by_cases hxu : x = u
          · subst hxu; rw [h6u]
          · rw [h6obj x hxu]
            by_cases hch : t2.obj x = t1.obj x
            · rw [hch, h1obj x hxu]
            · exfalso
              rcases hF.touched x hch with h | ⟨q, hq, hxq⟩
              · simp at h; exact hxu h
              · apply hxk
                unfold kidsOf
                exact List.mem_flatMap.mpr ⟨q, hQ' q hq, by rw [← hkl1]; exact hxq⟩
      · intro k hk
        by_cases hin : ∃ m ∈ seg, s.idOf m = k
        · obtain ⟨m, hm, hmk⟩ := hin
          rw [← hmk, i4 m hm]
          exact (hsegatt m hm).symm
        · rw [i3 k (fun m hm e => hin ⟨m, hm, e⟩)]
          rcases h6lk k with h | h
          · rw [h]
            rcases hS.reg k with h' | h'
            · rw [h', h1lk]
            · rw [h']
              cases hsk : s.lookup k with
              | none => rfl
              | some v =>
                exfalso
                obtain ⟨_, hvid⟩ := hI.regSound k v hsk
                have hvs : Att s v := by unfold Att; rw [hvid]; exact hsk
                have : Unreg t1 t2 v := ⟨(hatt1 v).mpr hvs, by unfold Att; rw [hid2, hvid, h']; simp⟩
                exact hin ⟨v, hQ' v this, hvid⟩
          · exact absurd h.2 hk
      · intro k hk
        exact i3 k (fun m hm => hkn k hk m (hsegdesc m hm))

/-! ### the pieces of the roll-back in `replace_with` -/

theorem planKids_err (s : LState) (rec : Nat → Plan → Except Err (Plan × Collision)) (u : Nat)
    (hrec : ∀ c pl e, rec c pl = .error e → e = .hang ∨ e = .registryCollision) :
    ∀ (ks : List Nat) (pl : Plan) (e : Err), planKids s rec u ks pl = .error e → e = .hang ∨ e = .registryCollision := by
  intro ks
  induction ks with
  | nil => intro pl e h; simp [planKids] at h
  | cons c cs ih =>
    intro pl e h
    rcases planKids_cons h with ⟨p, hp⟩ | ⟨pl1, _, _, ⟨_, ⟨e', hr, h1⟩ | ⟨pl2, col, _, h1⟩ | ⟨pl2, _, h1⟩⟩ |
      ⟨_, col, h1⟩ | ⟨_, h1⟩⟩
    · cases hp
    · cases h1; exact hrec _ _ _ hr
    · cases h1
    · exact ih _ e h1.symm
    · cases h1
    · exact ih _ e h1.symm

theorem attachPlan_err (s : LState) : ∀ (fuel u : Nat) (pl : Plan) (e : Err),
    attachPlan s fuel u pl = .error e → e = .hang ∨ e = .registryCollision := by
  intro fuel
  induction fuel with
  | zero => intro u pl e h; simp [attachPlan] at h; exact .inl h.symm
  | succ fuel ih =>
    intro u pl e h
    unfold attachPlan at h
    simp only at h
    split at h
    · simp only [Except.error.injEq] at h; exact .inr h.symm
    · split at h
      · next e' hr =>
        simp only [Except.error.injEq] at h; subst h
        exact planKids_err s (attachPlan s fuel) u (fun c pl e hc => ih c pl e hc) _ _ _ hr
      · simp at h
      · simp at h

/-- `_attach` raises nothing but registry / parent collisions, unless its walk does not end -/
theorem attach_err_kind {t t' : LState} {u fuel : Nat} {e : Err} (h : attach Hc fuel t u = (t', .error e)) :
    e = .hang ∨ e = .registryCollision ∨ e = .parentCollision := by
  unfold attach at h
  split at h
  · next e' hp =>
    simp only [Prod.mk.injEq, Except.error.injEq] at h
    rw [← h.2]
    rcases attachPlan_err t fuel u {} e' hp with h1 | h1
    · exact .inl h1
    · exact .inr (.inl h1)
  · simp only [Prod.mk.injEq, Except.error.injEq] at h; exact .inr (.inr h.2.symm)
  · simp at h

/-- taking the new node over and giving it its ids back leaves every record as it was … -/
theorem takeOver_restore_obj (t : LState) (u n x : Nat) :
    ((takeOver t u n).1.modify n fun y => { y with id := (t.obj n).id, origId := (t.obj n).origId }).obj x = t.obj x := by
  unfold takeOver
  simp only
  rw [modify_obj]
  by_cases hx : x = n
  · subst hx
    simp only [if_true]
    rw [modify_obj_same]
    split <;> rfl
  · simp only [hx, if_false]
    rw [modify_obj_ne _ _ _ _ hx]
    split <;> rfl

/-- … and removes from the registry exactly the entry of the new node, if it had one -/
theorem takeOver_restore_lookup (t : LState) (u n : Nat) (k : Str) :
    ((takeOver t u n).1.modify n fun y => { y with id := (t.obj n).id, origId := (t.obj n).origId }).lookup k =
      if t.detached n = false ∧ t.idOf n = k then none else t.lookup k := by
  unfold takeOver
  simp only [modify_lookup]
  by_cases hd : t.detached n = true
  · simp [hd]
  · have hd' : t.detached n = false := Bool.eq_false_iff.mpr hd
    simp only [hd', Bool.not_false, if_true, true_and]
    exact unregister_lookup t _ k

/-! ### what a successful `_attach` touches -/

theorem attach_effect {s s' : LState} {u fuel : Nat} (hI : Inv Hc s) (hu : u < s.size)
    (h : attach Hc fuel s u = (s', .ok ())) :
    ∃ seg, (∀ m ∈ seg, Desc s u m) ∧ (∀ k v, s'.lookup k = some v → s.lookup k = some v ∨ v ∈ seg) ∧
      (∀ x, x ∉ seg → x ∉ kidsOf s seg → s'.obj x = s.obj x) := by
  obtain ⟨seg, hC, _, _, _, _, _, hdesc⟩ :=
    attach_committed Hc (X := NoX) (Y := NoY) hI hu (fun _ _ hx => hx.elim) h
  refine ⟨seg, hdesc, fun k v hk => ?_, hC.other⟩
  by_cases hin : k ∈ seg.map s.idOf
  · obtain ⟨m, hm, hmk⟩ := List.mem_map.mp hin
    rw [← hmk, hC.regNew m hm] at hk
    exact .inr ((Option.some.inj hk) ▸ hm)
  · rw [hC.regOld k hin] at hk; exact .inl hk

end

end PyOak.Legacy
