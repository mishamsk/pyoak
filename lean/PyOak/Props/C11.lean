/-
C11 — Every field annotation is soundly classified as child, property, or rejected.

Model (Model/Annot.lean): `hasNode` (`has_check_type_in_type`), `validChild` (`_is_valid_child_field_type`
with the `allow_sequence` flag), `validProp` (`is_valid_property_type`), `classifyRaw` (the branch shared by
`check_annotations` and `process_node_fields`), `classify` (first use: top-level NewType unwrapped by
`get_field_types`), `defCheck` / `processNodeFields` / `classOutcome` (the two-phase protocol of a class),
`effective` (dataclass field resolution along an inheritance chain) — of the code with the defects F10, F22 and
F11 repaired (DESIGN.md 11.3).
Specification (Spec/Annot.lean): `ChildShape`, `MentionsNode`, `MentionsMutable`, `SpecVerdict`.

Proved for every annotation of the grammar (structural induction, no depth bound) and every chain:
  * `classify_child_iff`   classify t = child  ↔ ChildShape t
  * `classify_prop_iff`    classify t = prop   ↔ ¬ MentionsNode t ∧ ¬ MentionsMutable t
  * `classify_reject_iff`  classify t = reject ↔ ¬ ChildShape t ∧ (MentionsNode t ∨ MentionsMutable t)
  * `classify_spec`, `specVerdict_unique`   the documented verdict exists, is unique, and is the computed one
  * `prop_hides_no_node`, `childShape_mentionsNode`   a node never hides in a property; child / property disjoint
  * `Same t t'`   the classifier cannot tell `t` and `t'` apart; a congruence (`Same.newtype`, `.vtuple`,
    `.union_map`, `.coll_map`) with `Same.classify_eq`.  The invariance theorems of Props/C11Fwd.lean,
    Props/C11NewType.lean and Props/C11Perm.lean all go through it
  * `classify_eq_classifyRaw`, `classify_newtype`   NewType wrappers at the top are transparent: the
    definition-time check and the first-use check give the same verdict (at every depth: Props/C11NewType.lean)
  * `defCheck_raised_sound`, `classOutcome_eq`, `classOutcome_none_iff`, `classOutcome_some`   a class is rejected
    (at definition or at first use, whichever comes first) iff one of its fields is; whether the definition-time
    check ran, was skipped on unresolved forward references, or raised makes no difference to the outcome
  * `effective_nodup`, `fields_partition`   every dataclass field is listed once with one verdict
  * `classOutcome_flatten`   a class is determined by the sequence of field declarations replayed along its
    reversed MRO (multiple inheritance: the harness sends that replay as one level)
  * `effective_map`, `classOutcome_mapLevels`, `chainFrom_mapLevels`   a rewriting of the annotations that keeps
    every verdict keeps the outcome of a class and of a chain (instances: Props/C11Fwd.lean, Props/C11Perm.lean)
`lookup`, `fieldVerdict` are defined here; inherited and overriding fields are treated in Props/C11Class.lean.
"plain vs. postponed annotations": the two spellings are the same `Ty` once `get_type_hints` has evaluated them;
what the spelling can change, whether a referenced class exists at definition time (`.node` / `.fwd`), is the
subject of Props/C11Fwd.lean.  That both spellings evaluate alike is carried by the correspondence (every generated
chain is rendered in both modes) and by the spelling-invariance oracle of the harness.
-/
import PyOak.Spec.AnnotFwd
namespace PyOak
namespace C11
open Annot Annot.Ty

theorem Ty.induct {P : Ty → Prop}
    (hatom : ∀ a, P (.atom a)) (hnone : P .none) (hnode : ∀ c, P (.node c)) (hfwd : ∀ c, P (.fwd c))
    (hnt : ∀ t, P t → P (.newtype t))
    (hunion : ∀ m ms, (∀ x ∈ m :: ms, P x) → P (.union m ms))
    (hvt : ∀ t, P t → P (.vtuple t))
    (hcoll : ∀ k args, (∀ x ∈ args, P x) → P (.coll k args)) : ∀ t, P t :=
  fun t => Ty.rec (motive_1 := P) (motive_2 := fun l => ∀ x ∈ l, P x)
    hatom hnone hnode hfwd hnt (fun m ms ihm ihms => hunion m ms (List.forall_mem_cons.2 ⟨ihm, ihms⟩))
    hvt hcoll (fun _ hx => nomatch hx) (fun _ _ ihh iht => List.forall_mem_cons.2 ⟨ihh, iht⟩) t

theorem any_map_congr {α β : Type} {l : List α} {F : α → β} {p : β → Bool} {q : α → Bool}
    (h : ∀ x ∈ l, p (F x) = q x) : (l.map F).any p = l.any q := by
  induction l with
  | nil => rfl
  | cons a r ih =>
    rw [List.map_cons, List.any_cons, List.any_cons, h a List.mem_cons_self,
      ih fun x hx => h x (List.mem_cons_of_mem _ hx)]

theorem all_map_congr {α β : Type} {l : List α} {F : α → β} {p : β → Bool} {q : α → Bool}
    (h : ∀ x ∈ l, p (F x) = q x) : (l.map F).all p = l.all q := by
  induction l with
  | nil => rfl
  | cons a r ih =>
    rw [List.map_cons, List.all_cons, List.all_cons, h a List.mem_cons_self,
      ih fun x hx => h x (List.mem_cons_of_mem _ hx)]

theorem hasNodeL_eq (l : List Ty) : hasNodeL l = l.any hasNode := by
  induction l with
  | nil => rfl
  | cons t r ih => rw [List.any_cons, ← ih]; rfl

theorem validPropL_eq (l : List Ty) : validPropL l = l.all validProp := by
  induction l with
  | nil => rfl
  | cons t r ih => rw [List.all_cons, ← ih]; rfl

theorem hasNode_union (m : Ty) (ms : List Ty) : hasNode (.union m ms) = (m :: ms).any hasNode := by
  rw [List.any_cons, ← hasNodeL_eq]; rfl

theorem hasNode_coll (k : CollKind) (args : List Ty) : hasNode (.coll k args) = args.any hasNode :=
  hasNodeL_eq args

theorem validProp_union (m : Ty) (ms : List Ty) : validProp (.union m ms) = (m :: ms).all validProp := by
  rw [List.all_cons, ← validPropL_eq]; rfl

theorem validProp_coll (k : CollKind) (args : List Ty) :
    validProp (.coll k args) = (!k.mutable && args.all validProp) := by
  rw [← validPropL_eq]; rfl

theorem validChild_union (b : Bool) (m : Ty) (ms : List Ty) :
    validChild b (.union m ms) =
      if !b && (m :: ms).any isNone then false else (m :: ms).all unionMemberOk := rfl

/-- only a fixed-length tuple passes, at the top level, non-empty, its element types checked as elements -/
theorem validChild_coll (b : Bool) (k : CollKind) (args : List Ty) :
    validChild b (.coll k args) = (b && k == .tuple && !args.isEmpty && args.all (validChild false)) := by
  have : validChildL args = args.all (validChild false) := by
    induction args with
    | nil => rfl
    | cons t r ih => rw [List.all_cons, ← ih]; rfl
  rw [← this]
  cases k <;> cases b <;> rfl

theorem mentionsNode_newtype {t : Ty} : MentionsNode (.newtype t) ↔ MentionsNode t :=
  ⟨fun h => by cases h; assumption, .newtype⟩
theorem mentionsNode_vtuple {t : Ty} : MentionsNode (.vtuple t) ↔ MentionsNode t :=
  ⟨fun h => by cases h; assumption, .vtuple⟩
theorem mentionsNode_union {m : Ty} {ms : List Ty} :
    MentionsNode (.union m ms) ↔ ∃ x ∈ m :: ms, MentionsNode x :=
  ⟨fun h => by cases h with | union hx h => exact ⟨_, hx, h⟩, fun ⟨_, hx, h⟩ => .union hx h⟩
theorem mentionsNode_coll {k : CollKind} {args : List Ty} :
    MentionsNode (.coll k args) ↔ ∃ x ∈ args, MentionsNode x :=
  ⟨fun h => by cases h with | coll hx h => exact ⟨_, hx, h⟩, fun ⟨_, hx, h⟩ => .coll hx h⟩

theorem hasNode_iff : ∀ t, hasNode t = true ↔ MentionsNode t := by
  intro t
  induction t using Ty.induct with
  | hnode c => exact ⟨fun _ => .node c, fun _ => rfl⟩
  | hfwd c => exact ⟨fun _ => .fwd c, fun _ => rfl⟩
  | hnt t ih => exact ih.trans mentionsNode_newtype.symm
  | hvt t ih => exact ih.trans mentionsNode_vtuple.symm
  | hunion m ms ih =>
    rw [hasNode_union, List.any_eq_true, mentionsNode_union]
    exact exists_congr fun x => and_congr_right (ih x)
  | hcoll k args ih =>
    rw [hasNode_coll, List.any_eq_true, mentionsNode_coll]
    exact exists_congr fun x => and_congr_right (ih x)
  | _ => exact ⟨nofun, nofun⟩

theorem mentionsMutable_newtype {t : Ty} : MentionsMutable (.newtype t) ↔ MentionsMutable t :=
  ⟨fun h => by cases h; assumption, .newtype⟩
theorem mentionsMutable_vtuple {t : Ty} : MentionsMutable (.vtuple t) ↔ MentionsMutable t :=
  ⟨fun h => by cases h; assumption, .vtuple⟩
theorem mentionsMutable_union {m : Ty} {ms : List Ty} :
    MentionsMutable (.union m ms) ↔ ∃ x ∈ m :: ms, MentionsMutable x :=
  ⟨fun h => by cases h with | union hx h => exact ⟨_, hx, h⟩, fun ⟨_, hx, h⟩ => .union hx h⟩
theorem mentionsMutable_coll {k : CollKind} {args : List Ty} :
    MentionsMutable (.coll k args) ↔ k.mutable = true ∨ ∃ x ∈ args, MentionsMutable x :=
  ⟨fun h => by
    cases h with
    | here hk => exact .inl hk
    | coll hx h => exact .inr ⟨_, hx, h⟩,
   fun h => h.elim .here fun ⟨_, hx, h⟩ => .coll hx h⟩

theorem validProp_iff : ∀ t, validProp t = true ↔ ¬ MentionsMutable t := by
  intro t
  induction t using Ty.induct with
  | hnt t ih => exact ih.trans (not_congr mentionsMutable_newtype.symm)
  | hvt t ih => exact ih.trans (not_congr mentionsMutable_vtuple.symm)
  | hunion m ms ih =>
    simp only [validProp_union, List.all_eq_true, mentionsMutable_union, not_exists, not_and]
    exact forall₂_congr ih
  | hcoll k args ih =>
    simp only [validProp_coll, Bool.and_eq_true, Bool.not_eq_true', List.all_eq_true,
      mentionsMutable_coll, not_or, Bool.not_eq_true, not_exists, not_and]
    exact and_congr_right fun _ => forall₂_congr ih
  | _ => exact ⟨fun _ => nofun, fun _ => rfl⟩

theorem nodeLike_newtype {t : Ty} : NodeLike (.newtype t) ↔ NodeLike t :=
  ⟨fun h => by cases h; assumption, .newtype⟩

theorem nodeLike_iff : ∀ t, t.unwrap.isNodeClass = true ↔ NodeLike t := by
  intro t
  induction t using Ty.induct with
  | hnode c => exact ⟨fun _ => .node c, fun _ => rfl⟩
  | hfwd c => exact ⟨fun _ => .fwd c, fun _ => rfl⟩
  | hnt t ih => exact ih.trans nodeLike_newtype.symm
  | _ => exact ⟨nofun, nofun⟩

theorem nodeLike_hasNode {t : Ty} (h : NodeLike t) : hasNode t = true := by
  induction h with
  | node c => rfl
  | fwd c => rfl
  | newtype _ ih => exact ih

theorem nodeLike_validChild {t : Ty} (h : NodeLike t) (b : Bool) : validChild b t = true := by
  induction h with
  | node c => rfl
  | fwd c => rfl
  | newtype _ ih => exact ih

theorem isNone_iff (t : Ty) : t.isNone = true ↔ t = .none := by
  cases t <;> simp [isNone]

theorem unionMemberOk_iff (t : Ty) : unionMemberOk t = true ↔ (t = .none ∨ NodeLike t) := by
  simp [unionMemberOk, isNone_iff, nodeLike_iff]

theorem validChild_union_iff (b : Bool) (m : Ty) (ms : List Ty) :
    validChild b (.union m ms) = true ↔
      (∀ x ∈ m :: ms, x = .none ∨ NodeLike x) ∧ (b = false → ∀ x ∈ m :: ms, x ≠ .none) := by
  have hall : (m :: ms).all unionMemberOk = true ↔ ∀ x ∈ m :: ms, x = .none ∨ NodeLike x := by
    simp only [List.all_eq_true, unionMemberOk_iff]
  have hany : (m :: ms).any isNone = false ↔ ∀ x ∈ m :: ms, x ≠ .none := by
    simp only [List.any_eq_false, isNone_iff, ne_eq]
  rw [validChild_union, ← hall, ← hany]
  generalize (m :: ms).any isNone = anyNone, (m :: ms).all unionMemberOk = allOk
  revert b anyNone allOk
  decide

theorem elemShape_newtype {t : Ty} : ElemShape (.newtype t) ↔ ElemShape t :=
  ⟨fun h => by
    cases h with
    | one h => exact .one (nodeLike_newtype.1 h)
    | newtype h => exact h,
   .newtype⟩

theorem elemShape_union {m : Ty} {ms : List Ty} : ElemShape (.union m ms) ↔ ∀ x ∈ m :: ms, NodeLike x :=
  ⟨fun h => by
    cases h with
    | one h => cases h
    | union h => exact h,
   .union⟩

theorem childShape_newtype {t : Ty} : ChildShape (.newtype t) ↔ ChildShape t :=
  ⟨fun h => by
    cases h with
    | one h => exact .one (nodeLike_newtype.1 h)
    | newtype h => exact h,
   .newtype⟩

theorem childShape_union {m : Ty} {ms : List Ty} :
    ChildShape (.union m ms) ↔ (∀ x ∈ m :: ms, x = .none ∨ NodeLike x) ∧ ∃ x ∈ m :: ms, NodeLike x :=
  ⟨fun h => by
    cases h with
    | one h => cases h
    | union h1 h2 => exact ⟨h1, h2⟩,
   fun h => .union h.1 h.2⟩

theorem childShape_vtuple {t : Ty} : ChildShape (.vtuple t) ↔ ElemShape t :=
  ⟨fun h => by
    cases h with
    | one h => cases h
    | vtuple h => exact h,
   .vtuple⟩

theorem childShape_coll {k : CollKind} {args : List Ty} :
    ChildShape (.coll k args) ↔ k = .tuple ∧ args ≠ [] ∧ ∀ a ∈ args, ElemShape a :=
  ⟨fun h => by
    cases h with
    | one h => cases h
    | tuple hne h => exact ⟨rfl, hne, h⟩,
   fun ⟨hk, hne, h⟩ => hk ▸ .tuple hne h⟩

theorem validChild_coll_iff (b : Bool) (k : CollKind) (args : List Ty) :
    validChild b (.coll k args) = true ↔
      b = true ∧ k = .tuple ∧ args ≠ [] ∧ ∀ a ∈ args, validChild false a = true := by
  simp [validChild_coll, and_assoc]

/-- inside a tuple (`allow_sequence=False`): exactly the element shapes -/
theorem validChild_false_iff : ∀ t, validChild false t = true ↔ ElemShape t := by
  intro t
  induction t using Ty.induct with
  | hnode c => exact ⟨fun _ => .one (.node c), fun _ => rfl⟩
  | hfwd c => exact ⟨fun _ => .one (.fwd c), fun _ => rfl⟩
  | hnt t ih => exact ih.trans elemShape_newtype.symm
  | hunion m ms _ =>
    rw [validChild_union_iff, elemShape_union]
    exact ⟨fun ⟨h1, h2⟩ x hx => (h1 x hx).resolve_left (h2 rfl x hx),
      fun h => ⟨fun x hx => .inr (h x hx), fun _ x hx e => by cases e ▸ h x hx⟩⟩
  | hcoll k args _ =>
    rw [validChild_coll_iff]
    exact ⟨(nomatch ·.1), fun h => by cases h with | one h => cases h⟩
  | _ => exact ⟨nofun, fun h => by cases h with | one h => cases h⟩

theorem elemShape_hasNode {t : Ty} (h : ElemShape t) : hasNode t = true := by
  induction h with
  | one h => exact nodeLike_hasNode h
  | @union m ms h => rw [hasNode_union, List.any_cons, nodeLike_hasNode (h m List.mem_cons_self)]; rfl
  | newtype _ ih => exact ih

theorem childShape_hasNode {t : Ty} (h : ChildShape t) : hasNode t = true := by
  induction h with
  | one h => exact nodeLike_hasNode h
  | union _ h =>
    obtain ⟨x, hx, hn⟩ := h
    rw [hasNode_union, List.any_eq_true]
    exact ⟨x, hx, nodeLike_hasNode hn⟩
  | vtuple h => exact (elemShape_hasNode h :)
  | @tuple args hne h =>
    obtain ⟨a, ha⟩ := List.exists_mem_of_ne_nil args hne
    rw [hasNode_coll, List.any_eq_true]
    exact ⟨a, ha, elemShape_hasNode (h a ha)⟩
  | newtype _ ih => exact ih

/-- top level (`allow_sequence=True`), for annotations that mention a node: exactly the child shapes -/
theorem validChild_true_iff : ∀ t, (hasNode t = true ∧ validChild true t = true) ↔ ChildShape t := by
  intro t
  refine ⟨?_, fun h => ⟨childShape_hasNode h, ?_⟩⟩
  · induction t using Ty.induct with
    | hnode c => exact fun _ => .one (.node c)
    | hfwd c => exact fun _ => .one (.fwd c)
    | hnt t ih => exact fun h => .newtype (ih h)
    | hunion m ms _ =>
      rw [hasNode_union, List.any_eq_true, validChild_union_iff]
      rintro ⟨⟨x, hx, hn⟩, hall, _⟩
      refine .union hall ⟨x, hx, (hall x hx).resolve_left ?_⟩
      rintro rfl; cases hn
    | hvt t _ => exact fun h => .vtuple ((validChild_false_iff t).1 h.2)
    | hcoll k args _ =>
      rintro ⟨_, hv⟩
      obtain ⟨_, rfl, hne, h⟩ := (validChild_coll_iff _ _ _).1 hv
      exact .tuple hne fun a ha => (validChild_false_iff a).1 (h a ha)
    | _ => exact nofun
  · induction h with
    | one h => exact nodeLike_validChild h true
    | union hall _ => exact (validChild_union_iff true _ _).2 ⟨hall, nofun⟩
    | vtuple h => exact (validChild_false_iff _).2 h
    | tuple hne h =>
      exact (validChild_coll_iff _ _ _).2 ⟨rfl, rfl, hne, fun a ha => (validChild_false_iff a).2 (h a ha)⟩
    | newtype _ ih => exact ih

/-- `t'` answers every question the classifier puts to an annotation as `t` does.  (A member of a union is
also asked `isNone`, which `Same.union_map` requires separately.) -/
structure Same (t t' : Ty) : Prop where
  hn : hasNode t' = hasNode t
  vp : validProp t' = validProp t
  vc : ∀ b, validChild b t' = validChild b t
  nc : t'.unwrap.isNodeClass = t.unwrap.isNodeClass

theorem Same.refl (t : Ty) : Same t t := ⟨rfl, rfl, fun _ => rfl, rfl⟩

theorem Same.trans {a b c : Ty} (h1 : Same a b) (h2 : Same b c) : Same a c :=
  ⟨h2.hn.trans h1.hn, h2.vp.trans h1.vp, fun s => (h2.vc s).trans (h1.vc s), h2.nc.trans h1.nc⟩

/-- a NewType wrapper is invisible (it is not `None`, though: see `Same.union_map`) -/
theorem Same.unwrapped (t : Ty) : Same (.newtype t) t := ⟨rfl, rfl, fun _ => rfl, rfl⟩

theorem Same.newtype {t t' : Ty} (h : Same t t') : Same (.newtype t) (.newtype t') :=
  ⟨h.hn, h.vp, h.vc, h.nc⟩

theorem Same.vtuple {t t' : Ty} (h : Same t t') : Same (.vtuple t) (.vtuple t') :=
  ⟨h.hn, h.vp, fun b => congrArg (b && ·) (h.vc false), rfl⟩

theorem Same.union_map (F : Ty → Ty) {m : Ty} {ms : List Ty}
    (h : ∀ x ∈ m :: ms, Same x (F x) ∧ (F x).isNone = x.isNone) :
    Same (.union m ms) (.union (F m) (ms.map F)) where
  hn := by rw [hasNode_union, hasNode_union]; exact any_map_congr fun x hx => (h x hx).1.hn
  vp := by rw [validProp_union, validProp_union]; exact all_map_congr fun x hx => (h x hx).1.vp
  vc b := by
    have hi : ((m :: ms).map F).any isNone = (m :: ms).any isNone := any_map_congr fun x hx => (h x hx).2
    have ho : ((m :: ms).map F).all unionMemberOk = (m :: ms).all unionMemberOk :=
      all_map_congr fun x hx => by unfold unionMemberOk; rw [(h x hx).2, (h x hx).1.nc]
    rw [validChild_union, validChild_union, ← List.map_cons, hi, ho]
  nc := rfl

theorem Same.coll_map (F : Ty → Ty) {k : CollKind} {args : List Ty} (h : ∀ x ∈ args, Same x (F x)) :
    Same (.coll k args) (.coll k (args.map F)) where
  hn := by rw [hasNode_coll, hasNode_coll]; exact any_map_congr fun x hx => (h x hx).hn
  vp := by rw [validProp_coll, validProp_coll, all_map_congr fun x hx => (h x hx).vp]
  vc b := by
    rw [validChild_coll, validChild_coll, List.isEmpty_map, all_map_congr fun x hx => (h x hx).vc false]
  nc := rfl

theorem Same.classifyRaw_eq {t t' : Ty} (h : Same t t') : classifyRaw t' = classifyRaw t := by
  unfold classifyRaw
  rw [h.hn, h.vp, h.vc]

/-! ### NewType wrappers at the top: definition-time check and first-use check agree -/

/-- the verdict of the authoritative first-use classification (`process_node_fields` after
`get_field_types` unwrapped a top-level NewType) is the verdict of the definition-time check -/
theorem classify_eq_classifyRaw (t : Ty) : classify t = classifyRaw t := by
  induction t using Ty.induct with
  | hnt t ih => exact ih.trans (Same.unwrapped t).classifyRaw_eq.symm
  | _ => rfl

theorem Same.classify_eq {t t' : Ty} (h : Same t t') : classify t' = classify t := by
  rw [classify_eq_classifyRaw, classify_eq_classifyRaw, h.classifyRaw_eq]

theorem classify_newtype (t : Ty) : classify (.newtype t) = classify t := rfl

theorem classify_eq_child (t : Ty) : classify t = .child ↔ (hasNode t = true ∧ validChild true t = true) := by
  rw [classify_eq_classifyRaw]
  unfold classifyRaw
  cases hasNode t <;> cases validChild true t <;> cases validProp t <;> simp

theorem classify_eq_prop (t : Ty) : classify t = .prop ↔ (hasNode t = false ∧ validProp t = true) := by
  rw [classify_eq_classifyRaw]
  unfold classifyRaw
  cases hasNode t <;> cases validChild true t <;> cases validProp t <;> simp

theorem classify_child_iff (t : Ty) : classify t = .child ↔ ChildShape t :=
  (classify_eq_child t).trans (validChild_true_iff t)

theorem classify_prop_iff (t : Ty) :
    classify t = .prop ↔ (¬ MentionsNode t ∧ ¬ MentionsMutable t) := by
  rw [classify_eq_prop, ← hasNode_iff, ← validProp_iff, Bool.not_eq_true]

theorem classify_reject_iff (t : Ty) :
    classify t = .reject ↔ (¬ ChildShape t ∧ (MentionsNode t ∨ MentionsMutable t)) := by
  rw [← classify_child_iff, ← Classical.not_not (a := MentionsNode t ∨ MentionsMutable t), not_or,
    ← classify_prop_iff]
  cases classify t <;> simp

/-- the verdict the model computes is the documented one … -/
theorem classify_spec (t : Ty) : SpecVerdict t (classify t) := by
  cases h : classify t
  · exact .child ((classify_child_iff t).1 h)
  · exact .prop ((classify_prop_iff t).1 h).1 ((classify_prop_iff t).1 h).2
  · exact .reject ((classify_reject_iff t).1 h).1 ((classify_reject_iff t).1 h).2

/-- … and the documented verdict is unique: every annotation has exactly one -/
theorem specVerdict_unique (t : Ty) (v : Verdict) : SpecVerdict t v ↔ v = classify t := by
  constructor
  · intro h
    cases h with
    | child h => exact ((classify_child_iff t).2 h).symm
    | prop h1 h2 => exact ((classify_prop_iff t).2 ⟨h1, h2⟩).symm
    | reject h1 h2 => exact ((classify_reject_iff t).2 ⟨h1, h2⟩).symm
  · rintro rfl; exact classify_spec t

/-- child shapes and property shapes are disjoint: a child annotation mentions a node class -/
theorem childShape_mentionsNode {t : Ty} (h : ChildShape t) : MentionsNode t :=
  (hasNode_iff t).1 (childShape_hasNode h)

/-- a node class is never hidden inside a property -/
theorem prop_hides_no_node (t : Ty) (h : classify t = .prop) : ¬ MentionsNode t :=
  ((classify_prop_iff t).1 h).1

/-- some field of the class (own, inherited or overriding) has a rejected annotation -/
def rejects (ls : List Level) : Bool := (effective ls).any fun f => classify f.ty == .reject

theorem rejects_iff (ls : List Level) : rejects ls = true ↔ ∃ f ∈ effective ls, classify f.ty = .reject := by
  simp only [rejects, List.any_eq_true, beq_iff_eq]

theorem processNodeFields_eq (ls : List Level) :
    processNodeFields ls =
      if rejects ls then Option.none else some ((effective ls).map fun f => (f.name, classify f.ty)) := by
  simp only [processNodeFields, rejects, List.any_map]
  rfl

theorem defCheck_eq (ls : List Level) :
    defCheck ls =
      if ls.any (fun lvl => lvl.any fun f => f.ty.hasFwd) then .skipped
      else if rejects ls then .raised else .passed := by
  unfold defCheck rejects
  simp only [classify_eq_classifyRaw]

/-- whatever the definition-time check did (passed, skipped on unresolved forward references,
raised), what the user gets is the first-use classification -/
theorem classOutcome_eq (ls : List Level) : classOutcome ls = processNodeFields ls := by
  unfold classOutcome
  rw [defCheck_eq, processNodeFields_eq]
  cases ls.any (fun lvl => lvl.any fun f => f.ty.hasFwd) <;> cases rejects ls <;> rfl

theorem classOutcome_eq_none (ls : List Level) : classOutcome ls = Option.none ↔ rejects ls = true := by
  rw [classOutcome_eq, processNodeFields_eq]
  cases rejects ls <;> simp

theorem defCheck_skipped_iff (ls : List Level) :
    defCheck ls = .skipped ↔ ls.any (fun lvl => lvl.any fun f => f.ty.hasFwd) = true := by
  rw [defCheck_eq]
  cases ls.any (fun lvl => lvl.any fun f => f.ty.hasFwd) <;> cases rejects ls <;> simp

theorem defCheck_raised_iff (ls : List Level) :
    defCheck ls = .raised ↔
      (ls.any (fun lvl => lvl.any fun f => f.ty.hasFwd) = false ∧ classOutcome ls = Option.none) := by
  rw [defCheck_eq, classOutcome_eq_none]
  cases ls.any (fun lvl => lvl.any fun f => f.ty.hasFwd) <;> cases rejects ls <;> simp

/-- the definition-time check passes exactly for the accepted classes without unresolved forward references -/
theorem defCheck_passed_iff (ls : List Level) :
    defCheck ls = .passed ↔
      (ls.any (fun lvl => lvl.any fun f => f.ty.hasFwd) = false ∧ classOutcome ls ≠ Option.none) := by
  rw [defCheck_eq, Ne, classOutcome_eq_none]
  cases ls.any (fun lvl => lvl.any fun f => f.ty.hasFwd) <;> cases rejects ls <;> simp

/-- a rejection raised while the class is defined is never a false alarm: the authoritative
first-use classification rejects the class too -/
theorem defCheck_raised_sound (ls : List Level) (h : defCheck ls = .raised) :
    processNodeFields ls = Option.none :=
  (classOutcome_eq ls).symm.trans ((defCheck_raised_iff ls).1 h).2

/-- a class is rejected — no later than its first instantiation — exactly when one of its fields
(own, inherited or overriding) has a rejected annotation; unresolved forward references at
definition time change nothing -/
theorem classOutcome_none_iff (ls : List Level) :
    classOutcome ls = Option.none ↔ ∃ f ∈ effective ls, classify f.ty = .reject :=
  (classOutcome_eq_none ls).trans (rejects_iff ls)

/-- an accepted class: every field of the dataclass gets the verdict of its annotation, and that
verdict is child or property -/
theorem classOutcome_some (ls : List Level) (vs : List (Str × Verdict)) (h : classOutcome ls = some vs) :
    vs = (effective ls).map (fun f => (f.name, classify f.ty)) ∧
    ∀ p ∈ vs, p.2 = .child ∨ p.2 = .prop := by
  rw [classOutcome_eq, processNodeFields_eq] at h
  cases hr : rejects ls
  · rw [hr] at h
    cases h
    refine ⟨rfl, fun p hp => ?_⟩
    obtain ⟨f, hf, rfl⟩ := List.mem_map.1 hp
    have : classify f.ty ≠ .reject := fun hc => by
      rw [(rejects_iff ls).2 ⟨f, hf, hc⟩] at hr; cases hr
    revert this
    cases classify f.ty <;> simp
  · rw [hr] at h; cases h

theorem addField_names (acc : List Field) (f : Field) :
    (addField acc f).map (·.name) =
      if acc.any (·.name == f.name) then acc.map (·.name) else acc.map (·.name) ++ [f.name] := by
  unfold addField
  split
  · simp only [List.map_map]
    apply List.map_congr_left
    intro g _
    simp only [Function.comp]
    split
    · rename_i h; exact (beq_iff_eq.1 h).symm
    · rfl
  · simp

theorem addField_nodup (acc : List Field) (f : Field) (h : (acc.map (·.name)).Nodup) :
    ((addField acc f).map (·.name)).Nodup := by
  rw [addField_names]
  split
  · exact h
  · rename_i hn
    refine List.nodup_append.2 ⟨h, by simp, ?_⟩
    intro a ha b hb
    simp only [List.mem_singleton] at hb
    subst hb
    rintro rfl
    obtain ⟨g, hg, hga⟩ := List.mem_map.1 ha
    exact hn (List.any_eq_true.2 ⟨g, hg, by simp [hga]⟩)

theorem foldl_addField_nodup (lvl : List Field) (acc : List Field) (h : (acc.map (·.name)).Nodup) :
    ((lvl.foldl addField acc).map (·.name)).Nodup := by
  induction lvl generalizing acc with
  | nil => exact h
  | cons f r ih => exact ih _ (addField_nodup acc f h)

theorem effective_eq_foldl (ls : List Level) : effective ls = ls.flatten.foldl addField [] := by
  rw [effective, List.foldl_flatten]

/-- every dataclass field occurs once -/
theorem effective_nodup (ls : List Level) : ((effective ls).map (·.name)).Nodup := by
  rw [effective_eq_foldl]
  exact foldl_addField_nodup _ [] List.nodup_nil

/-- each dataclass field lands in exactly one class: an accepted class lists every field once,
with one verdict -/
theorem fields_partition (ls : List Level) (vs : List (Str × Verdict)) (h : classOutcome ls = some vs) :
    vs.map (·.1) = (effective ls).map (·.name) ∧ (vs.map (·.1)).Nodup := by
  have h1 := (classOutcome_some ls vs h).1
  have h2 : vs.map (·.1) = (effective ls).map (·.name) := by
    rw [h1, List.map_map]; rfl
  exact ⟨h2, h2 ▸ effective_nodup ls⟩

/-- type of the field named `n` -/
def lookup (fs : List Field) (n : Str) : Option Ty := (fs.find? (·.name == n)).map (·.ty)

/-- verdict of the field named `n` in the most derived class of the chain -/
def fieldVerdict (ls : List Level) (n : Str) : Option Verdict := (lookup (effective ls) n).map classify

/-- what the driver prints for a chain: entry `i` is the outcome of the class made of the first
`i + 1` levels (the list stops after the first rejected class) -/
theorem chainFrom_get (done : List Level) (lvls : List Level) (i : Nat)
    (r : Option (List (Str × Verdict))) (h : (chainFrom done lvls)[i]? = some r) :
    r = classOutcome (done ++ lvls.take (i + 1)) := by
  induction lvls generalizing done i with
  | nil => cases h
  | cons lvl rest ih =>
    unfold chainFrom at h
    cases i with
    | zero =>
      rw [List.take_succ_cons, List.take_zero]
      cases hc : classOutcome (done ++ [lvl]) <;> rw [hc] at h <;> exact (Option.some.inj h).symm
    | succ j =>
      cases hc : classOutcome (done ++ [lvl]) <;> rw [hc] at h
      · cases h
      · rw [List.take_succ_cons, List.append_cons]
        exact ih (done ++ [lvl]) j h

theorem chainOutcome_get (lvls : List Level) (i : Nat) (r : Option (List (Str × Verdict)))
    (h : (chainOutcome lvls)[i]? = some r) : r = classOutcome (lvls.take (i + 1)) := by
  simpa using chainFrom_get [] lvls i r h

/-! ### multiple inheritance: a class is the replay of the declarations along its reversed MRO -/

theorem effective_flatten (ls : List Level) : effective [ls.flatten] = effective ls := by
  rw [effective_eq_foldl, effective_eq_foldl, List.flatten_cons, List.flatten_nil, List.append_nil]

/-- `dataclasses` fills the field dict of a class by writing, for every class of the reversed MRO, its
resolved fields, then the own declarations; an override keeps its slot (`addField`).  Only the sequence
of writes matters, not how it is cut into classes: the harness sends a class with several bases as ONE
level holding the whole replay -/
theorem classOutcome_flatten (ls : List Level) : classOutcome [ls.flatten] = classOutcome ls := by
  rw [classOutcome_eq, classOutcome_eq, processNodeFields_eq, processNodeFields_eq, rejects, rejects,
    effective_flatten]

/-! ### rewritings of the annotations that keep every verdict (`mapLevels`, Spec/AnnotFwd.lean) -/

theorem addField_map (F : Field → Field) (hF : ∀ f, (F f).name = f.name) (acc : List Field) (f : Field) :
    addField (acc.map F) (F f) = (addField acc f).map F := by
  unfold addField
  have hany : (acc.map F).any (fun g => g.name == (F f).name) = acc.any (fun g => g.name == f.name) :=
    any_map_congr fun g _ => by rw [hF, hF]
  rw [hany]
  split
  · rw [List.map_map, List.map_map]
    apply List.map_congr_left
    intro g _
    simp only [Function.comp, hF]
    split <;> rfl
  · simp

theorem foldl_addField_map (F : Field → Field) (hF : ∀ f, (F f).name = f.name) (lvl acc : List Field) :
    (lvl.map F).foldl addField (acc.map F) = (lvl.foldl addField acc).map F := by
  induction lvl generalizing acc with
  | nil => rfl
  | cons f r ih => simp only [List.map_cons, List.foldl_cons, addField_map F hF, ih]

/-- `dataclasses.fields` commutes with any rewriting of the annotations that keeps the field names -/
theorem effective_map (F : Field → Field) (hF : ∀ f, (F f).name = f.name) (ls : List Level) :
    effective (ls.map fun lvl => lvl.map F) = (effective ls).map F := by
  rw [effective_eq_foldl, effective_eq_foldl, ← List.map_flatten]
  exact foldl_addField_map F hF ls.flatten []

theorem effective_mapLevels (F : Ty → Ty) (ls : List Level) :
    effective (mapLevels F ls) = (effective ls).map (mapField F) :=
  effective_map (mapField F) (fun _ => rfl) ls

/-- a verdict-preserving rewriting of the annotations of a class does not change what
`process_node_fields` makes of the class -/
theorem processNodeFields_mapLevels (F : Ty → Ty) (hF : ∀ t, classify (F t) = classify t) (ls : List Level) :
    processNodeFields (mapLevels F ls) = processNodeFields ls := by
  unfold processNodeFields
  simp only [effective_mapLevels, List.map_map]
  have : ((fun f : Field => (f.name, f.ty.classify)) ∘ mapField F) = fun f => (f.name, f.ty.classify) := by
    funext f; simp [mapField, hF]
  rw [this]

theorem classOutcome_mapLevels (F : Ty → Ty) (hF : ∀ t, classify (F t) = classify t) (ls : List Level) :
    classOutcome (mapLevels F ls) = classOutcome ls := by
  rw [classOutcome_eq, classOutcome_eq, processNodeFields_mapLevels F hF]

theorem mapLevels_append (F : Ty → Ty) (a b : List Level) :
    mapLevels F (a ++ b) = mapLevels F a ++ mapLevels F b := by
  simp [mapLevels]

theorem chainFrom_mapLevels (F : Ty → Ty) (hF : ∀ t, classify (F t) = classify t) (done ls : List Level) :
    chainFrom (mapLevels F done) (mapLevels F ls) = chainFrom done ls := by
  induction ls generalizing done with
  | nil => rfl
  | cons lvl r ih =>
    have e : mapLevels F (lvl :: r) = lvl.map (mapField F) :: mapLevels F r := rfl
    have e1 : mapLevels F done ++ [lvl.map (mapField F)] = mapLevels F (done ++ [lvl]) := by
      simp [mapLevels]
    rw [e]
    unfold chainFrom
    rw [e1, classOutcome_mapLevels F hF, ih]

-- `tuple[NT, ...]`, `NT | None`, `Optional[NT]` with `NT = NewType("NT", Leaf)` are child fields (F11)
example : classify (.vtuple (.newtype (.node 0))) = .child := by decide
example : classify (.union (.newtype (.node 0)) [.none]) = .child := by decide
example : ChildShape (.vtuple (.newtype (.node 0))) := (classify_child_iff _).1 (by decide)
-- `value: None` is a property (F10); so are `tuple[()]`, `Mapping[str, tuple[int, ...]]`
example : classify .none = .prop := by decide
example : classify (.coll .tuple []) = .prop := by decide
example : classify (.coll .mapping [.atom .str, .vtuple (.atom .int)]) = .prop := by decide
example : ¬ MentionsNode (.coll .mapping [.atom .str, .vtuple (.atom .int)]) :=
  prop_hides_no_node _ (by decide)
-- the rejected shapes the statement lists, in its order: mixed union, non-tuple container, mutable container,
-- optional inside a tuple, nested tuple, optional tuple (at any depth: Props/C11Shapes.lean)
example : classify (.union (.node 0) [.atom .int]) = .reject := by decide
example : classify (.coll .sequence [.node 0]) = .reject := by decide
example : classify (.coll .list [.node 0]) = .reject := by decide
example : classify (.vtuple (.union (.node 0) [.none])) = .reject := by decide
example : classify (.vtuple (.vtuple (.node 0))) = .reject := by decide
example : classify (.union (.vtuple (.node 0)) [.none]) = .reject := by decide
example : classify (.coll .mapping [.atom .str, .coll .list [.atom .int]]) = .reject := by decide
example : ntBaseOk (.vtuple (.newtype (.newtype (.node 1)))) = true ∧
    classify (erase (.vtuple (.newtype (.newtype (.node 1))))) = .child := by decide
-- a base class with a forward reference and a bad field is only caught at first use …
example : defCheck [[⟨['x'], .coll .list [.fwd 0]⟩]] = .skipped ∧
    classOutcome [[⟨['x'], .coll .list [.fwd 0]⟩]] = Option.none := by decide
-- … the same field without the forward reference is caught at definition time …
example : defCheck [[⟨['x'], .coll .list [.node 0]⟩]] = .raised := by decide
-- … and a subclass that overrides the bad field with a good one is accepted
example : classOutcome [[⟨['x'], .coll .list [.fwd 0]⟩, ⟨['y'], .atom .int⟩], [⟨['x'], .fwd 0⟩]] =
    some [(['x'], .child), (['y'], .prop)] := by decide
example : fieldVerdict [[⟨['x'], .atom .int⟩], [⟨['y'], .node 0⟩]] ['x'] = some .prop := by decide
-- `class D(B1, B2): pass` with `B1.x: int`, `B2.y: Leaf`, `B2.x: str`: replay B2, B1 (reversed MRO)
example : classOutcome [[⟨['y'], .node 0⟩, ⟨['x'], .atom .str⟩, ⟨['x'], .atom .int⟩]] =
    some [(['y'], .child), (['x'], .prop)] := by decide
example : chainOutcome [[⟨['x'], .atom .int⟩], [⟨['x'], .coll .set []⟩], [⟨['z'], .none⟩]] =
    [some [(['x'], .prop)], Option.none] := by decide

end C11
end PyOak
