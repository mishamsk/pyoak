/-
C06 — foreign nodes, uniqueness of THE parent chain, `is_root` (cf. AUDIT.md item #9).

  * `*_foreign`   EVERY query of `Tree` whose node argument is outside the tree raises KeyError:
                  `get_parent_info` (`C06.parentInfo_foreign`), `get_xpath`, `get_parent`, `get_ancestors`, `is_ancestor` (any second argument),
                  `get_depth` (any `relative_to`, both `check_ancestor`), `get_first_ancestor_of_type`;
                  and `in` answers False.  `getXpath_keyError_iff`, `parentInfo_keyError_iff`: conversely
                  a member never gets one.
  * `chain_unique` under `NoRepeat` a node has exactly ONE root-first chain (members AND edges),
                  so the `*_chain` theorems of C06.lean (each conditional on a GIVEN chain) describe
                  well-defined values; `queries_total` packs existence + uniqueness + all the
                  chain-based answers for every `n ∈ allNodes root`.
  * `isRoot_chain` `is_root(n)` ⇔ the chain of `n` has no proper ancestors; `parentInfo_none_iff`
                  `get_parent_info(n) == (None, None, None)` ⇔ `is_root(n)` (no hypothesis).
-/
import PyOak.Props.C06
namespace PyOak
namespace C06

section Foreign
variable (root : Node)

/-- `n` is not an object of the tree -/
def Foreign (n : Node) : Prop := ∀ m ∈ allNodes root, m.uid ≠ n.uid

theorem isInTree_false_iff (n : Node) : (TreeT.build root).isInTree n = false ↔ Foreign root n := by
  rw [← Bool.not_eq_true, isInTree_iff]
  exact ⟨fun h m hm e => h ⟨m, hm, e⟩, fun h ⟨m, hm, e⟩ => h m hm e⟩

theorem isInTree_foreign (n : Node) (hn : Foreign root n) : (TreeT.build root).isInTree n = false :=
  (isInTree_false_iff root n).mpr hn

theorem isRoot_foreign (n : Node) (hn : Foreign root n) : (TreeT.build root).isRoot n = false := by
  have hne : root.uid ≠ n.uid := hn root (by simp [allNodes])
  simp [TreeT.isRoot, build_root, hne]

theorem getXpath_error_iff (t : TreeT) (n : Node) : t.getXpath n = .error .keyError ↔ t.isInTree n = false := by
  unfold TreeT.getXpath TreeT.isInTree
  rw [any_key_eq]
  cases dictGet? t.xpath n.uid <;> simp

/-- KeyError EXACTLY for foreign nodes (`get_xpath`; no `NoRepeat` needed): a member always gets a path -/
theorem getXpath_keyError_iff (n : Node) :
    (TreeT.build root).getXpath n = .error .keyError ↔ Foreign root n :=
  (getXpath_error_iff _ n).trans (isInTree_false_iff root n)

theorem getXpath_foreign (n : Node) (hn : Foreign root n) :
    (TreeT.build root).getXpath n = .error .keyError :=
  (getXpath_keyError_iff root n).mpr hn

theorem parentInfo_keyError_iff (n : Node) :
    (TreeT.build root).getParentInfo n = .error .keyError ↔ Foreign root n :=
  parentInfo_keyError root n

theorem getParent_foreign (n : Node) (hn : Foreign root n) :
    (TreeT.build root).getParent n = .error .keyError := by
  simp [TreeT.getParent, parentInfo_foreign root n hn, Except.map]

theorem build_size_pos : 0 < (TreeT.build root).root.size := by
  rw [build_root]
  exact root.size_pos

/-- `tree.get_ancestors(foreign)` raises KeyError (on the first `next`) -/
theorem getAncestors_foreign (n : Node) (hn : Foreign root n) :
    (TreeT.build root).getAncestors n = .error .keyError :=
  ancestorsAux_error (getParent_foreign root n hn) (build_size_pos root)

theorem isAncestor_foreign (n a : Node) (hn : Foreign root n) :
    (TreeT.build root).isAncestor n a = .error .keyError := by
  simp [TreeT.isAncestor, getAncestors_foreign root n hn, Except.map]

/-- `tree.get_depth(foreign, relative_to, check_ancestor)` raises KeyError for every
`relative_to` (None, a member, a foreign node) and both values of `check_ancestor` -/
theorem getDepth_foreign (n : Node) (rel : Option Node) (chk : Bool) (hn : Foreign root n) :
    (TreeT.build root).getDepth n rel chk = .error .keyError := by
  have hd : (TreeT.build root).depthAux rel (TreeT.build root).root.size n = .error .keyError :=
    depthAux_error (getParent_foreign root n hn) rel (build_size_pos root)
  cases rel with
  | none => simp [TreeT.getDepth, hd]
  | some r => cases chk <;> simp [TreeT.getDepth, hd, isAncestor_foreign root n r hn]

theorem firstAncestorOfType_foreign (n : Node) (classes : List Str) (exact : Bool) (hn : Foreign root n) :
    (TreeT.build root).firstAncestorOfType n classes exact = .error .keyError := by
  simp [TreeT.firstAncestorOfType, getAncestors_foreign root n hn, Except.map]

theorem foreign_all_keyError (n : Node) (hn : Foreign root n) :
    (TreeT.build root).isInTree n = false ∧
    (TreeT.build root).getParentInfo n = .error .keyError ∧
    (TreeT.build root).getParent n = .error .keyError ∧
    (TreeT.build root).getXpath n = .error .keyError ∧
    (TreeT.build root).getAncestors n = .error .keyError ∧
    (∀ a, (TreeT.build root).isAncestor n a = .error .keyError) ∧
    (∀ rel chk, (TreeT.build root).getDepth n rel chk = .error .keyError) ∧
    (∀ cs ex, (TreeT.build root).firstAncestorOfType n cs ex = .error .keyError) :=
  ⟨isInTree_foreign root n hn, parentInfo_foreign root n hn, getParent_foreign root n hn,
    getXpath_foreign root n hn, getAncestors_foreign root n hn,
    fun a => isAncestor_foreign root n a hn, fun rel chk => getDepth_foreign root n rel chk hn,
    fun cs ex => firstAncestorOfType_foreign root n cs ex hn⟩

end Foreign

section Unique
variable (root : Node)

/-- **the** parent chain: under `NoRepeat` a node has at most one root-first chain — the same
members, stored under the same edges (field and index) -/
theorem chain_unique (h : NoRepeat root) :
    ∀ (c1 : Chain) (n : Node) (o1 : Option Edge), IsChain root (c1 ++ [(n, o1)]) →
    ∀ (c2 : Chain) (o2 : Option Edge), IsChain root (c2 ++ [(n, o2)]) → c1 = c2 ∧ o1 = o2 := by
  apply chain_rec
  · intro c2 o2 h2
    rcases chain_inv root c2 root o2 h2 with ⟨a, _, b⟩ | ⟨c', p, pe, e, rfl, rfl, h3, h4⟩
    · exact ⟨a.symm, b.symm⟩
    · have := parentInfo_chain root h c' p pe root e h2
      rw [parentInfo_root] at this
      cases this
  · intro c p pe n e h1 hm ih c2 o2 h2
    have hc := IsChain.snoc c p pe n e h1 hm
    have q1 := parentInfo_chain root h c p pe n e hc
    rcases chain_inv root c2 n o2 h2 with ⟨_, rfl, _⟩ | ⟨c', p', pe', e', rfl, rfl, h3, h4⟩
    · rw [parentInfo_root] at q1; cases q1
    · have q2 := parentInfo_chain root h c' p' pe' n e' h2
      rw [q1] at q2
      injection q2 with q2
      injection q2 with q2
      injection q2 with qa qb
      subst qa; subst qb
      obtain ⟨r1, r2⟩ := ih c' pe' h3
      subst r1; subst r2
      exact ⟨rfl, rfl⟩

theorem chain_unique_uid (h : NoRepeat root) (c1 c2 : Chain) (n1 n2 : Node) (o1 o2 : Option Edge)
    (h1 : IsChain root (c1 ++ [(n1, o1)])) (h2 : IsChain root (c2 ++ [(n2, o2)]))
    (e : n1.uid = n2.uid) : c1 = c2 ∧ n1 = n2 ∧ o1 = o2 := by
  have m1 := chain_mem root _ h1 (n1, o1) (by simp)
  have m2 := chain_mem root _ h2 (n2, o2) (by simp)
  have := uid_inj root h _ _ m1 m2 e
  subst this
  obtain ⟨a, b⟩ := chain_unique root h c1 n1 o1 h1 c2 o2 h2
  exact ⟨a, rfl, b⟩

theorem exists_unique_chain (h : NoRepeat root) (n : Node) (hn : n ∈ allNodes root) :
    ∃ c oe, IsChain root (c ++ [(n, oe)]) ∧
      ∀ c' oe', IsChain root (c' ++ [(n, oe')]) → c' = c ∧ oe' = oe := by
  obtain ⟨c, oe, hc⟩ := exists_chain root n hn
  exact ⟨c, oe, hc, fun c' oe' hc' => chain_unique root h c' n oe' hc' c oe hc⟩

theorem isRoot_iff (n : Node) : (TreeT.build root).isRoot n = true ↔ root.uid = n.uid := by
  simp [TreeT.isRoot, build_root]

/-- `is_root` agrees with the downward structure: a chain member is the root iff it has no
proper ancestors (its chain is the one-element chain) -/
theorem isRoot_chain (h : NoRepeat root) (c : Chain) (n : Node) (oe : Option Edge)
    (hc : IsChain root (c ++ [(n, oe)])) : (TreeT.build root).isRoot n = true ↔ c = [] := by
  rw [isRoot_iff]
  constructor
  · intro e
    exact ((chain_unique_uid root h [] c root n none oe IsChain.root hc e).1).symm
  · rintro rfl
    rcases chain_inv root [] n oe hc with ⟨-, rfl, -⟩ | ⟨c', p, pe, e, h1, -⟩
    · rfl
    · simp at h1

/-- a chain member is the root iff it is stored nowhere: `oe = none` -/
theorem isRoot_chain_edge (h : NoRepeat root) (c : Chain) (n : Node) (oe : Option Edge)
    (hc : IsChain root (c ++ [(n, oe)])) : (TreeT.build root).isRoot n = true ↔ oe = none := by
  rw [isRoot_chain root h c n oe hc]
  rcases chain_inv root c n oe hc with ⟨a, -, b⟩ | ⟨c', p, pe, e, rfl, rfl, -, -⟩
  · simp [a, b]
  · simp

/-- `get_parent_info(n) == (None, None, None)` ⇔ `is_root(n)` — for every node, member or not -/
theorem parentInfo_none_iff (n : Node) :
    (TreeT.build root).getParentInfo n = .ok none ↔ (TreeT.build root).isRoot n = true := by
  unfold TreeT.getParentInfo
  by_cases hr : (TreeT.build root).isRoot n = true
  · simp [hr]
  · simp only [hr, Bool.false_eq_true, if_false, iff_false]
    cases dictGet? (TreeT.build root).pinfo n.uid <;> simp

/-- totality: for EVERY node of a `NoRepeat` tree there is exactly one chain and every upward
query answers with it: parent info = the last link, ancestors = the chain reversed, depth = its
length, xpath = its spelling, `is_root` ⇔ it is empty, `is_ancestor(n, a)` ⇔ `a` is on it -/
theorem queries_total (h : NoRepeat root) (n : Node) (hn : n ∈ allNodes root) :
    ∃ c oe, IsChain root (c ++ [(n, oe)]) ∧
      (∀ c' oe', IsChain root (c' ++ [(n, oe')]) → c' = c ∧ oe' = oe) ∧
      (TreeT.build root).isInTree n = true ∧
      ((TreeT.build root).isRoot n = true ↔ c = []) ∧
      (TreeT.build root).getParentInfo n =
        .ok (match c.getLast?, oe with | some (p, _), some e => some ⟨p, e⟩ | _, _ => none) ∧
      (TreeT.build root).getAncestors n = .ok (c.reverse.map (·.1)) ∧
      (∀ a, (TreeT.build root).isAncestor n a = .ok (c.any (·.1.uid == a.uid))) ∧
      (∀ chk, (TreeT.build root).getDepth n none chk = .ok c.length) ∧
      (TreeT.build root).getXpath n = .ok (spellChain (c ++ [(n, oe)])) := by
  obtain ⟨c, oe, hc, hu⟩ := exists_unique_chain root h n hn
  refine ⟨c, oe, hc, hu, (isInTree_iff root n).mpr ⟨n, hn, rfl⟩, isRoot_chain root h c n oe hc, ?_,
    ancestors_chain root h c n oe hc, fun a => isAncestor_chain root h c n a oe hc,
    fun chk => depth_chain root h c n oe hc chk, xpath_chain root h c n oe hc⟩
  rcases chain_inv root c n oe hc with ⟨rfl, rfl, rfl⟩ | ⟨c', p, pe, e, rfl, rfl, -, -⟩
  · simpa using parentInfo_root _
  · simpa using parentInfo_chain root h c' p pe n e hc

end Unique

/-! A concrete tree with a foreign node, a twin and a chain (used again in C06Follow and GenBridgeTree). -/

namespace DemoT

def leaf (u : Nat) : Node :=
  .mk { uid := u, cls := ['L'], mro := [['L'], ['N']], org := ⟨0, []⟩, props := [], truthy := true } []
def mid : Node :=
  .mk { uid := 2, cls := ['M'], mro := [['M'], ['N']], org := ⟨0, []⟩, props := [], truthy := false }
    [.mk ['x'] false [leaf 3]]
def tree : Node :=
  .mk { uid := 0, cls := ['R'], mro := [['R'], ['N']], org := ⟨0, []⟩, props := [], truthy := true }
    [.mk ['a'] true [leaf 1, mid], .mk ['b'] false [leaf 4]]

def errOf {α : Type} : Except TErr α → Option TErr | .ok _ => none | .error e => some e

theorem noRepeat_tree : NoRepeat tree := by unfold NoRepeat; decide
/-- `leaf 9` is foreign; so is a content-identical twin of a member (`leaf 3` rebuilt as another
object, uid 7): identity, not content, decides -/
theorem foreign9 : Foreign tree (leaf 9) := by unfold Foreign; decide
theorem foreign_twin : Foreign tree (leaf 7) := by unfold Foreign; decide

example : errOf ((TreeT.build tree).getXpath (leaf 9)) = some .keyError := by decide
example : errOf ((TreeT.build tree).getDepth (leaf 9) (some mid) true) = some .keyError := by decide
example : errOf ((TreeT.build tree).getDepth (leaf 7) (some (leaf 9)) false) = some .keyError := by decide
example : errOf ((TreeT.build tree).firstAncestorOfType (leaf 7) [['R']] true) = some .keyError := by decide
example : (TreeT.build tree).isAncestor (leaf 9) tree = .error .keyError :=
  isAncestor_foreign tree (leaf 9) tree foreign9
-- a foreign SECOND argument is no error (only the first argument is looked up)
example : errOf ((TreeT.build tree).isAncestor (leaf 3) (leaf 9)) = none := by decide

theorem chain3 : IsChain tree ([(tree, none), (mid, some ⟨['a'], some 1⟩)] ++ [(leaf 3, some ⟨['x'], none⟩)]) :=
  IsChain.snoc [(tree, none)] mid _ (leaf 3) _
    (IsChain.snoc [] tree none mid _ IsChain.root (List.Mem.tail _ (List.Mem.head _))) (List.Mem.head _)
example : ∀ c' oe', IsChain tree (c' ++ [(leaf 3, oe')]) →
    c' = [(tree, none), (mid, some ⟨['a'], some 1⟩)] ∧ oe' = some ⟨['x'], none⟩ :=
  fun c' oe' hc' => chain_unique tree noRepeat_tree c' _ oe' hc' _ _ chain3
example : (TreeT.build tree).isRoot (leaf 3) = false ∧ (TreeT.build tree).isRoot tree = true := by decide

/-- `NoRepeat` is needed in `chain_unique`: a shared object has two chains -/
def shared : Node :=
  .mk { uid := 0, cls := ['R'], mro := [['R'], ['N']], org := ⟨0, []⟩, props := [], truthy := true }
    [.mk ['a'] true [leaf 1, leaf 1]]
theorem chain_unique_needs_noRepeat :
    IsChain shared ([(shared, none)] ++ [(leaf 1, some ⟨['a'], some 0⟩)]) ∧
    IsChain shared ([(shared, none)] ++ [(leaf 1, some ⟨['a'], some 1⟩)]) :=
  ⟨IsChain.snoc [] _ _ _ _ IsChain.root (List.Mem.head _),
   IsChain.snoc [] _ _ _ _ IsChain.root (List.Mem.tail _ (List.Mem.head _))⟩

end DemoT

end C06
end PyOak
